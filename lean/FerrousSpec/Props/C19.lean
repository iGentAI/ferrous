/-
  C19 — a full SCAN / HSCAN / SSCAN / ZSCAN iteration returns every element present throughout it.

  Property theorems only; helper lemmas live in FerrousSpec/Proofs/Scan*.lean.
  Model: FerrousSpec/Model/Scan.lean (transliteration of src/storage/engine.rs:2165-2447,
  2626-2711 and src/storage/commands/scan.rs).
  Tie to the code: `Gen.scanCfg` (the constants 10 / 1000 / ×10) and `Gen.scanCursorIsRank` are
  regenerated from engine.rs on every run, and the harness executes `Code.scan`, `Code.sscan`,
  `Code.hscan`, `Code.zscan`, `Code.matchBytes`, `Code.parseOpts` and the real
  `StorageEngine::{scan,hscan,sscan,zscan}` / `handle_*scan` on the same call sequences.

  Vocabulary.  A *history* lists, call by call, the key space the call sees (a `Db`: keys with
  their types, no key twice); between two calls anything may be added or deleted.  `view ty db` is
  the list the cursor indexes: the keys of the requested TYPE, sorted byte-wise.  The iteration
  starts at cursor 0 and stops at the first returned 0 (`Code.iter`, `Code.iterFinishes`).
-/
import FerrousSpec.Proofs.ScanSlot
import FerrousSpec.Proofs.ScanGlob
import FerrousSpec.Gen.ScanConsts
namespace Ferrous.C19
open Ferrous Ferrous.Scan

/-- The constants the translator reads from engine.rs are usable loop bounds (all ≥ 1). Stops
    checking if e.g. the examined-keys budget becomes 0. -/
theorem tree_scan_cfg_ok : Gen.scanCfg.ok := by decide

/-- The translator recognises exactly one cursor scheme in all four scan functions: the rank
    (`cursor as usize` … `current_pos as u64`) or the slot (`partition_point(scan_slot < cursor)` …
    `scan_slot(next)`, FNV-1a `>> 11`).  Stops checking when the functions disagree or use neither. -/
theorem tree_cursor_scheme_recognised : Gen.scanCursorIsRank = !Gen.scanCfg.slotCursor := by decide

/-- The current tree uses the SLOT cursor (since 7022e03), so `scan_complete` (full strength, no exclusion)
    describes it; the rank theorems and witnesses (`scan_complete_partial`, `scan_complete_fails`) describe
    the tree before that commit (`rankCfg`).  Finding C19-cursor-is-rank is closed. -/
theorem tree_cursor_is_slot : Gen.scanCfg.slotCursor = true := by decide

/-- The constants of the tree with either cursor scheme (the witnesses below name the scheme they
    are about, so they keep checking when the tree changes scheme). -/
abbrev rankCfg : Cfg := { Gen.scanCfg with slotCursor := false }
abbrev slotCfg : Cfg := { Gen.scanCfg with slotCursor := true }

/-- `StorageEngine::scan` is the rank walk over the view sorted by name, or the slot walk over the
    view sorted by (slot, name). -/
theorem scan_is_walk (g : Cfg) (db : Db) (cursor count : Nat) (pat ty : Option Bytes) :
    (g.slotCursor = false →
      Code.scan g db cursor count pat ty = Code.scanSorted g (Code.matchOpt g.lossy pat) (view ty db) cursor count) ∧
    (g.slotCursor = true →
      Code.scan g db cursor count pat ty =
        Code.scanSlots g scanSlot (Code.matchOpt g.lossy pat) (viewSlot ty db) cursor count) := by
  constructor <;> intro hh <;> simp [Code.scan, hh]

/-- Every key a SCAN call returns exists at that call, has the requested TYPE and passes MATCH
    (as the engine's matcher decides it) — for every database, cursor, COUNT, pattern and type. -/
theorem scan_sound (g : Cfg) (hg : g.ok) (db : Db) (cursor count : Nat) (pat ty : Option Bytes) (k : Bytes)
    (hk : k ∈ (Code.scan g db cursor count pat ty).2) :
    (∃ t, (k, t) ∈ db ∧ typeOk ty t = true) ∧ Code.matchOpt g.lossy pat k = true := by
  rcases scan_eq g db cursor count pat ty with h | h <;> rw [h] at hk
  · have := scanSorted_mem g _ hg _ cursor count k hk
    exact ⟨(mem_view ty db k).mp this.1, this.2⟩
  · have := scanSlots_mem g scanSlot _ hg _ (sorted_viewSlot ty db) cursor count k hk
    exact ⟨(mem_viewSlot ty db k).mp this.1, this.2⟩

/-- Rank cursor: one call never returns more than `min(COUNT, 1000)` keys (COUNT 0 meaning 10). -/
theorem scan_batch_bounded (g : Cfg) (hr : g.slotCursor = false) (db : Db) (cursor count : Nat) (pat ty : Option Bytes) :
    (Code.scan g db cursor count pat ty).2.length ≤ Code.normCount g count := by
  rw [(scan_is_walk g db cursor count pat ty).1 hr]
  exact scanSorted_length g (Code.matchOpt g.lossy pat) (view ty db) cursor count

/-- Slot cursor: at most `min(COUNT, 1000)` keys plus one group of keys with equal slots (a page
    never ends inside such a group) … -/
theorem scan_batch_bounded_slot (g : Cfg) (hs : g.slotCursor = true) (db : Db) (cursor count : Nat) (pat ty : Option Bytes) :
    ∃ S, (Code.scan g db cursor count pat ty).2.length ≤
      Code.normCount g count + ((viewSlot ty db).filter (fun k => decide (S = some (scanSlot k)))).length := by
  rw [(scan_is_walk g db cursor count pat ty).2 hs]
  exact scanSlots_length g scanSlot (Code.matchOpt g.lossy pat) (viewSlot ty db) cursor count

/-- … that is `min(COUNT, 1000) + 1` when no two candidate keys share a slot. -/
theorem scan_batch_bounded_slot_nocollision (g : Cfg) (hs : g.slotCursor = true) (db : Db) (cursor count : Nat)
    (pat ty : Option Bytes) (hinj : (viewSlot ty db).Pairwise (fun a b => scanSlot a ≠ scanSlot b)) :
    (Code.scan g db cursor count pat ty).2.length ≤ Code.normCount g count + 1 := by
  obtain ⟨S, hS⟩ := scan_batch_bounded_slot g hs db cursor count pat ty
  have := cntSlot_le_one scanSlot S (viewSlot ty db) hinj
  unfold cntSlot at this
  omega

/-- With an unchanged key space the returned cursor is 0 (iteration over) or strictly larger
    than the one passed in — with either cursor scheme, whatever MATCH filters away. -/
theorem scan_progress (g : Cfg) (hg : g.ok) (db : Db) (cursor count : Nat) (pat ty : Option Bytes) :
    (Code.scan g db cursor count pat ty).1 = 0 ∨ cursor < (Code.scan g db cursor count pat ty).1 := by
  rcases scan_eq g db cursor count pat ty with h | h <;> rw [h]
  · exact (scanSorted_progress g _ hg _ cursor count).imp_right And.left
  · exact scanSlots_progress g scanSlot _ hg _ (sorted_viewSlot ty db) cursor count

/-- **Termination bound.**  If the candidate list never grows from one call to the next
    (deletions allowed), a full iteration started at cursor 0 over `n` candidate keys ends after
    at most `n / min(COUNT,1000) + 1` calls — provided the history is at least that long, i.e. the
    client keeps calling. -/
theorem scan_terminates_nongrowing (g : Cfg) (hg : g.ok) (count : Nat) (pat : Option Bytes)
    (ks : List Bytes) (rest : List (List Bytes)) (hng : NonGrowing (ks :: rest))
    (hlen : ks.length / Code.normCount g count + 1 ≤ (ks :: rest).length) :
    ∃ n, Code.iterCalls g (Code.matchOpt g.lossy pat) count 0 (ks :: rest) = some n ∧
      1 ≤ n ∧ n ≤ ks.length / Code.normCount g count + 1 := by
  simpa using iterCalls_bound g (Code.matchOpt g.lossy pat) hg count rest ks 0 hng hlen

/-- The same for a key space that does not change at all: the iteration over a database whose
    view has `n` keys makes at most `n / min(COUNT,1000) + 1` calls. -/
theorem scan_terminates (g : Cfg) (hg : g.ok) (db : Db) (count : Nat) (pat ty : Option Bytes) :
    ∃ n, Code.iterCalls g (Code.matchOpt g.lossy pat) count 0
        (List.replicate ((view ty db).length / Code.normCount g count + 1) (view ty db)) = some n ∧
      1 ≤ n ∧ n ≤ (view ty db).length / Code.normCount g count + 1 := by
  exact scan_terminates_nongrowing g hg count pat (view ty db) _ (nonGrowing_replicate _ _) (by simp)

/-- **Termination bound, slot cursor.**  If from one call to the next no slot range gains keys
    (nothing is added; deletions allowed), a full iteration over `n` candidate keys ends after at
    most `n / min(COUNT,1000) + 1` calls. -/
theorem scan_terminates_slot_nogrowth (g : Cfg) (hg : g.ok) (count : Nat) (pat : Option Bytes)
    (ks : List Bytes) (rest : List (List Bytes)) (hsort : ∀ l ∈ ks :: rest, SortedS scanSlot l)
    (hng : NoGrowthS scanSlot (ks :: rest))
    (hlen : ks.length / Code.normCount g count + 1 ≤ (ks :: rest).length) :
    ∃ n, Code.iterSCalls g scanSlot (Code.matchOpt g.lossy pat) count 0 (ks :: rest) = some n ∧
      1 ≤ n ∧ n ≤ ks.length / Code.normCount g count + 1 := by
  have hcnt : cntGe scanSlot 0 ks = ks.length := by rw [cntGe, fromSlot_zero]
  rw [← hcnt] at hlen ⊢
  exact iterSCalls_bound g scanSlot (Code.matchOpt g.lossy pat) hg count rest ks 0 hsort hng hlen

/-- The same for a key space that does not change at all. -/
theorem scan_terminates_slot (g : Cfg) (hg : g.ok) (db : Db) (count : Nat) (pat ty : Option Bytes) :
    ∃ n, Code.iterSCalls g scanSlot (Code.matchOpt g.lossy pat) count 0
        (List.replicate ((viewSlot ty db).length / Code.normCount g count + 1) (viewSlot ty db)) = some n ∧
      1 ≤ n ∧ n ≤ (viewSlot ty db).length / Code.normCount g count + 1 := by
  exact scan_terminates_slot_nogrowth g hg count pat (viewSlot ty db) _
    (fun l hl => List.eq_of_mem_replicate (n := _ + 1) hl ▸ sorted_viewSlot ty db)
    (noGrowthS_replicate scanSlot _ _) (by simp)

/-- **The full statement, for the slot cursor.**  Take any history of databases — anything may be
    added or deleted between two calls — any COUNT, MATCH and TYPE, and a full iteration over it
    (cursor 0 until 0 comes back).  Every key that has the requested type in every database of the
    history and passes MATCH is returned by at least one call.  No exclusion. -/
theorem scan_complete (g : Cfg) (hg : g.ok) (count : Nat) (pat ty : Option Bytes) (hist : List Db)
    (hfin : Code.iterSFinishes g scanSlot (Code.matchOpt g.lossy pat) count 0 (hist.map (viewSlot ty)) = true)
    (k : Bytes) (hk : ∀ db ∈ hist, ∃ t, (k, t) ∈ db ∧ typeOk ty t = true)
    (hm : Code.matchOpt g.lossy pat k = true) :
    k ∈ (Code.iterS g scanSlot (Code.matchOpt g.lossy pat) count 0 (hist.map (viewSlot ty))).flatten :=
  iterS_complete g scanSlot _ hg count k hm _ 0 (List.forall_mem_map.mpr fun db _ => sorted_viewSlot ty db)
    (List.forall_mem_map.mpr fun db hdb => (mem_viewSlot ty db k).mpr (hk db hdb)) hfin (Nat.zero_le _)

/-- …and it returns no key twice: the keys of a batch have their slots in `[cursor, next)`, and
    the cursor of every later call is at least `next`. -/
theorem scan_batch_slots (g : Cfg) (hg : g.ok) (hs : g.slotCursor = true) (db : Db) (cursor count : Nat)
    (pat ty : Option Bytes) (k : Bytes) (hk : k ∈ (Code.scan g db cursor count pat ty).2) :
    cursor ≤ scanSlot k ∧
      ((Code.scan g db cursor count pat ty).1 ≠ 0 → scanSlot k < (Code.scan g db cursor count pat ty).1) := by
  rw [(scan_is_walk g db cursor count pat ty).2 hs] at hk ⊢
  exact scanSlots_batch_slots g scanSlot (Code.matchOpt g.lossy pat) hg (viewSlot ty db) (sorted_viewSlot ty db) cursor count k hk

/-- The history that defeats the rank cursor (keys `a b c`, COUNT 1, `a` deleted after the first
    call), walked with the slot cursor (slot order `a c b`): three calls return `a`, `c`, `b`. -/
theorem scan_complete_slot_on_rank_witness :
    Code.iterSFinishes slotCfg scanSlot (Code.matchOpt false none) 1 0
      ([[([97], 0), ([98], 0), ([99], 0)], [([98], 0), ([99], 0)], [([98], 0), ([99], 0)]].map (viewSlot none)) = true ∧
    Code.iterS slotCfg scanSlot (Code.matchOpt false none) 1 0
      ([[([97], 0), ([98], 0), ([99], 0)], [([98], 0), ([99], 0)], [([98], 0), ([99], 0)]].map (viewSlot none)) =
        [[[97]], [[99]], [[98]]] := by
  decide

/-- **What the rank cursor guarantees.**  Take any history of databases, any COUNT, MATCH and
    TYPE, and a full iteration over it.  If between two successive calls no key that ranks below
    the cursor handed out by the first of them disappears from the view (`Code.noDelBelow`;
    additions anywhere and deletions at or after the cursor are allowed), then every key that
    has the requested type in every database of the history and passes MATCH is returned by at
    least one call. -/
theorem scan_complete_partial (g : Cfg) (hg : g.ok) (count : Nat) (pat ty : Option Bytes) (hist : List Db)
    (hnd : ∀ db ∈ hist, (db.map (·.1)).Nodup)
    (hfin : Code.iterFinishes g (Code.matchOpt g.lossy pat) count 0 (hist.map (view ty)) = true)
    (hsafe : Code.noDelBelow g (Code.matchOpt g.lossy pat) count 0 (hist.map (view ty)) = true)
    (k : Bytes) (hk : ∀ db ∈ hist, ∃ t, (k, t) ∈ db ∧ typeOk ty t = true)
    (hm : Code.matchOpt g.lossy pat k = true) :
    k ∈ (Code.iter g (Code.matchOpt g.lossy pat) count 0 (hist.map (view ty))).flatten := by
  have hall : ∀ ks ∈ hist.map (view ty), k ∈ ks :=
    List.forall_mem_map.mpr fun db hdb => (mem_view ty db k).mpr (hk db hdb)
  exact iter_complete g _ hg count k hm _ 0 (List.forall_mem_map.mpr fun db hdb => sorted_view ty db (hnd db hdb))
    hall hfin hsafe fun ks hks => hall ks (List.mem_of_mem_head? hks)

/-- **Additions never cause a miss, only duplicates.**  If nothing disappears from the view
    between calls (keys are only added, anywhere, also below the cursor), the iteration returns
    every key that was there from the first call on. -/
theorem scan_complete_under_additions (g : Cfg) (hg : g.ok) (count : Nat) (pat ty : Option Bytes) (hist : List Db)
    (hnd : ∀ db ∈ hist, (db.map (·.1)).Nodup)
    (hfin : Code.iterFinishes g (Code.matchOpt g.lossy pat) count 0 (hist.map (view ty)) = true)
    (hadd : Code.onlyAdditions (hist.map (view ty)) = true)
    (k : Bytes) (hk : ∀ db ∈ hist, ∃ t, (k, t) ∈ db ∧ typeOk ty t = true)
    (hm : Code.matchOpt g.lossy pat k = true) :
    k ∈ (Code.iter g (Code.matchOpt g.lossy pat) count 0 (hist.map (view ty))).flatten :=
  scan_complete_partial g hg count pat ty hist hnd hfin
    (noDelBelow_of_onlyAdditions g (Code.matchOpt g.lossy pat) count _ 0 hadd) k hk hm

/-- …and duplicates do occur: keys `b c`; `SCAN 0 COUNT 1` → `b`, cursor 1; `a` is added;
    `SCAN 1 COUNT 1` → `b` again. -/
theorem scan_additions_duplicate :
    Code.scan rankCfg [([98], 0), ([99], 0)] 0 1 none none = (1, [[98]]) ∧
    Code.scan rankCfg [([97], 0), ([98], 0), ([99], 0)] 1 1 none none = (2, [[98]]) := by
  constructor <;> decide

/-- **The full statement is false for the rank cursor.**  Keys `a b c`; `SCAN 0 COUNT 1` → `a`,
    cursor 1; `DEL a`; `SCAN 1 COUNT 1` → `c`, cursor 0.  `b` existed during the whole iteration
    and is never returned. -/
theorem scan_complete_fails :
    ∃ (hist : List Db) (k : Bytes),
      (∀ db ∈ hist, (db.map (·.1)).Nodup) ∧
      Code.iterFinishes Gen.scanCfg (Code.matchOpt true none) 1 0 (hist.map (view none)) = true ∧
      (∀ db ∈ hist, ∃ t, (k, t) ∈ db ∧ typeOk none t = true) ∧
      Code.matchOpt true none k = true ∧
      k ∉ (Code.iter Gen.scanCfg (Code.matchOpt true none) 1 0 (hist.map (view none))).flatten := by
  refine ⟨[[([97], 0), ([98], 0), ([99], 0)], [([98], 0), ([99], 0)]], [98], ?_, ?_, ?_, ?_, ?_⟩
  · intro db hdb
    simp only [List.mem_cons, List.not_mem_nil, or_false] at hdb
    rcases hdb with rfl | rfl <;> decide
  · decide
  · intro db hdb
    simp only [List.mem_cons, List.not_mem_nil, or_false] at hdb
    rcases hdb with rfl | rfl <;> exact ⟨0, by decide, rfl⟩
  · rfl
  · decide

/-- The two calls of the witness, as the engine answers them. -/
theorem scan_complete_fails_calls :
    Code.scan rankCfg [([97], 0), ([98], 0), ([99], 0)] 0 1 none none = (1, [[97]]) ∧
    Code.scan rankCfg [([98], 0), ([99], 0)] 1 1 none none = (0, [[99]]) ∧
    Code.noDelBelow Gen.scanCfg (Code.matchOpt true none) 1 0 [[[97], [98], [99]], [[98], [99]]] = false := by
  refine ⟨?_, ?_, ?_⟩ <;> decide

/-- **The full statement is satisfiable** by a stateless scan over a list rebuilt on every call:
    with the last examined key as the cursor (`Spec.scanAfter`), every key that is in every
    (sorted) list of the history is returned, whatever else is added or deleted in between. -/
theorem scan_complete_keycursor (m : Bytes → Bool) (count : Nat) (hist : List (List Bytes))
    (hs : ∀ ks ∈ hist, Sorted ks) (hfin : Spec.iterAfterFinishes m count none hist = true)
    (k : Bytes) (hk : ∀ ks ∈ hist, k ∈ ks) (hm : m k = true) :
    k ∈ (Spec.iterAfter m count none hist).flatten :=
  iterAfter_complete m count k hm hist none hs hk hfin (fun c hc => by simp at hc)

/-- SSCAN (fast path included) returns what the cursor walk over the sorted member list
    returns, so soundness, progress, the termination bound, `…_partial` and the witness above
    apply to it verbatim (the fast-path reply comes in hash-table order in the real code). -/
theorem sscan_same_walk (g : Cfg) (hg : g.ok) (hr : g.slotCursor = false) (members : List Bytes) (cursor count : Nat) (pat : Option Bytes) :
    Code.sscan g members cursor count pat =
      Code.scanSorted g (Code.matchOpt g.lossy pat) (sortKeys members) cursor count :=
  sscan_eq_scanSorted g hg hr members cursor count pat

/-- With the slot cursor SSCAN is the slot walk over its members (fast path included), so
    `scan_complete`, the bounds and disjointness apply to it verbatim. -/
theorem sscan_same_walk_slot (g : Cfg) (hg : g.ok) (hs : g.slotCursor = true) (members : List Bytes) (cursor count : Nat) (pat : Option Bytes) :
    Code.sscan g members cursor count pat =
      Code.scanSlots g scanSlot (Code.matchOpt g.lossy pat) (sortSlot scanSlot members) cursor count :=
  sscan_eq_scanSlots g hg hs members cursor count pat

/-- HSCAN: the same walk over the field names; NOVALUES returns exactly the fields. -/
theorem hscan_same_walk (g : Cfg) (hg : g.ok) (h : List (Bytes × Bytes)) (cursor count : Nat) (pat : Option Bytes) :
    (g.slotCursor = false → Code.hscan g h cursor count pat true =
      Code.scanSorted g (Code.matchOpt g.lossy pat) (sortKeys (h.map (·.1))) cursor count) ∧
    (g.slotCursor = true → Code.hscan g h cursor count pat true =
      Code.scanSlots g scanSlot (Code.matchOpt g.lossy pat) (sortSlot scanSlot (h.map (·.1))) cursor count) := by
  constructor <;> intro hh <;> unfold Code.hscan <;> simp only [if_true]
  · rw [sscan_eq_scanSorted g hg hh]
  · rw [sscan_eq_scanSlots g hg hh]

/-- HSCAN with values: the cursor is the same and each returned field is followed by its value. -/
theorem hscan_with_values (g : Cfg) (h : List (Bytes × Bytes)) (cursor count : Nat) (pat : Option Bytes) :
    (Code.hscan g h cursor count pat false).1 = (Code.hscan g h cursor count pat true).1 ∧
    (Code.hscan g h cursor count pat false).2 =
      (Code.hscan g h cursor count pat true).2.flatMap (fun f => [f, Code.lookup [] f h]) := by
  simp [Code.hscan]

/-- ZSCAN: the same walk over the members, each returned with its score. -/
theorem zscan_same_walk (g : Cfg) (hg : g.ok) (z : List (Bytes × Int)) (cursor count : Nat) (pat : Option Bytes) :
    (g.slotCursor = false →
      (Code.zscan g z cursor count pat).1 =
        (Code.scanSorted g (Code.matchOpt g.lossy pat) (sortKeys (z.map (·.1))) cursor count).1 ∧
      (Code.zscan g z cursor count pat).2.map (·.1) =
        (Code.scanSorted g (Code.matchOpt g.lossy pat) (sortKeys (z.map (·.1))) cursor count).2) ∧
    (g.slotCursor = true →
      (Code.zscan g z cursor count pat).1 =
        (Code.scanSlots g scanSlot (Code.matchOpt g.lossy pat) (sortSlot scanSlot (z.map (·.1))) cursor count).1 ∧
      (Code.zscan g z cursor count pat).2.map (·.1) =
        (Code.scanSlots g scanSlot (Code.matchOpt g.lossy pat) (sortSlot scanSlot (z.map (·.1))) cursor count).2) := by
  constructor <;> intro hh <;> unfold Code.zscan
  · rw [sscan_eq_scanSorted g hg hh]
    simp [List.map_map, Function.comp_def]
  · rw [sscan_eq_scanSlots g hg hh]
    simp [List.map_map, Function.comp_def]

/-- `handle_scan` lower-cases the TYPE value before the engine compares it with the lower-case type
    names.  Stops checking when that normalisation disappears (then `type_filter_case_sensitive_fails`
    describes the tree again). -/
theorem tree_type_filter_folds_case : Gen.scanCfg.typeFold = true := by decide

/-- With the normalisation the filter the engine applies is the prescribed one: the type name
    without regard to the case of ASCII letters (an unknown name selects nothing). -/
theorem type_filter_is_spec (g : Cfg) (hf : g.typeFold = true) (ty : Option Bytes) (t : Nat) :
    typeOk (Code.typeArg g ty) t = Spec.typeOk ty t := by
  cases ty <;> simp [Code.typeArg, hf, typeOk, Spec.typeOk]

/-- **`TYPE` ignores the case of the name**: two spellings of the same name (`string`, `STRING`,
    `String`, …) give the same reply, for every database, cursor, COUNT and MATCH. -/
theorem type_filter_ignores_case (g : Cfg) (hf : g.typeFold = true) (db : Db) (cursor count : Nat) (pat : Option Bytes)
    (s s' : Bytes) (h : s.map lowerAscii = s'.map lowerAscii) :
    Code.scanCmd g db cursor count pat (some s) = Code.scanCmd g db cursor count pat (some s') := by
  simp [Code.scanCmd, Code.typeArg, hf, h]

/-- Soundness of the command for every spelling: every returned key exists, has the type named
    by `TYPE` (case ignored) and passes MATCH. -/
theorem scan_cmd_sound_type (g : Cfg) (hg : g.ok) (hf : g.typeFold = true) (db : Db) (cursor count : Nat)
    (pat ty : Option Bytes) (k : Bytes) (hk : k ∈ (Code.scanCmd g db cursor count pat ty).2) :
    (∃ t, (k, t) ∈ db ∧ Spec.typeOk ty t = true) ∧ Code.matchOpt g.lossy pat k = true := by
  obtain ⟨⟨t, ht, hok⟩, hm⟩ := scan_sound g hg db cursor count pat (Code.typeArg g ty) k hk
  exact ⟨⟨t, ht, by rw [← type_filter_is_spec g hf ty t]; exact hok⟩, hm⟩

/-- Completeness of the command restricted to the keys of the named type, for every spelling (slot
    cursor, full strength): a key that has that type (case of the name ignored) in every database
    of the history and passes MATCH is returned by the iteration. -/
theorem scan_cmd_complete_type (g : Cfg) (hg : g.ok) (hf : g.typeFold = true) (count : Nat) (pat ty : Option Bytes)
    (hist : List Db)
    (hfin : Code.iterSFinishes g scanSlot (Code.matchOpt g.lossy pat) count 0 (hist.map (viewSlot (Code.typeArg g ty))) = true)
    (k : Bytes) (hk : ∀ db ∈ hist, ∃ t, (k, t) ∈ db ∧ Spec.typeOk ty t = true)
    (hm : Code.matchOpt g.lossy pat k = true) :
    k ∈ (Code.iterS g scanSlot (Code.matchOpt g.lossy pat) count 0 (hist.map (viewSlot (Code.typeArg g ty)))).flatten := by
  apply scan_complete g hg count pat (Code.typeArg g ty) hist hfin k _ hm
  intro db hdb
  obtain ⟨t, ht, hok⟩ := hk db hdb
  exact ⟨t, ht, by rw [type_filter_is_spec g hf ty t]; exact hok⟩

/-- **Without the normalisation the statement is false**: key `a` is a string; `SCAN 0 TYPE STRING`
    ends the iteration at once with no key, although `STRING` names the type of `a`; with the
    normalisation the same command returns `a`. -/
theorem type_filter_case_sensitive_fails :
    Code.cmdScan { Gen.scanCfg with typeFold := false } [([97], 0)] [[48], [84, 89, 80, 69], [83, 84, 82, 73, 78, 71]] = some (0, []) ∧
    Spec.typeOk (some [83, 84, 82, 73, 78, 71]) 0 = true ∧
    Code.cmdScan { Gen.scanCfg with typeFold := true } [([97], 0)] [[48], [84, 89, 80, 69], [83, 84, 82, 73, 78, 71]] = some (0, [[97]]) ∧
    Code.cmdScan { Gen.scanCfg with typeFold := true } [([97], 0)] [[48], [116, 121, 112, 101], [83, 116, 82, 105, 78, 103]] = some (0, [[97]]) := by
  decide

/-- MATCH on the current tree is byte-wise (the repaired matcher), so the full statement
    `match_refines` below speaks about the code.  Stops checking if matching goes back through
    `String::from_utf8_lossy`. -/
theorem tree_match_is_bytewise : Gen.scanCfg.lossy = false := by decide

/-- The recursion budget of the model's matcher is never the reason for a verdict. -/
theorem match_fuel_irrelevant (p t : List Nat) : (Code.globLoop (Code.globFuel p t) p t none).isSome = true :=
  globLoop_fuel_enough p t

/-- The `'['` arm of `pattern_matches` still walks the class member by member as Redis's
    `stringmatchlen` does (escapes inside the class, ordered range bounds, `x-y` whenever two more
    characters follow, an unterminated class runs to the end).  Stops checking when that arm is
    rewritten (then `Code.classWalk` must follow). -/
theorem tree_glob_class_is_redis : Gen.globClassRedis = true := by decide

/-- **The matcher computes glob semantics — for EVERY pattern and every text.**  Any mix of
    literals, `?`, `*` (any number), classes, negated classes, ranges, escapes inside and outside
    classes, also unterminated classes and `[`, `[^`, `[]`, `[a-]`: the single-star backtracking
    loop of engine.rs gives the verdict of the textbook recursive matcher over the tokenised
    pattern.  `p` and `t` are plain lists of symbols, so the statement serves every caller of
    `pattern_matches` (SCAN family MATCH, KEYS, PSUBSCRIBE). -/
theorem match_refines_glob (p t : List Nat) :
    Code.globChars p t = Spec.matchToks (Spec.tokenize p) t :=
  globChars_eq_matchToks p t

/-- **Full statement (byte-wise matcher, `lossy = false`, the tree)**: for every pattern and every
    key, MATCH accepts the key exactly when glob matching over bytes does.  No exclusion. -/
theorem match_refines (pat key : Bytes) : Spec.matchBytes pat key = Code.matchBytes false pat key := by
  exact matchBytes_eq_spec false pat key fun h => nomatch h

/-- **The matcher on lossily decoded text (`lossy = true`, the tree before e25f0f8)**: the same
    holds when pattern and key are ASCII.  (Exclusion: a byte ≥ 0x80 on either side — see
    `match_sound_fails_on_invalid_utf8`.) -/
theorem match_refines_partial (pat key : Bytes) (hp : ∀ b ∈ pat, b < 128) (hk : ∀ b ∈ key, b < 128) :
    Spec.matchBytes pat key = Code.matchBytes true pat key := by
  exact matchBytes_eq_spec true pat key fun _ => ⟨hp, hk⟩

/-- Soundness against the prescribed filter: every key returned by a SCAN call with `MATCH pat`
    satisfies the glob pattern over bytes — for every pattern (with the lossy matcher: when
    pattern and key are ASCII). -/
theorem scan_sound_glob (g : Cfg) (hg : g.ok) (db : Db) (cursor count : Nat) (pat : Bytes) (ty : Option Bytes)
    (k : Bytes) (hk : k ∈ (Code.scan g db cursor count (some pat) ty).2)
    (hp : g.lossy = true → ∀ b ∈ pat, b < 128) (hka : g.lossy = true → ∀ b ∈ k, b < 128) :
    Spec.matchBytes pat k = true := by
  rw [matchBytes_eq_spec g.lossy pat k fun hl => ⟨hp hl, hka hl⟩]
  exact (scan_sound g hg db cursor count (some pat) ty k hk).2

/-- `MATCH *` accepts every key (any bytes), lossy or not. -/
theorem match_star_all (lossy : Bool) (key : Bytes) : Code.matchBytes lossy [42] key = true := by
  unfold Code.matchBytes
  cases lossy
  · simp only [Bool.false_eq_true, if_false]; exact globChars_star _
  · simp only [if_true]
    rw [show decodeLossy [42] = [42] from rfl]
    exact globChars_star _

/-- An ASCII pattern without `*`, `?`, `[`, `\` selects, among ASCII keys, exactly itself. -/
theorem match_literal_exact (pat key : Bytes) (hp : ∀ x ∈ pat, plain x ∧ x < 128) (hk : ∀ b ∈ key, b < 128) :
    Code.matchBytes true pat key = true ↔ key = pat := by
  rw [matchBytes_of_ascii true pat key fun _ => ⟨fun b hb => (hp b hb).2, hk⟩]
  exact globChars_literal pat key (fun x hx => (hp x hx).1)

/-- `MATCH ?` accepts, among ASCII keys, exactly those of length 1. -/
theorem match_question (key : Bytes) (hk : ∀ b ∈ key, b < 128) :
    Code.matchBytes true [63] key = true ↔ key.length = 1 := by
  rw [matchBytes_of_ascii true [63] key fun _ => ⟨by simp, hk⟩]
  exact globChars_question key

/-- `MATCH prefix*` (ASCII literal prefix) accepts, among ASCII keys, exactly those that begin
    with the prefix — the `user:*` idiom. -/
theorem match_prefix_star (pre key : Bytes) (hp : ∀ x ∈ pre, plain x ∧ x < 128) (hk : ∀ b ∈ key, b < 128) :
    Code.matchBytes true (pre ++ [42]) key = pre.isPrefixOf key := by
  have hpa : ∀ b ∈ pre ++ [42], b < 128 := fun b hb =>
    (List.mem_append.mp hb).elim (fun h => (hp b h).2) fun h => List.mem_singleton.mp h ▸ by decide
  rw [matchBytes_of_ascii true _ key fun _ => ⟨hpa, hk⟩]
  exact globChars_prefix_star pre key (fun x hx => (hp x hx).1)

/-- The edge patterns, as code and specification decide them (Redis's verdicts): `[` alone and
    `[]` match nothing; `[^` alone matches any one character; an unterminated class works
    (`[abc` matches `a`); `\]` is a member (`[\]]` matches `]`, `[a\-c]` matches `-` but not `b`);
    a reversed range is ordered (`[z-a]` matches `b`); `[a-]` is the range from `]` to `a` (matches
    `_`, not `-`); `[]-a]` is the empty class followed by the literal `-a]`. -/
theorem match_class_edge_cases :
    Code.globChars [91] [91] = false ∧ Code.globChars [91, 93] [120] = false ∧
    Code.globChars [91, 94] [120] = true ∧
    Code.globChars [91, 97, 98, 99] [97] = true ∧
    Code.globChars [91, 92, 93, 93] [93] = true ∧
    Code.globChars [91, 97, 92, 45, 99, 93] [45] = true ∧ Code.globChars [91, 97, 92, 45, 99, 93] [98] = false ∧
    Code.globChars [91, 122, 45, 97, 93] [98] = true ∧
    Code.globChars [91, 97, 45, 93] [95] = true ∧ Code.globChars [91, 97, 45, 93] [45] = false ∧
    Code.globChars [91, 93, 45, 97, 93] [45] = false ∧
    Spec.tokenize [91, 97, 45, 93] = [.cls false [(93, 97)]] ∧
    Spec.tokenize [91, 93, 45, 97, 93] = [.cls false [], .lit 45, .lit 97, .lit 93] ∧
    Spec.tokenize [91, 94] = [.cls true []] ∧ Spec.tokenize [91] = [.cls false []] := by
  decide

/-- **MATCH on lossily decoded text is not sound over bytes.**  The literal pattern `\xff`
    accepts the different key `\xfe` (both become U+FFFD), which glob matching over bytes rejects;
    and `?` accepts the two-byte key `é`.  The byte-wise matcher gets both right. -/
theorem match_sound_fails_on_invalid_utf8 :
    Code.matchBytes true [255] [254] = true ∧ Spec.matchBytes [255] [254] = false ∧
    Code.matchBytes true [63] [195, 169] = true ∧ Spec.matchBytes [63] [195, 169] = false ∧
    Code.matchBytes false [255] [254] = false ∧ Code.matchBytes false [63] [195, 169] = false := by
  decide

/-! ### Non-vacuity: histories that satisfy the hypotheses of completeness (`iterFinishes`, `noDelBelow`) and of
    termination (`NonGrowing`); filters and patterns of the soundness clause -/

-- a history with an addition below the cursor and a deletion above it: the exclusion holds, the
-- iteration finishes, and the stable keys are all returned (with a duplicate)
example :
    let hist : List Db := [[([98], 0), ([99], 0), ([100], 0), ([101], 0)],
                           [([97], 0), ([98], 0), ([99], 0), ([100], 0)]]
    Code.iterFinishes Gen.scanCfg (Code.matchOpt true none) 2 0 (hist.map (view none)) = true ∧
    Code.noDelBelow Gen.scanCfg (Code.matchOpt true none) 2 0 (hist.map (view none)) = true ∧
    Code.iter Gen.scanCfg (Code.matchOpt true none) 2 0 (hist.map (view none)) = [[[98], [99]], [[99], [100]]] := by
  decide

example : Code.iterCalls Gen.scanCfg (Code.matchOpt true none) 2 0 (List.replicate 3 [[97], [98], [99], [100], [101]]) = some 3 := by
  decide

example : NonGrowing [[[97], [98], [99]], [[98], [99]], [[99]]] := by
  unfold NonGrowing; decide

example : Code.scan rankCfg [([97, 49], 0), ([98], 2), ([97, 50], 0), ([97], 3)] 0 10 (some [97, 42]) (some [115, 116, 114, 105, 110, 103]) =
    (0, [[97, 49], [97, 50]]) := by decide

example : Spec.iterAfter (fun _ => true) 1 none [[[97], [98], [99]], [[98], [99]], [[98], [99]]] = [[[97]], [[98]], [[99]]] := by
  decide

example : Code.matchBytes true [117, 115, 101, 114, 58, 42] [117, 115, 101, 114, 58, 49, 48] = true := by decide

-- a pattern with a negated class, a reversed range, an escaped bracket, an escape and two stars
example : Spec.tokenize [42, 91, 94, 99, 45, 97, 92, 93, 120, 93, 92, 42, 63, 42] =
    [.star, .cls true [(97, 99), (93, 93), (120, 120)], .lit 42, .any, .star] := by decide

end Ferrous.C19
