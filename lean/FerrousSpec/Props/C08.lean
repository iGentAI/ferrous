/-
  C08 — WATCH.  "If any key watched by a connection is changed between its WATCH and its EXEC, by any
  client and through any means, EXEC returns nil and executes nothing.  If no watched key was touched in
  that window EXEC executes normally.  UNWATCH, EXEC and DISCARD forget all watched keys."

  Model: `Ferrous.Watch` (Model/Watch.lean): the per-(database, shard) tracker {active, counters, global},
  the per-connection watch list, `step q s now ev` over events WATCH / UNWATCH / MULTI / EXEC / DISCARD /
  SELECT / data command (a list of storage operations) / sweeper deletion; `run` = histories.  `Q.code` is the
  tree before the repairs listed below, `Q.fixed` the prescribed variant (watch entries remember their database;
  a second WATCH keeps the first baseline), which is the current tree (`tree_watch_list`).  Whether a storage
  operation bumps the WATCH counter is data of the operation, read from the regenerated table
  `Gen.storageFns` (translator/watch_facts.py).

  Ties to the code: `Gen.storageFns`, `Gen.watchQ` (regenerated on every run; table theorems below) and the
  TCP matrix of lib/c08.py, which mirrors every client command into `drv_watch` and compares every EXEC.

  Fixed in /repo since the check exists (the witness lemmas below are statements about the old table
  rows / old switch values): EXPIRE/PEXPIRE (9b86ca2), PERSIST (96ab82d), RENAME/RENAMENX source key (414e6c4),
  FLUSHDB/FLUSHALL (2a25c7e) did not mark; a second WATCH replaced the baseline (180a098); watch entries forgot
  their database (3ed7039).  On the current tree every mutating storage function marks (`all_writes_mark`, no
  exception) and the watch list is the prescribed one, so `watch_sound` holds for the tree at full strength
  (`watch_sound_tree`).  WATCH of an already expired, not yet removed key aborted although nothing changed
  (`no_false_abort_fails_expired_at_watch`, old switch `watchPurges = false`): fixed by cf01a0f.
-/
import FerrousSpec.Proofs.WatchWitness
namespace Ferrous.C08
open Ferrous Ferrous.Watch

/-! ## The regenerated table -/

/-- (storage function, key parameter) pairs that mutate stored data without reaching `mark_modified`; `"*"`
    stands for "the keys removed by a function without key parameter" (flush_db).  Empty since commits
    9b86ca2, 96ab82d, 414e6c4, 2a25c7e (before: expire/key, pexpire/key, persist/key, rename/old_key, flush_db/*). -/
def exceptions : List (String × String) := []

/-- the (function, parameter) pairs of a table that mutate and do not mark -/
def nonMarking (fns : List StorageFn) : List (String × String) :=
  fns.flatMap fun f =>
    if f.mutates then
      if f.keyParams.isEmpty then (if f.marksAll then [] else [(f.name, "*")])
      else (f.keyParams.filter (fun p => !f.marked.contains p)).map (fun p => (f.name, p))
    else []

/-- The exception list is exact (both are empty on the current tree). -/
theorem tree_nonmarking_writes : nonMarking Gen.storageFns = exceptions := by decide

/-- Every `pub fn` of `impl StorageEngine` (and the sweeper loop) that mutates stored data passes each of
    its key parameters to `mark_modified` — except the listed pairs (none).  A NEW write that does not mark
    breaks this theorem (the dynamic matrix checks that "calls mark_modified" means "on every mutating path"). -/
theorem all_writes_mark : ∀ x ∈ nonMarking Gen.storageFns, x ∈ exceptions :=
  fun _ h => tree_nonmarking_writes ▸ h

/-- The same, row by row: a mutating row marks every key parameter it has, and a mutating row without key
    parameter (flush_db) marks everything it removes. -/
theorem tree_every_mutator_marks :
    ∀ f ∈ Gen.storageFns, f.mutates = true →
      (∀ p ∈ f.keyParams, marksOf f.name p = true) ∧ (f.keyParams = [] → f.marksAll = true) :=
  storageFns_marks.1

/-- flush_db and the sweeper mark what they remove. -/
theorem tree_flush_and_sweeper_mark : flushMarks = true ∧ marksOf "expiration_cleanup_loop" "key" = true :=
  ⟨storageFns_marks.2.1, keyWriters_mark (List.getLast_mem (List.cons_ne_nil _ _))⟩

/-- The reviewed conditional marks: `mark_modified(key)` calls that sit alone inside an `if <condition>` on an outcome
    computed before.  Each of these conditions is exactly "the call changed the key": a stream entry was trimmed /
    deleted, a list element was popped / removed, a set member was added / removed / popped — when the count is 0 the
    value is what it was.  Every other mark of the table sits next to the mutation it reports. -/
def reviewedConditionalMarks : List (String × String × String) :=
  [("xtrim", "key", "trimmed > 0"), ("xdel", "key", "deleted > 0"), ("lpop", "key", "element.is_some()"),
   ("rpop", "key", "element.is_some()"), ("lrem", "key", "removed > 0"), ("sadd", "key", "added > 0"),
   ("srem", "key", "removed > 0"), ("spop", "key", "!result.is_empty()")]

/-- "Reaches `mark_modified`" in `Gen.storageFns` is per function and key parameter, not per path.  The marks that
    depend on an outcome are exactly the reviewed ones: a NEW conditional mark (e.g. marking a destination only when
    a value was replaced) breaks this theorem, and the TCP matrix exercises every branch (same shard / other shard,
    existing / missing destination, emptied / not) to find the input. -/
theorem tree_conditional_marks_reviewed : Gen.conditionalMarks = reviewedConditionalMarks := rfl

/-- The shard function of the engine is the model's: 16 shards, FNV-1a 64 (`get_shard_index`). -/
theorem tree_shard_function : Gen.shardConsts = (16, fnvOffset, fnvPrime) := by decide

/-- Mutators that BYPASS the storage engine and do not mark, reviewed: none.  The consumer-group handlers take the
    stream through `StorageEngine::get` — a clone that shares the stream's state — and change groups, consumers,
    pending entries and the last-delivered id directly; until 9294300 they never reached `mark_modified` (hunt
    C08/d2), now each calls `StorageEngine::touch` after a successful mutation (`Gen.bypassMutators`: touches = true).
    Redis itself does not call signalModifiedKey for them (only for the key created by XGROUP CREATE … MKSTREAM):
    ferrous is stricter than Redis here, as the text of the property asks. -/
def reviewedBypass : List (String × String × String) := []

/-- `all_writes_mark` speaks about the functions of StorageEngine; this closes the hole next to it: every function
    OUTSIDE the engine that changes the shared state of a stored stream / consumer group / skip list either calls
    `StorageEngine::touch` (mark_modified) or is one of the reviewed exceptions.  A NEW bypassing mutator breaks it. -/
theorem no_unmarked_bypass :
    ∀ x ∈ Gen.bypassMutators, x.2.2.2 = true ∨ (x.1, x.2.1, x.2.2.1) ∈ reviewedBypass := by decide

/-- The reviewed list is exact on the current tree: nothing bypasses the engine without marking. -/
theorem tree_unmarked_bypass_exact :
    (Gen.bypassMutators.filter (fun x => !x.2.2.2)).map (fun x => (x.1, x.2.1, x.2.2.1)) = reviewedBypass ∨
    (Gen.bypassMutators.filter (fun x => !x.2.2.2)) = [] := by decide

/-- process_frame refuses MULTI / EXEC / DISCARD / UNWATCH with surplus arguments before it handles them (35e6048):
    only the well-formed commands reach the code that clears the watch list. -/
theorem tree_tx_arity_guard : Gen.txArityGuard = true := by decide

/-- Keys are binary safe on the WATCH path: handle_watch, handle_unwatch and Server::handle_exec pass the bytes of the
    frame to register_watch / unregister_watch / was_modified_since without any text conversion (a lossy UTF-8
    round trip would make the connection watch another key than the one it named). -/
theorem tree_watch_key_is_bytes : Gen.watchKeyIsBytes = true := by decide

/-- The watch list of the current tree is the prescribed one: entries are keyed by (database, key) and checked /
    unregistered there (3ed7039), a second WATCH keeps the first baseline (180a098), WATCH drops an expired stored
    value before it registers (cf01a0f).  A regression of any of the three breaks this theorem. -/
theorem tree_watch_list : Gen.watchQ = Q.fixed := by decide

/-- The translator recognised each of the three shapes in the source (when it does not, `Gen.watchQ` carries
    pessimistic values so that the dynamic search can still run, and this theorem refuses). -/
theorem tree_watch_list_recognised : Gen.watchQRecognised = true := by decide

/-- The write paths used by the commands are in the table and mark their key. -/
theorem tree_marking_functions :
    (["set_value", "set_string", "set_string_ex", "set_string_nx", "set_string_nx_ex", "delete", "incr", "incr_by",
      "append", "setrange", "lpush", "rpush", "lpop", "rpop", "lset", "ltrim", "lrem", "sadd", "srem", "spop",
      "hset", "hdel", "hincrby", "zadd", "zrem", "zincrby", "xadd", "xadd_with_id", "xdel", "xtrim", "get",
      "expire", "pexpire", "persist", "expiration_cleanup_loop"].all (fun fn => marksOf fn "key")) = true ∧
    marksOf "rename" "new_key" = true ∧ marksOf "rename" "old_key" = true :=
  storageFns_marks.2.2

/-- An operation built from the table of the current tree marks what it changes. -/
theorem table_op_marks (o : Op) (h : isTableOp o = true) : opMarksOk o = true := by
  cases o with
  | key ko =>
    simp only [isTableOp, Bool.or_eq_true, Bool.not_eq_true', List.any_eq_true, Bool.and_eq_true, beq_iff_eq] at h
    simp only [opMarksOk, Bool.or_eq_true, Bool.not_eq_true']
    rcases h with h | ⟨f, hf, ⟨hm, _⟩, p, hp, hmk⟩
    · exact Or.inl h
    · right
      rw [← hmk]
      exact (tree_every_mutator_marks f hf hm).1 p hp
  | flush all m =>
    simp only [isTableOp, beq_iff_eq] at h
    simp only [opMarksOk]
    rw [h]; exact tree_flush_and_sweeper_mark.1

/-! ## The invariant is reachable -/

/-- Every state reached from the empty state by a `Safe` history (no registration wraps the usize watcher
    count; unless entries remember their database, nobody SELECTs another database while holding watch
    entries) satisfies the invariant the soundness theorems assume: counters ≤ global counter, watcher count
    of a shard ≥ number of entries registered there, baselines ≤ global counter. -/
theorem reachable_inv (q : Q) (evs : List (Nat × Watch.Ev)) (h : Safe q State.init evs = true) :
    Inv q (run q State.init evs) :=
  inv_run q State.init evs (inv_init q) h

/-- When watch entries remember their database (the current tree, `Q.fixed`) SELECT is always safe: only the
    (unreachable) wrap of a usize watcher count remains excluded by `Safe`. -/
theorem fixed_select_is_safe (q : Q) (hq : q.perDb = true) (s : Watch.State) (now c d : Nat) :
    stepSafe q s now (.select c d) = true := by
  simp [stepSafe, hq]

/-! ## No false abort -/

/-- NO FALSE ABORT, all histories.  Connection `c` holds watch entries whose counters have not passed their
    baselines and whose keys carry no deadline.  Then whatever any client does — commands on other keys of
    the same shard or of other shards, reads, refused commands, flushes of other databases, WATCH/UNWATCH/
    EXEC/SELECT of other connections, sweeper deletions of other keys — as long as no executed operation
    addresses a watched (database, key) and `c` itself only issues MULTI and data commands, `c`'s EXEC does
    not return nil.  (Per-key counters are bumped by `mark_modified` of that key only.) -/
theorem no_false_abort (q : Q) (s : Watch.State) (evs : List (Nat × Watch.Ev)) (c now : Nat) (ops : List Op)
    (hquiet : ∀ e ∈ evs, quiet q c e.2 = true)
    (hclean : ∀ w ∈ (s.conn c).watched,
      s.counter (effDb q (s.conn c) w) w.key ≤ w.base ∧
      (∀ e, s.entry (effDb q (s.conn c) w) w.key = some e → e.deadline = none) ∧
      untouched q (effDb q (s.conn c) w) w.key s evs = true) :
    (step q (run q s evs) now (.exec c ops)).2 ≠ .nil := by
  intro h
  rw [exec_nil_iff] at h
  have := no_abort_of_untouched q s evs c now hquiet hclean
  rw [this] at h
  exact absurd h.2 (by simp)

/-- WATCH records the key's current counter: right after `WATCH k` on a connection that watched nothing (k
    carrying no deadline, so that the `watchPurges` variant has nothing to drop), the hypothesis
    `counter ≤ baseline` of `no_false_abort` holds (with equality). -/
theorem watch_takes_baseline (q : Q) (s : Watch.State) (now c : Nat) (k : Key)
    (hin : (s.conn c).inTx = false) (hw : (s.conn c).watched = [])
    (hdl : ∀ e, s.entry (s.conn c).db k = some e → e.deadline = none) :
    ((step q s now (.watch c [k])).1.conn c).watched = [⟨k, s.counter (s.conn c).db k, (s.conn c).db⟩] ∧
    (step q s now (.watch c [k])).1.counter (s.conn c).db k = s.counter (s.conn c).db k ∧
    (step q s now (.watch c [k])).1.entry (s.conn c).db k = s.entry (s.conn c).db k ∧
    ((step q s now (.watch c [k])).1.conn c).db = (s.conn c).db := by
  have hx : expiredNow s (s.conn c).db k now = false := by
    unfold expiredNow
    cases h : s.entry (s.conn c).db k with
    | none => rfl
    | some e => simp [Entry.expired, hdl e h]
  rw [step_watch_one q s now c k hin hw hx]
  refine ⟨?_, counter_watchKeyNew q c s k _ k, rfl, ?_⟩ <;> rw [conn_watchKeyNew]
  · simp only [watchConn, hw, List.filter_nil]
    rfl
  · rfl

/-- WATCH k, then any history that does not address k (no deadline on k), then EXEC: never nil. -/
theorem no_false_abort_after_watch (q : Q) (s : Watch.State) (t : Nat) (evs : List (Nat × Watch.Ev)) (c now : Nat)
    (k : Key) (ops : List Op)
    (hin : (s.conn c).inTx = false) (hw : (s.conn c).watched = [])
    (hdl : ∀ e, s.entry (s.conn c).db k = some e → e.deadline = none)
    (hquiet : ∀ e ∈ evs, quiet q c e.2 = true)
    (hunt : untouched q (s.conn c).db k (step q s t (.watch c [k])).1 evs = true) :
    (step q (run q s ((t, .watch c [k]) :: evs)) now (.exec c ops)).2 ≠ .nil := by
  obtain ⟨h1, h2, h3, h4⟩ := watch_takes_baseline q s t c k hin hw hdl
  simp only [run]
  apply no_false_abort q _ evs c now ops hquiet
  intro w hwm
  rw [h1] at hwm
  simp only [List.mem_singleton] at hwm
  subst hwm
  have hd : effDb q ((step q s t (.watch c [k])).1.conn c) ⟨k, s.counter (s.conn c).db k, (s.conn c).db⟩ = (s.conn c).db := by
    unfold effDb
    split
    · rfl
    · exact h4
  rw [hd]
  refine ⟨?_, ?_, hunt⟩
  · rw [h2]; exact Nat.le_refl _
  · rw [h3]; exact hdl

/-! ## Soundness -/

/-- WATCH SOUND, full statement, for every variant `q` and every `Safe` history from a state satisfying the
    invariant (in particular: every reachable state, `reachable_inv`).  Connection `c` holds a watch entry `w`.
    Some later step changes the stored entry of the watched (database, key) — by a command of any connection
    (the watcher included), inside an EXEC, inside a script, by a flush, by the sweeper removing it, or by
    another client's WATCH dropping it when expired — and the table condition holds for that step: every
    operation it executes marks what it changes (`evMarksOk`).  `c` stays quiet (MULTI, data commands; with
    `q.perDb` also SELECT) and is inside MULTI at the end.  Then its EXEC returns nil.
    When `q.perDb`, `Safe` only excludes the wrap of a usize counter (`fixed_select_is_safe`). -/
theorem watch_sound (q : Q) (s : Watch.State) (pre post : List (Nat × Watch.Ev)) (now : Nat) (ev : Watch.Ev)
    (c : Nat) (w : W) (nowE : Nat) (ops : List Op)
    (hi : Inv q s) (hsafe : Safe q s (pre ++ [(now, ev)]) = true)
    (hquiet : ∀ e ∈ pre ++ (now, ev) :: post, quiet q c e.2 = true)
    (hw : w ∈ (s.conn c).watched)
    (htable : evMarksOk q (run q s pre) now ev = true)
    (hchanged : (step q (run q s pre) now ev).1.entry w.regDb w.key ≠ (run q s pre).entry w.regDb w.key)
    (hin : ((run q s (pre ++ (now, ev) :: post)).conn c).inTx = true) :
    (step q (run q s (pre ++ (now, ev) :: post)) nowE (.exec c ops)).2 = .nil := by
  have hs := safe_append q s pre [(now, ev)] hsafe
  have hev : stepSafe q (run q s pre) now ev = true := by simpa [Safe] using hs.2
  have ⟨hi1, ha⟩ := watched_run q s pre c w hi hs.1 (fun e m => hquiet e (List.mem_append_left _ m)) hw
  exact sound_core q s pre post now ev c w nowE ops hi hs.1 hquiet hw
    (step_changed_marks q _ now ev _ _ hi1.tok htable hchanged ha fun _ _ e => by subst e; exact hev) hin

/-- WATCH SOUND FOR THE CURRENT TREE, at full strength: with the watch list as the source has it (`Gen.watchQ`)
    and operations whose marking is what the regenerated table says (`evFromTable`: what `drv_watch` builds
    from the rows for any command), ANY change of a watched key's stored entry between WATCH and EXEC — by any
    client, directly, inside EXEC, inside a script, by EXPIRE/PERSIST/RENAME/FLUSH, by the sweeper — makes the
    watcher's EXEC return nil.  No exclusion remains but the usize bound inside `Safe` and the watcher's own
    quietness (no UNWATCH/EXEC/DISCARD and no second WATCH command in the window; SELECT is allowed). -/
theorem watch_sound_tree (s : Watch.State) (pre post : List (Nat × Watch.Ev)) (now : Nat) (ev : Watch.Ev)
    (c : Nat) (w : W) (nowE : Nat) (ops : List Op)
    (hi : Inv Gen.watchQ s) (hsafe : Safe Gen.watchQ s (pre ++ [(now, ev)]) = true)
    (hquiet : ∀ e ∈ pre ++ (now, ev) :: post, quiet Gen.watchQ c e.2 = true)
    (hw : w ∈ (s.conn c).watched)
    (htable : evFromTable Gen.watchQ (run Gen.watchQ s pre) now ev = true)
    (hchanged : (step Gen.watchQ (run Gen.watchQ s pre) now ev).1.entry w.regDb w.key ≠
      (run Gen.watchQ s pre).entry w.regDb w.key)
    (hin : ((run Gen.watchQ s (pre ++ (now, ev) :: post)).conn c).inTx = true) :
    (step Gen.watchQ (run Gen.watchQ s (pre ++ (now, ev) :: post)) nowE (.exec c ops)).2 = .nil := by
  apply watch_sound Gen.watchQ s pre post now ev c w nowE ops hi hsafe hquiet hw ?_ hchanged hin
  simp only [evFromTable, Bool.and_eq_true, List.all_eq_true] at htable
  simp only [evMarksOk, Bool.and_eq_true, List.all_eq_true]
  refine ⟨fun p hp => table_op_marks p.2 (htable.1 p hp), ?_⟩
  cases ev with
  | sweep d k m =>
    have := htable.2
    simp only [beq_iff_eq] at this
    simp only [this]
    exact tree_flush_and_sweeper_mark.2
  | _ => rfl

/-- On the current tree SELECT never makes a history unsafe. -/
theorem tree_select_is_safe (s : Watch.State) (now c d : Nat) : stepSafe Gen.watchQ s now (.select c d) = true :=
  fixed_select_is_safe Gen.watchQ (by decide) s now c d

/-- WATCH SOUND for the code as it was before the fixes (`_partial`: the switches are `Q.code`; it also holds
    for any tree whose table has exceptions): the same conclusion when the operation that runs on the
    watched key — reaching a mutating path: a real change or a touch — is one the table lists as marking
    (`ko.marks`, i.e. any write except those of `exceptions`), under the decidable exclusions packed in
    `Safe Q.code` / `quiet Q.code`: no connection SELECTs another database while it holds watch entries (so
    no UNWATCH decrements a foreign shard, no underflow), the watcher issues no second WATCH and no SELECT
    between its WATCH and its EXEC, no registration wraps the usize count. -/
theorem watch_sound_partial (s : Watch.State) (pre post : List (Nat × Watch.Ev)) (now : Nat) (ev : Watch.Ev)
    (c : Nat) (w : W) (ko : KeyOp) (nowE : Nat) (ops : List Op)
    (hi : Inv Q.code s) (hsafe : Safe Q.code s pre = true)
    (hquiet : ∀ e ∈ pre ++ (now, ev) :: post, quiet Q.code c e.2 = true)
    (hw : w ∈ (s.conn c).watched)
    (hop : (w.regDb, Op.key ko) ∈ executed Q.code (run Q.code s pre) now ev) (hkey : ko.key = w.key)
    (hreach : ko.eff.reaches = true) (hmarks : ko.marks = true)
    (hin : ((run Q.code s (pre ++ (now, ev) :: post)).conn c).inTx = true) :
    (step Q.code (run Q.code s (pre ++ (now, ev) :: post)) nowE (.exec c ops)).2 = .nil := by
  have ⟨hi1, ha⟩ := watched_run Q.code s pre c w hi hsafe (fun e m => hquiet e (List.mem_append_left _ m)) hw
  exact sound_core Q.code s pre post now ev c w nowE ops hi hsafe hquiet hw
    (hkey ▸ step_marks Q.code _ now ev w.regDb ko hi1.tok hop hreach hmarks (hkey ▸ ha)) hin

/-- Expiry by deadline, lazy path: if at EXEC time the stored entry of a watched key has passed its deadline
    (and the sweeper has not removed it), EXEC inside MULTI returns nil.  (When the sweeper removes it first,
    that deletion is a marking step: `watch_sound` with `ev = .sweep`.) -/
theorem watch_sound_expired (q : Q) (s : Watch.State) (c now : Nat) (w : W) (e : Entry) (ops : List Op)
    (hw : w ∈ (s.conn c).watched) (hin : (s.conn c).inTx = true)
    (he : s.entry (effDb q (s.conn c) w) w.key = some e) (hx : e.expired now = true) :
    (step q s now (.exec c ops)).2 = .nil := by
  rw [exec_nil_iff]
  refine ⟨hin, ?_⟩
  unfold execAborts
  rw [List.any_eq_true]
  refine ⟨w, hw, ?_⟩
  unfold wasModifiedSince
  simp [he, hx]

/-! ## EXEC that returns nil executes nothing; forgetting; per connection -/

/-- When EXEC returns nil nothing is executed: the dataset, the trackers and every other connection are as
    before; the connection itself has left MULTI with an empty queue and an empty watch list. -/
theorem exec_nil_executes_nothing (q : Q) (s : Watch.State) (now c : Nat) (ops : List Op)
    (h : (step q s now (.exec c ops)).2 = .nil) :
    (step q s now (.exec c ops)).1.data = s.data ∧ (step q s now (.exec c ops)).1.trk = s.trk ∧
    (∀ c', c' ≠ c → (step q s now (.exec c ops)).1.conn c' = s.conn c') ∧
    (step q s now (.exec c ops)).1.conn c = { (s.conn c) with inTx := false, watched := [], queued := 0 } := by
  rw [exec_nil_iff] at h
  rw [step_exec]
  simp only [h.1, h.2, Bool.true_eq_false, if_false, if_true]
  refine ⟨rfl, rfl, fun c' hc => ?_, ?_⟩
  · have hne : ¬ c = c' := fun e => hc e.symm
    rw [conn_setConn]; simp [hne]
  · rw [conn_setConn]; simp [Conn.cleared]

/-- UNWATCH outside MULTI (in the old variant: always), EXEC and DISCARD inside MULTI, leave the connection with an
    empty watch list. -/
theorem unwatch_exec_discard_forget (q : Q) (s : Watch.State) (now c : Nat) (ops : List Op) :
    ((q.unwatchQueued = false ∨ (s.conn c).inTx = false) → ((step q s now (.unwatch c)).1.conn c).watched = []) ∧
    ((s.conn c).inTx = true →
      ((step q s now (.exec c ops)).1.conn c).watched = [] ∧ ((step q s now (.discard c)).1.conn c).watched = []) := by
  refine ⟨fun h => ?_, fun hin => ⟨?_, ?_⟩⟩
  · rw [step_unwatch]
    have hc : (q.unwatchQueued && (s.conn c).inTx) = false := by
      rcases h with h | h <;> simp [h]
    simp only [hc, Bool.false_eq_true, if_false]
    rw [conn_setConn]; simp
  · rw [step_exec]
    simp only [hin, Bool.true_eq_false, if_false]
    split
    · rw [conn_setConn]; simp [Conn.cleared]
    · rw [conn_applyOps, conn_setConn]; simp [Conn.cleared]
  · rw [step_discard]
    simp only [hin, Bool.true_eq_false, if_false]
    rw [conn_setConn]; simp [Conn.cleared]

/-- UNWATCH between MULTI and EXEC (queued variant, the current tree): it is queued — one more slot of EXEC's reply —
    and forgets nothing: watch list, trackers and dataset are as before, so the watches keep guarding the
    transaction being built until EXEC checks them. -/
theorem unwatch_inside_multi_keeps_watches (q : Q) (hq : q.unwatchQueued = true) (s : Watch.State) (now c : Nat)
    (hin : (s.conn c).inTx = true) :
    (step q s now (.unwatch c)).2 = .queued ∧
    ((step q s now (.unwatch c)).1.conn c).watched = (s.conn c).watched ∧
    ((step q s now (.unwatch c)).1.conn c).queued = (s.conn c).queued + 1 ∧
    ((step q s now (.unwatch c)).1.conn c).inTx = true ∧
    (step q s now (.unwatch c)).1.trk = s.trk ∧ (step q s now (.unwatch c)).1.data = s.data := by
  have h1 : (step q s now (.unwatch c)) =
      (s.setConn c { (s.conn c) with queued := (s.conn c).queued + 1 }, .queued) := by
    simp [step, hq, hin]
  rw [h1]
  refine ⟨rfl, ?_, ?_, ?_, rfl, rfl⟩ <;> (rw [conn_setConn]; simp [hin])

/-- A command that is refused (MULTI / EXEC / DISCARD / UNWATCH with surplus arguments: `Gen.txArityGuard`) changes
    nothing: the watches stay, an open MULTI stays open with its queue, the dataset is untouched. -/
theorem refused_changes_nothing (q : Q) (s : Watch.State) (now c : Nat) :
    (step q s now (.refused c)).1 = s ∧ (step q s now (.refused c)).2 = .err := ⟨rfl, rfl⟩

/-- ... and afterwards no key is watched: whatever is changed later, by anyone, a later transaction of the
    connection is not aborted, until it WATCHes again. -/
theorem forgotten_never_aborts (q : Q) (s : Watch.State) (evs : List (Nat × Watch.Ev)) (c now : Nat) (ops : List Op)
    (he : (s.conn c).watched = []) (h : ∀ e ∈ evs, noWatchBy c e.2 = true) :
    (step q (run q s evs) now (.exec c ops)).2 ≠ .nil := by
  intro hn
  rw [exec_nil_iff] at hn
  have := empty_watch_run q s evs c h he
  unfold execAborts at hn
  rw [this] at hn
  simp at hn

/-- Watching is per connection: an event issued by one connection (or the sweeper) leaves the record of
    every other connection — its watch list with the baselines, its database, its MULTI state — unchanged;
    in particular EXEC / UNWATCH / DISCARD of one client never clear another client's watch list, and a client
    that watches nothing is never aborted (`forgotten_never_aborts`). -/
theorem watch_is_per_connection (q : Q) (s : Watch.State) (now : Nat) (ev : Watch.Ev) (c' : Nat)
    (h : issuer ev ≠ some c') : (step q s now ev).1.conn c' = s.conn c' :=
  conn_step_other q s now ev c' h

/-- In the prescribed variant a WATCH of a key that is already watched (same database) changes nothing: the
    first baseline stays. -/
theorem fixed_rewatch_is_noop (q : Q) (hq : q.rewatchKeeps = true) (s : Watch.State) (c now : Nat) (k : Key) (w : W)
    (hw : w ∈ (s.conn c).watched) (hk : w.key = k) (hd : w.regDb = (s.conn c).db) :
    watchKey q c now s k = s := by
  unfold watchKey
  have : (s.conn c).watched.any (fun w => decide (w.key = k) && decide (w.regDb = (s.conn c).db)) = true := by
    rw [List.any_eq_true]; exact ⟨w, hw, by simp [hk, hd]⟩
  simp [hq, this]

/-! ## Witnesses (each was replayed over TCP by lib/c08.py while the defect existed)

  The first group speaks about the OLD table rows (a storage function that changes the watched key without
  marking) and the OLD switch values `Q.code`: every history is `Safe`, the watcher stays quiet, the stored
  entry of the watched key changes in the third step — all hypotheses of `watch_sound` except the table
  condition / the prescribed watch list — and EXEC executes.  Next to each: the current tree aborts. -/

/-- a marking write (SET by another client) aborts: the positive control -/
theorem set_aborts : execAfter Gen.watchQ hSet 1010 = .nil ∧ judged Gen.watchQ hSet 1010 = [(.nil, .mustNil)] := by
  delta hSet oneChange setOp tableOp
  rw [set_value_marks]
  decide

/-- a write to another key does not: the negative control -/
theorem other_key_runs :
    execAfter Gen.watchQ hOtherKey 1010 = .array 0 ∧ judged Gen.watchQ hOtherKey 1010 = [(.array 0, .mustRun)] := by
  delta hOtherKey oneChange setOp tableOp
  rw [set_value_marks]
  decide

/-- On the current tree (table rows and watch list as regenerated) every one of the formerly failing
    histories aborts: EXPIRE, PEXPIRE, PERSIST, RENAME from/to, FLUSHDB, FLUSHALL, re-WATCH after a change,
    SELECT between WATCH and EXEC, UNWATCH after SELECT by another client (both shapes) — and the SELECT history
    that used to abort falsely executes. -/
theorem tree_former_witnesses_abort :
    execAfter Gen.watchQ hExpire 1010 = .nil ∧ execAfter Gen.watchQ hPexpire 1010 = .nil ∧
    execAfter Gen.watchQ hPersist 1010 = .nil ∧ execAfter Gen.watchQ hRenameSrc 1010 = .nil ∧
    execAfter Gen.watchQ hRenameDst 1010 = .nil ∧ execAfter Gen.watchQ hFlush 1010 = .nil ∧
    execAfter Gen.watchQ hFlushAll 1010 = .nil ∧ execAfter Gen.watchQ hRewatch 1010 = .nil ∧
    execAfter Gen.watchQ hSelectExec 1010 = .nil ∧ execAfter Gen.watchQ hUnwatchSteals 1010 = .nil ∧
    execAfter Gen.watchQ hUnwatchWraps 1010 = .nil ∧ execAfter Gen.watchQ hSelectFalseAbort 1010 = .array 0 ∧
    judged Gen.watchQ hExpire 1010 = [(.nil, .mustNil)] ∧ judged Gen.watchQ hFlush 1010 = [(.nil, .mustNil)] ∧
    judged Gen.watchQ hSelectFalseAbort 1010 = [(.array 0, .mustRun)] := by
  delta hExpire hPexpire hPersist hRenameSrc hRenameDst hFlush hFlushAll hRewatch hSelectExec
    hUnwatchSteals hUnwatchWraps hSelectFalseAbort oneChange setOp tableOp
  rw [set_value_marks, expire_marks, pexpire_marks, persist_marks, storageFns_marks.2.2.2.1, storageFns_marks.2.2.2.2,
    storageFns_marks.2.1]
  decide

/-- old row of `expire` (before 9b86ca2: mutates, does not mark): EXPIRE / PEXPIRE on the watched key — EXEC
    executes in every variant of the watch list, the Spec demands nil -/
theorem watch_sound_fails_expire :
    Safe Q.fixed State.init hExpireOld = true ∧
    (run Q.fixed State.init (hExpireOld.take 3)).entry 0 kWk ≠ (run Q.fixed State.init (hExpireOld.take 2)).entry 0 kWk ∧
    execAfter Q.fixed hExpireOld 1010 = .array 0 ∧ execAfter Q.code hExpireOld 1010 = .array 0 ∧
    judged Q.fixed hExpireOld 1010 = [(.array 0, .mustNil)] := by
  delta hExpireOld oneChange setOp tableOp
  rw [set_value_marks]
  decide

/-- old row of `persist` (before 96ab82d) -/
theorem watch_sound_fails_persist :
    Safe Q.fixed State.init hPersistOld = true ∧
    (run Q.fixed State.init (hPersistOld.take 3)).entry 0 kWk ≠ (run Q.fixed State.init (hPersistOld.take 2)).entry 0 kWk ∧
    execAfter Q.fixed hPersistOld 1010 = .array 0 ∧ judged Q.fixed hPersistOld 1010 = [(.array 0, .mustNil)] := by
  delta hPersistOld tableOp
  rw [set_value_marks]
  decide

/-- old row of `rename` (before 414e6c4: the source key parameter is not marked) -/
theorem watch_sound_fails_rename_source :
    Safe Q.fixed State.init hRenameSrcOld = true ∧
    (run Q.fixed State.init (hRenameSrcOld.take 3)).entry 0 kWk ≠ (run Q.fixed State.init (hRenameSrcOld.take 2)).entry 0 kWk ∧
    execAfter Q.fixed hRenameSrcOld 1010 = .array 0 ∧ judged Q.fixed hRenameSrcOld 1010 = [(.array 0, .mustNil)] := by
  delta hRenameSrcOld oneChange setOp tableOp
  rw [set_value_marks, storageFns_marks.2.2.2.1]
  decide

/-- old row of `flush_db` (before 2a25c7e: marksAll = false): FLUSHDB / FLUSHALL removing the watched key -/
theorem watch_sound_fails_flush :
    Safe Q.fixed State.init hFlushOld = true ∧
    (run Q.fixed State.init (hFlushOld.take 3)).entry 0 kWk ≠ (run Q.fixed State.init (hFlushOld.take 2)).entry 0 kWk ∧
    execAfter Q.fixed hFlushOld 1010 = .array 0 ∧ judged Q.fixed hFlushOld 1010 = [(.array 0, .mustNil)] ∧
    execAfter Q.fixed hFlushAllOld 1010 = .array 0 := by
  delta hFlushOld hFlushAllOld oneChange setOp tableOp
  rw [set_value_marks]
  decide

/-- old switch `rewatchKeeps = false` (before 180a098): a second WATCH of the same key replaces the baseline, the
    change made before it is forgotten; with the switch on EXEC aborts -/
theorem watch_sound_fails_rewatch :
    execAfter Q.code hRewatch 1010 = .array 0 ∧ judged Q.code hRewatch 1010 = [(.array 0, .mustNil)] ∧
    execAfter ⟨true, false, false, false⟩ hRewatch 1010 = .array 0 ∧ execAfter Q.noPurge hRewatch 1010 = .nil := by
  delta hRewatch setOp tableOp
  rw [set_value_marks]
  decide

/-- old switch `perDb = false` (before 3ed7039): EXEC checks the watched key in the database selected at EXEC
    time — WATCH k; SELECT 1; k changes in db 0; EXEC executes (the history is not `Safe Q.code`) -/
theorem watch_sound_fails_select_exec :
    Safe Q.code State.init hSelectExec = false ∧ Safe Q.noPurge State.init hSelectExec = true ∧
    execAfter Q.code hSelectExec 1010 = .array 0 ∧ judged Q.code hSelectExec 1010 = [(.array 0, .mustNil)] ∧
    execAfter Q.noPurge hSelectExec 1010 = .nil := by
  delta hSelectExec setOp tableOp
  rw [set_value_marks]
  decide

/-- ... and aborts for a change of the other database's key of that name: a false abort -/
theorem no_false_abort_fails_select :
    execAfter Q.code hSelectFalseAbort 1010 = .nil ∧ judged Q.code hSelectFalseAbort 1010 = [(.nil, .mustRun)] ∧
    execAfter Q.noPurge hSelectFalseAbort 1010 = .array 0 := by
  delta hSelectFalseAbort setOp tableOp
  rw [set_value_marks]
  decide

/-- old switch `perDb = false`: UNWATCH unregisters in the database selected at UNWATCH time — it takes another
    client's registration away (watcher count 1 → 0), `mark_modified` becomes a no-op and that client's EXEC
    misses the change -/
theorem watch_sound_fails_unwatch_steals :
    (run Q.code State.init (hUnwatchSteals.take 5)).active 1 (shardOf kWk) = 0 ∧
    execAfter Q.code hUnwatchSteals 1010 = .array 0 ∧ judged Q.code hUnwatchSteals 1010 = [(.array 0, .mustNil)] ∧
    execAfter Q.noPurge hUnwatchSteals 1010 = .nil := by
  delta hUnwatchSteals setOp tableOp
  rw [set_value_marks]
  decide

/-- ... on a zero count it wraps to usize::MAX, and the next registration wraps it back to 0 -/
theorem watch_sound_fails_unwatch_wraps :
    (run Q.code State.init (hUnwatchWraps.take 3)).active 1 (shardOf kWk) = 18446744073709551615 ∧
    (run Q.code State.init (hUnwatchWraps.take 5)).active 1 (shardOf kWk) = 0 ∧
    execAfter Q.code hUnwatchWraps 1010 = .array 0 ∧ judged Q.code hUnwatchWraps 1010 = [(.array 0, .mustNil)] ∧
    execAfter Q.noPurge hUnwatchWraps 1010 = .nil := by
  delta hUnwatchWraps setOp tableOp
  rw [set_value_marks]
  decide

/-- old switch `unwatchQueued = false` (before 7dd14e2, hunt C08/d1): UNWATCH between MULTI and EXEC ran at once and
    dropped the watches — WATCH wk; MULTI; UNWATCH; another client writes wk; EXEC executed.  Queued (the current
    tree) EXEC returns nil; the Spec demands nil in both. -/
theorem watch_sound_fails_unwatch_in_multi :
    execAfter Q.unwatchAtOnce hUnwatchInMulti 1010 = .array 0 ∧
    judged Q.unwatchAtOnce hUnwatchInMulti 1010 = [(.array 0, .mustNil)] ∧
    execAfter Gen.watchQ hUnwatchInMulti 1010 = .nil ∧ judged Gen.watchQ hUnwatchInMulti 1010 = [(.nil, .mustNil)] := by
  delta hUnwatchInMulti setOp tableOp
  rw [set_value_marks]
  decide

/-- refused UNWATCH / EXEC / DISCARD (surplus arguments, hunt C08/d3) leave the watch: the later change aborts, and
    the transaction opened before the refused EXEC / DISCARD is still the one EXEC ends -/
theorem refused_commands_keep_watches :
    execAfter Gen.watchQ hRefused 1010 = .nil ∧ judged Gen.watchQ hRefused 1010 = [(.nil, .mustNil)] ∧
    execAfter Gen.watchQ (hRefused.take 6) 1010 = .array 0 := by
  delta hRefused setOp tableOp
  rw [set_value_marks]
  decide

/-- old switch `watchPurges = false` (before cf01a0f): WATCH of a key that is stored but already past its
    deadline — nothing happens afterwards, EXEC returns nil although the key was logically absent at WATCH and
    still is.  With the purge at WATCH time (`Q.fixed`, the current tree) EXEC executes. -/
theorem no_false_abort_fails_expired_at_watch :
    execAfter Q.noPurge hExpiredAtWatch 1110 = .nil ∧ judged Q.noPurge hExpiredAtWatch 1110 = [(.nil, .mustRun)] ∧
    execAfter Q.code hExpiredAtWatch 1110 = .nil ∧
    execAfter Q.fixed hExpiredAtWatch 1110 = .array 0 ∧ judged Q.fixed hExpiredAtWatch 1110 = [(.array 0, .mustRun)] := by
  delta hExpiredAtWatch tableOp
  rw [set_value_marks]
  decide

/-- the deadline passing between WATCH and EXEC aborts (lazy path), before it does not -/
theorem expiry_aborts :
    execAfter Gen.watchQ hExpires 1100 = .array 0 ∧ execAfter Gen.watchQ hExpires 1151 = .nil ∧
    judged Gen.watchQ hExpires 1151 = [(.nil, .mustNil)] ∧ judged Gen.watchQ hExpires 1100 = [(.array 0, .mustRun)] := by
  delta hExpires tableOp
  rw [set_value_marks]
  decide

/-! ## Non-vacuity: the hypotheses of the theorems are satisfiable -/

/-- `watch_sound_tree` applied to the EXPIRE history on the current tree (state after `SET wk; WATCH wk`, then the
    other client's EXPIRE built from the table, then MULTI): all hypotheses hold, EXEC returns nil. -/
example : (step Gen.watchQ (run Gen.watchQ (run Gen.watchQ State.init (hExpire.take 2))
      ([] ++ (1002, .cmd 1 [tableOp "expire" "key" kWk (.put ⟨1, some 600000⟩)]) :: [(1003, .multi 0)])) 1010 (.exec 0 [])).2 = .nil :=
  by
  delta hExpire oneChange setOp tableOp
  rw [set_value_marks, expire_marks]
  exact watch_sound_tree _ [] [(1003, .multi 0)] 1002 _ 0 ⟨kWk, 0, 0⟩ 1010 []
    (reachable_inv _ _ (by decide)) (by decide) (by decide) (by decide) (by decide) (by decide) (by decide)

/-- `watch_sound_partial` applied to the SET history with the old switches -/
example : (step Q.code (run Q.code (run Q.code State.init (hSet.take 2)) ([] ++ (1002, .cmd 1 [setOp kWk 2]) :: [(1003, .multi 0)]))
    1010 (.exec 0 [])).2 = .nil :=
  by
  delta hSet oneChange setOp tableOp
  rw [set_value_marks]
  exact watch_sound_partial _ [] [(1003, .multi 0)] 1002 _ 0 ⟨kWk, 0, 0⟩ ⟨"set_value", kWk, true, .put ⟨2, none⟩⟩ 1010 []
    (reachable_inv _ _ (by decide)) (by decide) (by decide) (by decide) (by decide) rfl (by decide) rfl (by decide)

/-- `watch_sound` with the sweeper's deletion as the changing step, prescribed variant -/
example : (step Q.fixed (run Q.fixed (run Q.fixed State.init (hExpires.take 2)) ([] ++ (1200, .sweep 0 kWk true) :: [(1201, .multi 0)]))
    1210 (.exec 0 [])).2 = .nil :=
  by
  delta hExpires tableOp
  rw [set_value_marks]
  exact watch_sound _ _ [] [(1201, .multi 0)] 1200 _ 0 ⟨kWk, 0, 0⟩ 1210 []
    (reachable_inv _ _ (by decide)) (by decide) (by decide) (by decide) (by decide) (by decide) (by decide)

/-- `no_false_abort_after_watch`: WATCH wk, another client writes another key, MULTI, EXEC -/
example : (step Gen.watchQ (run Gen.watchQ (run Gen.watchQ State.init [(1000, .cmd 1 [setOp kWk 1])])
      ((1001, .watch 0 [kWk]) :: [(1002, .cmd 1 [setOp kOther 2]), (1003, .multi 0)])) 1010 (.exec 0 [])).2 ≠ .nil :=
  by
  delta setOp tableOp
  rw [set_value_marks]
  exact no_false_abort_after_watch _ _ 1001 _ 0 1010 kWk [] (by decide) (by decide) (by decide) (by decide) (by decide)

end Ferrous.C08
