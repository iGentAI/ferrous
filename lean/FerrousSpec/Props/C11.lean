/-
  C11 — with appendonly enabled the AOF is a faithful redo log.

  Property theorems only; helper lemmas live in FerrousSpec/Proofs/Aof*.lean.
  Model: FerrousSpec/Model/Aof.lean (on top of the key-space machine `KS.step`): `Code.fileStep`/`Code.fileAfter`
  (what `process_normal_command` writes), `log cfg h` (the commands in the file after history `h`; `Cfg.treeX w …` =
  write table `w` and the switches the translator regenerates — `treeCfg` below is the current tree —, `Cfg.code w` =
  the tree as it was pinned (the table rule alone), `Cfg.fixed w` = what the property prescribes), `live` (the server
  after `h`), `replay` (the entries, in file order, on a fresh connection of an empty server, at any instants).
  Tie to the code: `Gen.writeCommands`, `Gen.aofDispatchNames`, `Gen.appendBeforeDispatch`, `Gen.appendSites`,
  `Gen.wakeLogs` are regenerated from src/network/server.rs on every run (translator/aof_tables.py); lib/c11.py
  compares the real file byte for byte with `fileOf (log treeCfg h)` (the driver is given the same regenerated table
  and switches) and the two datasets (live server, fresh server fed the file) with `live` / `replayAt`.

  Agreement (`Agree`) = in every database the same keys in the same order with the same values, and a key has a
  deadline on one side iff it has one on the other (values + TTL presence; never remaining time).
-/
import FerrousSpec.Proofs.AofFrames
import FerrousSpec.Proofs.AofReplay
import FerrousSpec.Proofs.AofRandom
import FerrousSpec.Proofs.KsAtomic
import FerrousSpec.Proofs.NameCode
import FerrousSpec.Props.C20
import FerrousSpec.Gen.Aof
namespace Ferrous.C11
open Ferrous Ferrous.KS Ferrous.Aof

/-! ### (1) The file is at all times a sequence of complete command frames -/

/-- The bytes in the file after any history — appended by `process_normal_command` before each dispatch (with the
    `SELECT` of `append_command_in_db` when `sel`), by `log_effect` (the pops made for blocking clients, handed over by
    `log_blocking_pop`, when `wake`; SPOP / `XADD *` after the dispatch by their effect when `eff`) and by
    `log_expired_keys` (the `DEL` of a key whose time to live elapsed, when `exp`): the sites of `append_sites_known` —
    are exactly the serialisations of the commands of `log`, one after the other. -/
theorem code_file_is_log (w : List String) (sel wake eff exp : Bool) (hwf : (Cfg.treeX w sel wake eff exp).wf = true) (h : List Aof.Ev) :
    (Code.fileAfter w sel wake eff exp {} h).file = fileOf (log (Cfg.treeX w sel wake eff exp) h) :=
  fileAfter_eq w sel wake eff exp hwf h

/-- Every state-changing command that passed through `process_normal_command` is represented exactly once, in
    execution order: under the table rule alone (`Cfg.code`: no SELECT entries, no pops made for blocking clients) the
    log is the sub-list of the commands received whose name is in the table. -/
theorem logged_once_in_order (w : List String) (h : List Aof.Ev) :
    log (Cfg.code w) h = (rawsOf h).filter fun raw => isWrite w (nameOf raw) :=
  log_code_eq_filter w {} h

/-- For every list of commands — arguments arbitrary bytes (CR, LF, NUL, `*3\r\n…` included) — the concatenation of
    their serialisations is read back by a strict reader as exactly those commands, ending at a frame end. -/
theorem log_is_frames (cs : List (List Bytes)) (hw : ∀ c ∈ cs, cmdWf c) : readLog (fileOf cs) = (cs, .clean) :=
  readLog_fileOf cs hw

/-- The same holds at every frame boundary: the file cut after the `k`-th command is a prefix of the file and reads
    back as the first `k` commands. -/
theorem log_prefix_at_frame_end (cs : List (List Bytes)) (hw : ∀ c ∈ cs, cmdWf c) (k : Nat) :
    fileOf cs = fileOf (cs.take k) ++ fileOf (cs.drop k) ∧ readLog (fileOf (cs.take k)) = (cs.take k, .clean) := by
  constructor
  · rw [← fileOf_append, List.take_append_drop]
  · exact readLog_fileOf _ fun c hc => hw c (List.mem_of_mem_take hc)

/-- A `kill -9` in the middle of an append loses at most the last command: the file cut anywhere strictly inside the
    frame of one more command reads back as all complete commands before it, then "need more data" — never as a
    wrong command and never as garbage. -/
theorem log_torn_tail (cs : List (List Bytes)) (hw : ∀ c ∈ cs, cmdWf c) (c : List Bytes) (hc : cmdWf c)
    (p e : Bytes) (hpe : p ++ e = serCmd c) (hp : p ≠ []) (he : e ≠ []) :
    readLog (fileOf cs ++ p) = (cs, .torn p) :=
  readLog_torn cs hw c hc p e hpe hp he

/-- ferrous's own incremental parser (the one `AofEngine::load` uses), fed the file in ANY chunking, yields exactly
    the appended commands, no error and nothing else (C20's chunking independence + round trip). -/
theorem log_parses_under_any_chunking (cs : List (List Bytes)) (hw : ∀ c ∈ cs, cmdWf c) (chunks : List Bytes)
    (hfl : chunks.flatten = fileOf cs) :
    runChunks true [] chunks = cs.map fun c => Ferrous.Ev.frame (cmdFrame c) := by
  rw [C20.chunking_independent chunks, hfl, runWhole_fileOf cs hw]

/-- The logging rule of the current tree, as regenerated by the translator: the write table, whether a `SELECT` is
    emitted when the database changes, whether pops made for blocking clients are logged, whether SPOP / `XADD *` are
    logged by their effect. -/
def treeCfg : Cfg := Cfg.treeX Gen.writeCommands Gen.selectTracked Gen.wakeLogs Gen.randomByEffect Gen.expiryLogged

/-! ### (2) Every state-changing command is represented: the write table against the catalogue -/

/-- KEY LEMMA (what makes the hand-written catalogue trustworthy): a command of the key-space machine whose name is
    not in `Spec.writeNames` returns the database it was given — for all databases, arguments, instants, draws. -/
theorem readonly_never_changes_dataset (q : Quirks) (db : Db) (now : Nat) (name : String) (args : List Bytes)
    (obs : Option (List Bytes)) (h : ¬ name ∈ Spec.writeNames) : (stepDb q db now name args obs).1 = db :=
  stepDb_readonly q db now name args obs h

/-- … and every name in `Spec.writeNames` does change some database (`FLUSHALL`: the whole store). -/
theorem writeNames_all_mutate :
    (∀ n ∈ Spec.writeNames, n = "FLUSHALL" ∨
      ∃ w ∈ Spec.mutWitness, w.1 = n ∧ (stepDb Quirks.spec w.2.1 1000 n w.2.2 (some [[97]])).1 ≠ w.2.1) ∧
    (step Quirks.spec [[([107], ⟨.str [53], none⟩)]] 0 1000 [[70, 76, 85, 83, 72, 65, 76, 76]] none).1 ≠ [[([107], ⟨.str [53], none⟩)]] := by
  -- the tables of this section are walked by the kernel alone (the elaborator's own evaluation of the same
  -- instances costs twice as much again), names compared as numbers (`hasName`)
  decide +kernel

/-- FULL: every mutating command of the catalogue is in the regenerated table (`Spec.notLogged = []`; GETSET, HMSET and
    PEXPIRE were missing on the pinned tree). -/
theorem writes_are_logged : ∀ n ∈ Spec.writeNames, n ∈ Gen.writeCommands := by
  have h : Spec.writeNames.all (hasName Gen.writeCommands) = true := by decide +kernel
  simpa only [List.all_eq_true, hasName_iff] using h
theorem writes_are_logged_partial : ∀ n ∈ Spec.writeNames, n ∉ Spec.notLogged → n ∈ Gen.writeCommands :=
  fun n hn _ => writes_are_logged n hn
theorem no_exception_left : Spec.notLogged = [] := rfl

/-- The same for the dispatched commands outside the key-space machine that change the dataset; the only names kept
    out of the table are BLPOP/BRPOP, which may block and are therefore logged by their effect … -/
theorem outside_writes_logged : ∀ n ∈ Spec.outsideWrites, n ∉ Spec.notLoggedOutside → n ∈ Gen.writeCommands := by
  have h : Spec.outsideWrites.all (fun n => hasName Spec.notLoggedOutside n || hasName Gen.writeCommands n) = true := by
    decide +kernel
  simp only [List.all_eq_true, Bool.or_eq_true, hasName_iff] at h
  exact fun n hn hx => (h n hn).resolve_left hx
/-- … the pop they perform, at once or when the blocked client is served, is appended as `LPOP key` / `RPOP key`. -/
theorem blocking_names_logged_by_effect :
    (∀ n ∈ Spec.notLoggedOutside, n ∈ Spec.outsideWrites ∧ n ∉ Gen.writeCommands) ∧
    Gen.blockingPopLogged = true ∧ Gen.wakeLogs = true := by decide

/-- The catalogue is total: every name `process_normal_command` dispatches is classified (a command added to the
    server makes this fail until it is classified). -/
theorem catalogue_total :
    ∀ n ∈ Gen.aofDispatchNames, n ∈ KS.cmdNames ∨ n ∈ Spec.outsideWrites ∨ n ∈ Spec.outsideReads := by
  have h : Gen.aofDispatchNames.all
      (fun n => hasName KS.cmdNames n || (hasName Spec.outsideWrites n || hasName Spec.outsideReads n)) = true := by
    decide +kernel
  simpa only [List.all_eq_true, Bool.or_eq_true, hasName_iff] using h

/-- Nothing read-only is logged by name, except that EVAL/EVALSHA are logged whatever the script does. -/
theorem table_has_no_reads :
    ∀ n ∈ Gen.writeCommands, n ∈ Spec.writeNames ∨ n ∈ Spec.outsideWrites := by
  have h : Gen.writeCommands.all (fun n => hasName Spec.writeNames n || hasName Spec.outsideWrites n) = true := by
    decide +kernel
  simpa only [List.all_eq_true, Bool.or_eq_true, hasName_iff] using h

/-- Where the log is written: in `process_normal_command`, once, before the dispatch and whatever the outcome; the other
    sites (`append_sites_known` below) are `log_effect` (entries that stand for an effect: SPOP / `XADD *`, the `EVAL`
    of an EVALSHA and, through `log_blocking_pop`, the pops made for BLPOP/BRPOP clients) and `log_expired_keys` (the
    `DEL` of an expired key); names forced off are not modelled commands. -/
theorem append_before_dispatch : Gen.appendBeforeDispatch = true := by decide
/-- "At all times": under every fsync policy each append hands its bytes to the OS before the command is answered, so
    the file a reader sees is `Code.fileAfter` of the history so far (what differs between the policies is fsync). -/
theorem every_policy_flushes_per_append :
    Gen.flushPerAppend = [("Always", true), ("EverySecond", true), ("No", true)] := by decide
theorem append_sites_known :
    ∀ s ∈ Gen.appendSites, s ∈ ["network/server.rs:process_normal_command", "network/server.rs:log_blocking_pop",
      "network/server.rs:log_effect", "network/server.rs:log_expired_keys"] := by decide
theorem blocking_pops_logged : Gen.wakeLogs = true ∧ Gen.blockingPopLogged = true := by decide
/-- SELECT is connection state: it is not in the table (were it logged verbatim, connections in different databases
    would redirect each other's entries) … -/
theorem table_excludes_select : treeCfg.wf = true := by decide
/-- … instead a `SELECT db` entry is written whenever the database of an entry differs from the previous entry's. -/
theorem select_tracked : Gen.selectTracked = true := by decide
/-- a SELECT queued in a transaction selects (the model treats it like a direct SELECT) -/
theorem exec_select_selects : Gen.execSelectSelects = true := by decide
/-- one switch covers both pops made for a blocking client (at once / when served): the model has one event for them -/
theorem blocking_pops_logged_alike : Gen.blockingPopLogged = Gen.wakeLogs := by decide
theorem forced_off_outside_catalogue : ∀ n ∈ Gen.writeForcedOff, n ∉ Spec.writeNames ∧ n ∉ Spec.outsideWrites := by decide

/-! ### (3) Replay = live: re-executing the file's commands in order on an empty server yields the live dataset -/

/-- GENERAL (any write table and switches; `treeCfg` follows the regenerated ones): for every history inside the model
    all of whose events the log covers (`covered`, decidable: a mutating command is in the table, no SPOP, an entry is
    written only where the reader of the log is — always true with SELECT tracking —, pops made for blocking clients
    are logged) and every replay of the file's entries, in file order on a fresh connection of an empty server, at
    ANY instants and with any random draws: if no deadline passes during the history or during the replay (and, where
    SPOP is logged by its effect, the members reported for a SPOP are what it took: `drawsOk`), the replayed dataset
    agrees with the live one in every database (values, TTL presence). -/
theorem replay_eq_live_partial (q : Quirks) (h : List Aof.Ev) (es : List REntry)
    (hes : es.map (·.cmd) = log treeCfg h)
    (hin : ∀ ev ∈ h, inModel ev = true)
    (hcov : coveredAll treeCfg h = true)
    (hqL : quietLive q {} h = true) (hqR : quietReplay q {} es = true) (hdr : drawsOk q {} h = true) :
    Agree (live q h).store (replay q es).store :=
  replay_sim q treeCfg table_excludes_select h {} {} {} es (inv_init _) StoreOk_empty hes hin hcov hqL hqR hdr

/-- The logging rule of the current tree is the prescribed one — SELECT tracking, pops made for blocking clients
    logged, over the regenerated table (which `writes_are_logged` shows complete) — up to the one switch … -/
theorem tree_is_spec_up_to_random :
    treeCfg = { Cfg.fixed Gen.writeCommands with byEffect := Gen.randomByEffect, logExpiry := Gen.expiryLogged } := by decide
/-- … that is on since 8275e7a: SPOP / `XADD key *` are logged by their effect (`SREM` of what was taken, `XADD` with the
    assigned id) and EVALSHA as the `EVAL` it stands for.  (Before: logged verbatim / by hash.) -/
theorem random_logged_by_effect : Gen.randomByEffect = true ∧ Gen.evalshaAsEval = true := by decide

/-- … and the removal of a key whose time to live elapsed is logged as an explicit `DEL` (bc070c5; the witness
    `replay_fails_unlogged_expiry` shows what the tree did before). -/
theorem expiry_logged : Gen.expiryLogged = true := by decide
/-- outside the Lean model (streams; start-up): XCLAIM is logged by its effect (2b0100e), a torn tail is cut back to the
    last complete frame before the writer is opened (c034242) -/
theorem xclaim_logged_by_effect : Gen.xclaimByEffect = true := by decide
theorem torn_tail_truncated : Gen.tornTailTruncated = true := by decide

/-- FULL, for the prescribed log: with a table that contains every mutating command and EVAL (and not SELECT), a
    `SELECT` emitted whenever the database changes, pops made for blocking clients logged as `LPOP`/`RPOP` and SPOP
    logged as the `SREM` of what it took, the statement holds for EVERY history of the model — all 16 databases, all
    four paths, refused commands included — except a SPOP run inside a script (the script is logged verbatim). -/
theorem replay_eq_live_fixed (q : Quirks) (w : List String) (hall : ∀ n ∈ Spec.writeNames, n ∈ w) (heval : "EVAL" ∈ w)
    (hsel : (Cfg.fixed w).wf = true) (h : List Aof.Ev) (es : List REntry)
    (hes : es.map (·.cmd) = log (Cfg.fixed w) h)
    (hin : ∀ ev ∈ h, inModel ev = true)
    (hdet : ∀ raw ∈ rawsOf h, ¬ Spec.randomWrites.contains (effName raw) = true ∨ nameOf raw = "SPOP")
    (hqL : quietLive q {} h = true) (hqR : quietReplay q {} es = true) (hdr : drawsOk q {} h = true) :
    Agree (live q h).store (replay q es).store :=
  replay_sim q (Cfg.fixed w) hsel h {} {} {} es (inv_init _) StoreOk_empty hes hin
    (coveredFrom_tracked (Cfg.fixed w) rfl rfl hall heval h {} (fun raw hr => (hdet raw hr).imp id (fun hs => ⟨rfl, hs⟩))
      (fun _ _ _ => rfl))
    hqL hqR hdr

/-- The regenerated table satisfies the hypotheses of `replay_eq_live_fixed`. -/
theorem table_suffices :
    (∀ n ∈ Spec.writeNames, n ∈ Gen.writeCommands) ∧ "EVAL" ∈ Gen.writeCommands ∧ (Cfg.fixed Gen.writeCommands).wf = true :=
  ⟨writes_are_logged, by decide, by decide⟩

/-- THE PROPERTY ON THE CURRENT TREE: for EVERY history of the model — all 16 databases, direct / EXEC / script /
    blocking paths, refused commands included — in which no write with a random outcome is logged verbatim (with
    `Gen.randomByEffect`, which holds since 8275e7a: no SPOP inside a script; without it: no SPOP at all), every
    replay of the file, AT ANY LATER INSTANTS (the times of `es` are arbitrary), agrees with the live dataset (values, TTL
    presence).  TIME PASSES in `h`: the instants of its events are arbitrary and keys expire — each removal an `expire`
    event, allowed here iff the tree logs it (`Gen.expiryLogged`, which holds since bc070c5).  What is asked of time:
    `quietLive` — when a command runs, no dead entry is left in its database (the removals came first, which is what
    lazy expiry does for the keys a command looks at) — and `quietReplay` — no deadline passes while the file is being
    replayed (TTLs are logged relative; the server has no PEXPIREAT/PXAT to log them absolute). -/
theorem replay_eq_live (q : Quirks) (h : List Aof.Ev) (es : List REntry)
    (hes : es.map (·.cmd) = log treeCfg h)
    (hin : ∀ ev ∈ h, inModel ev = true)
    (hdet : ∀ raw ∈ rawsOf h, ¬ Spec.randomWrites.contains (effName raw) = true ∨ (Gen.randomByEffect = true ∧ nameOf raw = "SPOP"))
    (hexp : ∀ ev ∈ h, isExpire ev = true → Gen.expiryLogged = true)
    (hqL : quietLive q {} h = true) (hqR : quietReplay q {} es = true) (hdr : drawsOk q {} h = true) :
    Agree (live q h).store (replay q es).store := by
  exact replay_sim q treeCfg table_excludes_select h {} {} {} es (inv_init _) StoreOk_empty hes hin
    (coveredFrom_tracked treeCfg select_tracked blocking_pops_logged.1 table_suffices.1 table_suffices.2.1 h {} hdet hexp)
    hqL hqR hdr

/-- ACROSS A RESTART, on the current tree: the first run leaves the entries of `h1`; the server is restarted on the same
    file with its dataset back (start-up does not replay the file; the correspondence run uses SAVE, or a FLUSHALL
    that puts both sides into the same state); every connection is new (database 0) and the engine's `last_db` is
    unknown (`LogSt.restarted`), so the first entry of the second run is preceded by a SELECT whatever its database;
    the second run appends the entries of `h2`.  Replaying the WHOLE file agrees with the live dataset at the end. -/
theorem replay_eq_live_across_restart (q : Quirks) (h1 h2 : List Aof.Ev) (es1 es2 : List REntry)
    (hes1 : es1.map (·.cmd) = log treeCfg h1) (hes2 : es2.map (·.cmd) = logFrom treeCfg LogSt.restarted h2)
    (hin1 : ∀ ev ∈ h1, inModel ev = true) (hin2 : ∀ ev ∈ h2, inModel ev = true)
    (hdet1 : ∀ raw ∈ rawsOf h1, ¬ Spec.randomWrites.contains (effName raw) = true ∨ (Gen.randomByEffect = true ∧ nameOf raw = "SPOP"))
    (hdet2 : ∀ raw ∈ rawsOf h2, ¬ Spec.randomWrites.contains (effName raw) = true ∨ (Gen.randomByEffect = true ∧ nameOf raw = "SPOP"))
    (hexp1 : ∀ ev ∈ h1, isExpire ev = true → Gen.expiryLogged = true) (hexp2 : ∀ ev ∈ h2, isExpire ev = true → Gen.expiryLogged = true)
    (hqL1 : quietLive q {} h1 = true) (hqL2 : quietLive q (live q h1).restarted h2 = true)
    (hqR1 : quietReplay q {} es1 = true) (hqR2 : quietReplay q (replay q es1) es2 = true)
    (hdr1 : drawsOk q {} h1 = true) (hdr2 : drawsOk q (live q h1).restarted h2 = true) :
    Agree (liveFrom q (live q h1).restarted h2).store (replay q (es1 ++ es2)).store := by
  have hcov := coveredFrom_tracked treeCfg select_tracked blocking_pops_logged.1 table_suffices.1 table_suffices.2.1
  exact replay_sim_restart q treeCfg table_excludes_select select_tracked h1 h2 es1 es2 hes1 hes2 hin1 hin2
    (hcov h1 {} hdet1 hexp1) (hcov h2 LogSt.restarted hdet2 hexp2) hqL1 hqL2 hqR1 hqR2 hdr1 hdr2

/-! Ties of the three places where an entry could silently go missing or land elsewhere.  The two theorems that follow:
    the engine treats the reader of an inherited file as unknown; the pop made by `wake_client` is logged whether or not
    the client can still be served (the element is gone either way).  The third is in `random_logged_by_effect` above:
    EVALSHA's entry is appended before the script runs (scripts that fail after writing are not rolled back) —
    `Gen.evalshaAsEval` includes that order. -/
theorem restart_tracking_is_unknown : Gen.lastDbUnknownOnInheritedFile = true := by decide
theorem wake_pop_logged_whatever_served : Gen.wakeLogsWhateverServed = true := by decide

/-- after a restart the first entry is preceded by a `SELECT`, whatever its database -/
theorem restart_forces_select (d : Nat) (hd : d < 16) : selFor treeCfg LogSt.restarted d = [selectCmd d] := by
  have hne : (16 : Nat) ≠ d := by omega
  simp [selFor, LogSt.restarted, unknownDb, show treeCfg.logSelect = true from select_tracked, hne]

/-- A refused write is logged too (the code appends before it executes) and is harmless: the live dataset is
    unchanged (failure atomicity), and replaying the entry on any agreeing dataset, at any instant, leaves the two
    in agreement. -/
theorem refused_logged_harmless (q : Quirks) (w : List String) (st : LogSt) (c cR : Conn) (ve : Bool) (now now' : Nat)
    (obs obs' : Option (List Bytes)) (raw : List Bytes)
    (hw : isWrite w (nameOf raw) = true) (hs : nameOf raw ≠ "SELECT") (hr : effName raw ≠ "SPOP")
    (herr : isErr (KS.step q c.store c.cur now (effCmd raw) obs).2 = true)
    (hqL : quietStep c c.cur now = true) (hcur : cR.cur = c.cur) (hqR : quietStep cR cR.cur now' = true)
    (hA : Agree c.store cR.store) :
    (logEv (Cfg.code w) st (.cmd ve now obs raw)).1 = [raw] ∧
    (execEv q c (.cmd ve now obs raw)).store = c.store ∧
    Agree (execEv q c (.cmd ve now obs raw)).store (execRaw q cR now' obs' raw).store := by
  have hqL' := quietStep_eq hqL
  have hqR' := quietStep_eq hqR
  have hexec : execEv q c (.cmd ve now obs raw) = { c with store := (KS.step q c.store c.cur now (effCmd raw) obs).1 } :=
    execRaw_not_select q c now obs raw hs
  rw [hexec, execRaw_not_select q cR now' obs' raw hs, logEv_code_cmd, hcur] at *
  refine ⟨by simp [hw], step_refused q c.store c.cur now _ obs hqL' herr, ?_⟩
  exact step_sim q c.store cR.store hA c.cur now now' (effCmd raw) obs obs' hqL' hqR' (Or.inl (by rw [nameOf_effCmd]; exact hr))

/-- What remains excluded from `replay_eq_live_fixed` can be logged by its effect: a `SPOP key [count]` that took the
    members `got` (any admissible outcome: the reply is not an error) leaves exactly the database `SREM key got…`
    leaves — on every database.  (This is the entry the tree writes for a SPOP: `random_logged_by_effect`.) -/
theorem spop_effect_is_srem (q : Quirks) (db : Db) (now : Nat) (key : Bytes) (rest got : List Bytes) (hgot : got ≠ [])
    (hok : isErr (stepDb q db now "SPOP" (key :: rest) (some got)).2 = false) :
    (stepDb q db now "SPOP" (key :: rest) (some got)).1 = (stepDb q db now "SREM" (key :: got) none).1 :=
  stepDb_spop_as_srem q db now key rest got none hgot hok

/-! ### Witnesses: each repair that was made is necessary (explicit quirk records), and what is still false

Histories are over the key `k` and the value `v` (other keys and values are byte literals: `[115]` = `s`, `[113]` = `q`,
`[119]` = `w`); `direct` commands run at `1000`, replay at `5000` unless stated. -/

def k : Bytes := [107]
def v : Bytes := [118]
-- command names and numerals as byte literals (kernel evaluation does not go through `String.toUTF8`)
def bn100 : Bytes := [49, 48, 48]
def bn100000 : Bytes := [49, 48, 48, 48, 48, 48]
def bDEL : Bytes := [68, 69, 76]
def bEX : Bytes := [69, 88]
def bGET : Bytes := [71, 69, 84]
def bGETSET : Bytes := [71, 69, 84, 83, 69, 84]
def bHMSET : Bytes := [72, 77, 83, 69, 84]
def bHSET : Bytes := [72, 83, 69, 84]
def bINCR : Bytes := [73, 78, 67, 82]
def bLPOP : Bytes := [76, 80, 79, 80]
def bPEXPIRE : Bytes := [80, 69, 88, 80, 73, 82, 69]
def bRPUSH : Bytes := [82, 80, 85, 83, 72]
def bSADD : Bytes := [83, 65, 68, 68]
def bSELECT : Bytes := [83, 69, 76, 69, 67, 84]
def bSET : Bytes := [83, 69, 84]
def bSPOP : Bytes := [83, 80, 79, 80]
def direct (raw : List Bytes) : Aof.Ev := .cmd false 1000 none raw
def codeLog (h : List Aof.Ev) : List (List Bytes) := log treeCfg h
def fixedLog (h : List Aof.Ev) : List (List Bytes) := log (Cfg.fixed Gen.writeCommands) h

def hGetset : List Aof.Ev := [direct [bSET, k, v], direct [bGETSET, k, [119]]]
def hHmset : List Aof.Ev := [direct [bHMSET, k, [102], v]]
def hPexpire : List Aof.Ev := [direct [bSET, k, v], direct [bPEXPIRE, k, bn100000]]
def hOtherDb : List Aof.Ev := [direct [bSELECT, [50]], direct [bSET, k, v]]
def hWake : List Aof.Ev := [direct [bRPUSH, [113], v], .wake 0 1001 true [113]]
def hScript : List Aof.Ev := [direct (wrap [bSET, k, v])]

/-- the log of the tree if `name` were missing from the table (GETSET, HMSET, PEXPIRE WERE missing on the pinned tree) -/
def logWithout (name : String) (h : List Aof.Ev) : List (List Bytes) :=
  log (Cfg.tree (Gen.writeCommands.erase name) Gen.selectTracked Gen.wakeLogs) h
/-- the log of the tree without SELECT tracking / without logging the pops made for blocking clients
    (the pinned tree had neither) -/
def logNoSelect (h : List Aof.Ev) : List (List Bytes) := log (Cfg.tree Gen.writeCommands false Gen.wakeLogs) h
def logNoWake (h : List Aof.Ev) : List (List Bytes) := log (Cfg.tree Gen.writeCommands Gen.selectTracked false) h
/-- the tree's table with SELECT tracking on (explicit record) -/
def treeCfgTracked : Cfg := Cfg.treeE Gen.writeCommands true Gen.wakeLogs false
/-- the log of the tree with SPOP logged verbatim (as the tree did before `fix: … logged by their effect`) -/
def logVerbatim (h : List Aof.Ev) : List (List Bytes) := log (Cfg.treeE Gen.writeCommands Gen.selectTracked Gen.wakeLogs false) h
def hSpop : List Aof.Ev := [direct [bSADD, [115], [97], [98]], .cmd false 1001 (some [[97]]) [bSPOP, [115]]]

/-- GETSET must be in the table: without it the file holds `SET k v` only and replays to the old value. -/
theorem replay_fails_getset :
    logWithout "GETSET" hGetset = [[bSET, k, v]] ∧
    ¬ Agree (live Quirks.spec hGetset).store (replayAt Quirks.spec 5000 (logWithout "GETSET" hGetset)).store := by
  decide

/-- HMSET must be in the table: without it the file stays empty. -/
theorem replay_fails_hmset :
    logWithout "HMSET" hHmset = [] ∧
    ¬ Agree (live Quirks.spec hHmset).store (replayAt Quirks.spec 5000 (logWithout "HMSET" hHmset)).store := by
  decide

/-- PEXPIRE must be in the table: without it the replayed key has no deadline (TTL presence differs). -/
theorem replay_fails_pexpire :
    logWithout "PEXPIRE" hPexpire = [[bSET, k, v]] ∧
    ¬ Agree (live Quirks.spec hPexpire).store (replayAt Quirks.spec 5000 (logWithout "PEXPIRE" hPexpire)).store := by
  decide

/-- Without a SELECT in the log, a write in database 2 replays into database 0. -/
theorem replay_fails_other_db :
    logNoSelect hOtherDb = [[bSET, k, v]] ∧
    getDb (live Quirks.spec hOtherDb).store 0 = [] ∧ getDb (live Quirks.spec hOtherDb).store 2 ≠ [] ∧
    getDb (replayAt Quirks.spec 5000 (logNoSelect hOtherDb)).store 0 ≠ [] ∧ getDb (replayAt Quirks.spec 5000 (logNoSelect hOtherDb)).store 2 = [] := by
  decide

/-- A random outcome logged verbatim: live popped `a`, the replaying server may draw `b` … -/
theorem replay_fails_random_spop :
    logVerbatim hSpop = [[bSADD, [115], [97], [98]], [bSPOP, [115]]] ∧
    ¬ Agree (live Quirks.spec hSpop).store
        (replay Quirks.spec [⟨5000, none, [bSADD, [115], [97], [98]]⟩, ⟨5001, some [[98]], [bSPOP, [115]]⟩]).store := by
  decide

/-- … logged by its effect it replays to the same dataset whatever the replaying server would draw. -/
theorem by_effect_repairs_spop :
    fixedLog hSpop = [[bSADD, [115], [97], [98]], sremCmd [115] [[97]]] ∧
    Agree (live Quirks.spec hSpop).store
      (replay Quirks.spec [⟨5000, none, [bSADD, [115], [97], [98]]⟩, ⟨5001, some [[98]], sremCmd [115] [[97]]⟩]).store := by
  decide

/-- If the pop made for a blocking client bypasses the log, the element comes back on replay. -/
theorem replay_fails_wake :
    logNoWake hWake = [[bRPUSH, [113], v]] ∧
    getDb (live Quirks.spec hWake).store 0 = [] ∧ getDb (replayAt Quirks.spec 5000 (logNoWake hWake)).store 0 ≠ [] := by
  decide

/-- The script path is represented only because EVAL itself is in the table (the `redis.call`s are not logged):
    logged verbatim it replays to the same dataset, and without EVAL in the table the write is lost. -/
theorem script_path_logged_as_eval :
    codeLog hScript = [wrap [bSET, k, v]] ∧
    Agree (live Quirks.spec hScript).store (replayAt Quirks.spec 5000 (codeLog hScript)).store ∧
    logWithout "EVAL" hScript = [] ∧
    ¬ Agree (live Quirks.spec hScript).store (replayAt Quirks.spec 5000 (logWithout "EVAL" hScript)).store := by
  decide

/-- … and the engine must not assume that the reader of an inherited file stands in database 0: a first run that
    ended in database 3, a restart, then `SET b 2` in database 0 — tracked from "database 0" (`⟨0, 0⟩`) instead of
    "unknown" the entry gets no SELECT and replays into database 3. -/
theorem replay_fails_restart_assuming_db0 :
    let h1 : List Aof.Ev := [direct [bSELECT, [51]], direct [bSET, k, v]]
    let h2 : List Aof.Ev := [direct [bSET, [98], v]]
    let wrong := log treeCfgTracked h1 ++ logFrom treeCfgTracked ⟨0, 0⟩ h2
    let right := log treeCfgTracked h1 ++ logFrom treeCfgTracked LogSt.restarted h2
    wrong = [selectCmd 3, [bSET, k, v], [bSET, [98], v]] ∧ right = [selectCmd 3, [bSET, k, v], selectCmd 0, [bSET, [98], v]] ∧
    ¬ Agree (liveFrom Quirks.spec (live Quirks.spec h1).restarted h2).store (replayAt Quirks.spec 5000 wrong).store ∧
    Agree (liveFrom Quirks.spec (live Quirks.spec h1).restarted h2).store (replayAt Quirks.spec 5000 right).store := by
  decide

/-- Expiry must be logged: `SET counter 10 PX 100`, the key expires and is removed, `INCR counter` — live 1 without a
    deadline; without a `DEL` in the file the replay answers 11 with a deadline; with it the replay agrees, whenever
    it is run. -/
theorem replay_fails_unlogged_expiry :
    let h : List Aof.Ev := [.cmd false 1000 none [bSET, k, [49, 48], [80, 88], bn100], .expire 0 1200 k, .cmd false 1300 none [bINCR, k]]
    let without := log (Cfg.treeX Gen.writeCommands true true true false) h
    let with_ := log (Cfg.treeX Gen.writeCommands true true true true) h
    without = [[bSET, k, [49, 48], [80, 88], bn100], [bINCR, k]] ∧
    with_ = [[bSET, k, [49, 48], [80, 88], bn100], delCmd k, [bINCR, k]] ∧
    quietLive Quirks.spec {} h = true ∧
    ¬ Agree (live Quirks.spec h).store (replayAt Quirks.spec 5000 without).store ∧
    Agree (live Quirks.spec h).store (replayAt Quirks.spec 5000 with_).store ∧
    Agree (live Quirks.spec h).store (replayAt Quirks.spec 99000000 with_).store := by
  decide

/-- A torn tail must be cut off before the next append: the old entries, 6 bytes of an unfinished one, then a new
    entry do not read back as a log (the reader is stuck at the torn frame); cut off, they do. -/
theorem torn_tail_then_append_is_not_a_log :
    let old : List (List Bytes) := [[bSET, k, v]]
    let torn : Bytes := [42, 51, 13, 10, 36, 51]
    let new : List (List Bytes) := [[bDEL, k]]
    (readLog (fileOf old ++ torn ++ fileOf new)).1 ≠ old ++ new ∧
    (readLog (fileOf old ++ torn ++ fileOf new)).2 ≠ .clean ∧
    readLog ((fileOf old ++ torn).take (fileOf old).length ++ fileOf new) = (old ++ new, .clean) := by
  decide

/-- in general: what the strict reader returns for a file with a torn tail is the log to truncate to -/
theorem truncating_to_the_complete_frames_restores_a_log (cs : List (List Bytes)) (hw : ∀ c ∈ cs, cmdWf c) (c : List Bytes) (hc : cmdWf c)
    (p e : Bytes) (hpe : p ++ e = serCmd c) (hp : p ≠ []) (he : e ≠ []) (new : List (List Bytes)) (hn : ∀ c ∈ new, cmdWf c) :
    readLog (fileOf (readLog (fileOf cs ++ p)).1 ++ fileOf new) = (cs ++ new, .clean) := by
  rw [readLog_torn cs hw c hc p e hpe hp he, ← fileOf_append]
  exact readLog_fileOf _ (fun x hx => by
    rcases List.mem_append.mp hx with h | h
    · exact hw x h
    · exact hn x h)

/-- The prescribed log repairs each of the five histories (three kinds: missing names, SELECT, served pop). -/
theorem fixed_log_repairs_witnesses :
    Agree (live Quirks.spec hGetset).store (replayAt Quirks.spec 5000 (fixedLog hGetset)).store ∧
    Agree (live Quirks.spec hHmset).store (replayAt Quirks.spec 5000 (fixedLog hHmset)).store ∧
    Agree (live Quirks.spec hPexpire).store (replayAt Quirks.spec 5000 (fixedLog hPexpire)).store ∧
    fixedLog hOtherDb = [selectCmd 2, [bSET, k, v]] ∧
    Agree (live Quirks.spec hOtherDb).store (replayAt Quirks.spec 5000 (fixedLog hOtherDb)).store ∧
    fixedLog hWake = [[bRPUSH, [113], v], popCmd true [113]] ∧
    Agree (live Quirks.spec hWake).store (replayAt Quirks.spec 5000 (fixedLog hWake)).store := by
  decide +kernel

/-! ### Non-vacuity: the hypotheses of the theorems are satisfiable by non-trivial histories -/

/-- a covered history through three paths (direct, EXEC, script) with a TTL, a refused write and reads -/
def hCovered : List Aof.Ev :=
  [direct [bSET, k, v, bEX, bn100],
   .cmd true 1001 none [bRPUSH, [108], [97], [98]],
   .cmd true 1001 none [bINCR, [108]],                 -- refused (wrong type), logged all the same
   direct (wrap [bHSET, [104], [102], v]),
   direct [bGET, k],
   .cmd false 1002 none [bSELECT, [51]],
   .cmd false 1003 none [bGET, k],
   .cmd false 1004 none [bSELECT, [48]],
   .cmd false 1005 none [bLPOP, [108]]]

example : (∀ ev ∈ hCovered, inModel ev = true) ∧ coveredAll treeCfg hCovered = true ∧
    quietLive Quirks.spec {} hCovered = true ∧ (codeLog hCovered).length = 5 ∧
    quietReplay Quirks.spec {} ((codeLog hCovered).map fun c => ⟨900000, none, c⟩) = true ∧
    drawsOk Quirks.spec {} hCovered = true ∧ drawsOk Quirks.spec {} hSpop = true := by decide +kernel
example : ¬ coveredAll (Cfg.tree (Gen.writeCommands.erase "GETSET") Gen.selectTracked Gen.wakeLogs) hGetset = true ∧
    ¬ coveredAll (Cfg.tree Gen.writeCommands false Gen.wakeLogs) hOtherDb = true ∧
    ¬ coveredAll (Cfg.tree Gen.writeCommands Gen.selectTracked false) hWake = true := by decide
example : cmdWf [bSET, [13, 10, 42, 51, 13, 10], [0, 255]] := by
  constructor
  · decide
  · intro a ha; simp at ha; rcases ha with h | h | h <;> subst h <;> decide
example : readLog (fileOf [[bSET, k, [13, 10]], [bDEL, k]] ++ [42, 50, 13, 10, 36]) =
    ([[bSET, k, [13, 10]], [bDEL, k]], .torn [42, 50, 13, 10, 36]) := by decide
example : isErr (KS.step Quirks.spec (live Quirks.spec [direct [bRPUSH, [108], [97]]]).store 0 1001 [bINCR, [108]] none).2 = true := by
  decide

end Ferrous.C11
