/-
  C20 — the RESP codec round-trips and is independent of how bytes are chunked.

  Property theorems only; helper lemmas live in FerrousSpec/Proofs/Resp*.lean.
  Model: FerrousSpec/Model/Resp.lean (transliteration of src/protocol/{parser,serializer}.rs).
  Tie to the code: `Gen.pingFix` / `Gen.reserveCapped` are regenerated from parser.rs on every
  run, and the harness executes `ser`, `parseBytes`, `runChunks` and the real
  `serialize_to_vec`, `parse_resp_frame`, `RespParser` on the same inputs.
-/
import FerrousSpec.Proofs.RespRoundtrip
import FerrousSpec.Proofs.RespStream
import FerrousSpec.Proofs.RespReserve
import FerrousSpec.Gen.Consts
namespace Ferrous.C20
open Ferrous

/-- (1) Serialising any well-formed RESP value and parsing the bytes, followed by any other
    bytes, gives back the same value and leaves exactly what followed
    (i.e. consumes exactly `(ser f).length` bytes). -/
theorem roundtrip (f : Frame) (hw : wf f = true) (hd : f.depth ≤ maxNesting + 1) (rest : Bytes) :
    parseBytes (ser f ++ rest) = .ok f rest :=
  parseBytes_ser f hw hd rest

/-- (1') the same for a whole reply stream: the incremental parser fed `ser f` in one piece
    from a clean state yields exactly `f` when `f` does not begin like an inline PING or
    whitespace — stated for the frames the server actually emits (type byte first). -/
theorem roundtrip_consumes_exactly (f : Frame) (hw : wf f = true) (hd : f.depth ≤ maxNesting + 1) :
    parseBytes (ser f) = .ok f [] := by
  simpa using parseBytes_ser f hw hd []

/-- (1'') Error and simple-string replies frame correctly whatever bytes their payload carries
    (CR/LF included): they parse back as one frame, payload with CR/LF replaced by spaces. -/
theorem line_replies_always_frame (b rest : Bytes) :
    parseBytes (ser (.error b) ++ rest) = .ok (.error (sanitizeLine b)) rest ∧
    parseBytes (ser (.simple b) ++ rest) = .ok (.simple (sanitizeLine b)) rest :=
  parseFrame_line_reply maxNesting b rest

/-- (2) A frame or an error, once reported for a buffer, is reported identically when more
    bytes have arrived; only "need more data" may change. -/
theorem prefix_stable (d e : Bytes) :
    (∀ f r, parseBytes d = .ok f r → parseBytes (d ++ e) = .ok f (r ++ e)) ∧
    (parseBytes d = .err → parseBytes (d ++ e) = .err) := by
  constructor
  · intro f r h
    rw [parseBytes_append d e (by simp [h]), h]; rfl
  · intro h
    rw [parseBytes_append d e (by simp [h]), h]; rfl

/-- Nesting limit: every frame the parser returns has at most `MAX_NESTING` containers around a
    scalar — the recursion of the parser (one level per container) is bounded whatever the input,
    and frames nested deeper are refused with an error, never a stack overflow. -/
theorem nesting_bounded (d : Bytes) (f : Frame) (r : Bytes) (h : parseBytes d = .ok f r) :
    f.depth ≤ maxNesting + 1 :=
  parseFrame_depth _ d f r h

/-- … and the refusal is an error reported at once, stable under more input. -/
theorem too_deep_is_error (d : Bytes) : parseFrame 0 d = .err := by
  cases d <;> rfl

/-- (3) Feeding a byte stream to the incremental parser in any chunking yields the same
    sequence of frames and errors as feeding it whole (fixed parser: `pingFix = true`). -/
theorem chunking_independent (cs : List Bytes) :
    runChunks true [] cs = runWhole true cs.flatten :=
  runChunks_eq_drainF cs [] rfl _ (Nat.lt_succ_self _)

/-- (4) A parsed frame never claims more bytes than were given (no out-of-bounds slice),
    and always makes progress. -/
theorem consumed_bounded (d : Bytes) (f : Frame) (r : Bytes) (h : parseBytes d = .ok f r) :
    r.length + 3 ≤ d.length :=
  parseFrame_shrinks _ d f r h

/-- (5) With container sizing capped by the bytes received, no `Vec::with_capacity` request
    made while parsing `d` exceeds `2·|d|` frame slots, whatever lengths `d` declares. -/
theorem reserve_bounded (d : Bytes) : reserveOf true (maxNesting + 1) d ≤ 2 * d.length :=
  Nat.le_trans (reserveOf_capped_le _ d) (Nat.mul_le_mul_left 2 (Nat.min_le_left _ _))

/-- (5b) … and none exceeds a constant (`2·reserveMax` slots), however much is buffered: a chain of nested headers
    each declaring 10⁸ elements in front of a megabyte of unfinished payload reserves at most
    `(maxNesting + 1) · 2 · reserveMax` slots in all, not a multiple of the buffered bytes per level. -/
theorem reserve_bounded_by_constant (d : Bytes) : reserveOf true (maxNesting + 1) d ≤ 2 * reserveMax :=
  Nat.le_trans (reserveOf_capped_le _ d) (Nat.mul_le_mul_left 2 (Nat.min_le_right _ _))

/-! Tie to the code: the regenerated switches and constants say that /repo's parser and serializer are
    the fixed ones, with the model's limits, so (1''), the nesting limit, (3), (5) and (5b) speak about
    the current tree.  Each of the four fails to check if its repair is absent. -/
theorem tree_has_ping_fix : Gen.pingFix = true := by decide
theorem tree_sanitizes_lines : Gen.lineSanitized = true := by decide
theorem tree_nesting_limit : Gen.maxNesting = maxNesting := by decide
theorem tree_caps_reserve : Gen.reserveCapped = true ∧ Gen.reserveMax = reserveMax := by decide

/-! ### Witnesses: (3) and (5) are false for the parser as pinned -/

/-- Without the repair, `["PI","NG"]` and `["PING"]` are parsed differently. -/
theorem chunking_fails_without_ping_fix :
    runChunks false [] [[80, 73], [78, 71]] = [.err] ∧
    runWhole false [80, 73, 78, 71] = [.frame pingFrame] := by
  constructor <;> rfl

/-- Without the cap, `*9223372036854775807\r\n` requests 2^63-1 slots for 22 bytes. -/
theorem reserve_unbounded_without_cap :
    reserveOf false 23 [42, 57,50,50,51,51,55,50,48,51,54,56,53,52,55,55,53,56,48,55, 13, 10] = 9223372036854775807 := by
  decide

/-! ### Non-vacuity: a well-formed frame for (1); streams and chunkings for (2), (3) -/

example : wf (.array [.bulk [80, 73, 78, 71], .int (-5), .map [.simple [97], .nullBulk], .double [49, 46, 53]]) = true := by decide
example : runWhole true [43, 79, 75, 13, 10, 80, 73, 78, 71, 13, 10, 63] =
    [.frame (.simple [79, 75]), .frame pingFrame, .err] := by rfl
example : parseBytes [42, 49, 13, 10, 58, 55, 13, 10, 88] = .ok (.array [.int 7]) [88] := by rfl
example : runChunks true [] [[43, 79], [75, 13], [10, 80, 73], [78, 71]] =
    [.frame (.simple [79, 75]), .frame pingFrame] := by rfl

end Ferrous.C20
