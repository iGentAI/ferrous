/-
  C18 — each of the numbered databases is an independent key space.

  `KS.step q store i now cmd obs` (Model/Keyspace.lean, tied to the server by C01/C03) runs one command on
  database `i`; `Dbs.exec w q state now c request` (Model/Dbs.lean, tied to the server by lib/c18.py) is one
  request of connection `c` — sent directly, queued in MULTI and run by EXEC, run from a script, or completed
  later as a blocking pop — and decides WHICH `i` every command gets.  `Switches.fixed` is the prescribed
  machine; `codeSwitches` (Proofs/DbsCode.lean) is the machine as /repo's source has it today, read off the
  dispatch table that the translator regenerates on every run (Gen/Dispatch.lean).  Since /repo commits b74cb7f
  (EVALSHA passes `db`), 0c66cae (script FLUSHDB/DBSIZE/KEYS get `db`) and 2147747 (SELECT inside MULTI) the two
  coincide (`code_is_the_spec`, re-proved against the regenerated table on every run), so every theorem about the
  prescribed machine is a theorem about the code variant; the `…_fails` witnesses and `…_partial` theorems are kept
  as statements about the OLD switch values (they describe what each of those commits repaired, and what a
  regression would bring back).  Every store access of the
  machine is logged with the database used (`db`) and the database the property prescribes (`sel`: the
  selection of the connection at that moment; for a served blocking pop the database recorded when it blocked).

  Property theorems only; helper lemmas are in Proofs/Dbs*.lean, the evaluation of name tables in Proofs/NameCode.lean.
-/
import FerrousSpec.Proofs.DbsSelect
import FerrousSpec.Proofs.DbsCode
import FerrousSpec.Proofs.NameCode
namespace Ferrous.C18
open Ferrous Ferrous.KS Ferrous.Dbs

/-- Frame rule: for every command of the key-space machine except FLUSHALL, every argument list, every
    store and every `i ≠ j`: executing the command on database `i` leaves database `j` exactly as it was. -/
theorem frame_rule (q : Quirks) (s : Store) (i j now : Nat) (cmd : List Bytes) (obs : Option (List Bytes))
    (hij : j ≠ i) (hf : isFlushAll cmd = false) :
    getDb (KS.step q s i now cmd obs).1 j = getDb s j :=
  step_frame q s i j now cmd obs hij hf

/-- Reads are local too: what a command executed on database `i` answers, and what database `i` holds
    afterwards, is the same on any two servers whose database `i` is the same — whatever the other
    fifteen databases contain. -/
theorem reads_only_selected (q : Quirks) (s s' : Store) (i now : Nat) (cmd : List Bytes) (obs : Option (List Bytes))
    (hl : s.length = s'.length) (h : getDb s i = getDb s' i) :
    (KS.step q s i now cmd obs).2 = (KS.step q s' i now cmd obs).2 ∧
    getDb (KS.step q s i now cmd obs).1 i = getDb (KS.step q s' i now cmd obs).1 i :=
  ⟨(step_local q s s' i now cmd obs ⟨hl, h⟩).1, (step_local q s s' i now cmd obs ⟨hl, h⟩).2.2⟩

/-- Isolation over arbitrary command sequences: after ANY sequence of commands executed on any databases,
    database `j` holds exactly what it would hold had only the commands executed on `j` (and the FLUSHALLs,
    which by definition concern every database) been run, in the same order. -/
theorem isolation_over_accesses (q : Quirks) (s : Store) (j : Nat) (as : List Access) :
    getDb (runAcc q s as) j = getDb (runAcc q s (as.filter (concerns j))) j :=
  runAcc_isolated q s j as

/-- The machine touches the dataset only through `KS.step` on the logged databases — for every setting of the
    switches, every request, every state. -/
theorem machine_store_is_fold_of_accesses (w : Switches) (q : Quirks) (st : State) (now c : Nat) (r : Req) :
    ∃ as, (exec w q st now c r).1.log = st.log ++ as ∧ (exec w q st now c r).1.store = runAcc q st.store as := by
  obtain ⟨as, h1, h2, _⟩ := (exec_tr w q st now c r).1
  exact ⟨as, h1, h2⟩

/-- In the prescribed machine EVERY access of EVERY history — direct, run by EXEC, made by a script (EVAL or
    EVALSHA), or the pop that serves a blocked client later — uses exactly the database prescribed for it. -/
theorem fixed_paths_use_selection (q : Quirks) (st : State) (evs : List Dbs.Ev) :
    ∃ as, (run Switches.fixed q st evs).log = st.log ++ as ∧ ∀ a ∈ as, a.db = a.sel := by
  obtain ⟨as, h1, _, h3⟩ := run_logs Switches.fixed q evs st
  exact ⟨as, h1, fun a ha => (h3 a ha).fixed⟩

/-- Any switches (the code as it was, and any regression of that kind): an access uses another database than the
    prescribed one only on the script path, and then it is database 0 — through EVALSHA, or for FLUSHDB/DBSIZE/KEYS inside any script. -/
theorem code_paths_use_selection_partial (w : Switches) (q : Quirks) (st : State) (evs : List Dbs.Ev) :
    ∃ as, (run w q st evs).log = st.log ++ as ∧
      ∀ a ∈ as, a.db ≠ a.sel →
        a.db = 0 ∧ ((w.evalshaDb0 = true ∧ a.path = .script true) ∨
                    (w.scriptDbCmdsDb0 = true ∧ (∃ b, a.path = .script b) ∧ scriptDbCmds.contains (nameOf a.cmd) = true)) := by
  obtain ⟨as, h1, _, h3⟩ := run_logs w q evs st
  refine ⟨as, h1, fun a ha hne => ?_⟩
  rcases h3 a ha with h | h | h
  · exact absurd h hne
  · exact ⟨h.2.2, Or.inl ⟨h.1, h.2.1⟩⟩
  · exact ⟨h.2.2.2, Or.inr ⟨h.1, h.2.1, h.2.2.1⟩⟩

/-- Frame rule lifted to the connection machine, all four paths: a request of connection `c`, which has database
    `i` selected, that neither selects nor flushes everything (`Clean`, also for what EXEC finds in the queue) leaves
    every database `j ≠ i` untouched — whether its commands run directly, from the queue, inside a script, or as the
    pop serving a client that was blocked (in database `i`: the registry is per database). -/
theorem conn_step_frame (q : Quirks) (st : State) (now c i j : Nat) (r : Req)
    (hsel : (st.conns c).db = i) (hw : st.wakes = [])
    (hr : Clean false r) (hq : reqName r = "EXEC" → ∀ x ∈ (st.conns c).queue, Clean false x) (hj : j ≠ i) :
    getDb (exec Switches.fixed q st now c r).1.store j = getDb st.store j :=
  exec_frame Switches.fixed q i false c st now j r hr hq ⟨hsel, by simp [hw]⟩ (fun a hd hp => hd.fixed.trans hp.1) hj

/-- The same for any switches, outside the deviations: when the connection has database 0
    selected, or when the request (and the queue) contains no script. -/
theorem conn_step_frame_partial (w : Switches) (q : Quirks) (st : State) (now c i j : Nat) (ns : Bool) (r : Req)
    (hsel : (st.conns c).db = i) (hw : st.wakes = [])
    (hr : Clean ns r) (hq : reqName r = "EXEC" → ∀ x ∈ (st.conns c).queue, Clean ns x)
    (hex : i = 0 ∨ ns = true) (hj : j ≠ i) :
    getDb (exec w q st now c r).1.store j = getDb st.store j :=
  exec_frame w q i ns c st now j r hr hq ⟨hsel, by simp [hw]⟩ (fun a hd hp => hd.db_eq hp hex) hj

/-- Isolation over arbitrary interleaved histories of several connections (prescribed machine): after any
    history, database `j` holds exactly what results from running, in order, the commands that were executed
    with selection `j` (plus the FLUSHALLs) — the commands executed under any other selection, by whatever
    connection and through whatever path, do not matter. -/
theorem isolation_over_histories (q : Quirks) (st : State) (evs : List Dbs.Ev) (j : Nat) :
    ∃ as, (run Switches.fixed q st evs).log = st.log ++ as ∧
      getDb (run Switches.fixed q st evs).store j =
        getDb (runAcc q st.store (as.filter fun a => a.sel == j || isFlushAll a.cmd)) j := by
  obtain ⟨as, h1, h2, h3⟩ := run_logs Switches.fixed q evs st
  refine ⟨as, h1, ?_⟩
  rw [h2, runAcc_isolated]
  have : as.filter (concerns j) = as.filter (fun a => a.sel == j || isFlushAll a.cmd) := by
    apply List.filter_congr
    intro a ha
    simp [concerns, (h3 a ha).fixed]
  rw [this]

/-- Any switch setting equals the prescribed machine — same replies, same deliveries, same post-state — on every
    request outside the three deviations: no EVALSHA, no FLUSHDB/DBSIZE/KEYS inside a script, no SELECT waiting in
    the queue of a transaction (each only as far as the corresponding switch is on). -/
theorem code_is_spec_partial (w : Switches) (q : Quirks) (st : State) (now c : Nat) (r : Req)
    (hr : Benign w false r) (hq : ∀ x ∈ (st.conns c).queue, Benign w true x) :
    exec w q st now c r = exec Switches.fixed q st now c r :=
  exec_eq_fixed w q st now c r hr hq

/-- SELECT with anything but exactly one argument that `usize::from_str` accepts and that is below 16 is refused
    and changes nothing: the selection of every connection, the dataset, the MULTI state all stay (any switches). -/
theorem select_out_of_range_refused_keeps (w : Switches) (q : Quirks) (st : State) (now c : Nat)
    (n : Bytes) (args : List Bytes) (obs : Option (List Bytes))
    (hn : nameOf (n :: args) = "SELECT") (hb : (st.conns c).blocked = false) (hm : (st.conns c).inMulti = false)
    (hw : st.wakes = []) (hbad : selectArg args = none) :
    (exec w q st now c (.plain (n :: args) obs)).2.reply = some err ∧
    (exec w q st now c (.plain (n :: args) obs)).1.conns = st.conns ∧
    (exec w q st now c (.plain (n :: args) obs)).1.store = st.store := by
  simp [exec, reqName, hn, hb, hm, dispatch, doSelect, hbad, processWakes_nil q now st hw]

/-- what "refused" covers: wrong arity; every text that is not an unsigned decimal number (optional `+`); every
    number ≥ 16, however large (also beyond 2^64); everything starting with `-` -/
theorem select_refused_arguments :
    (∀ args : List Bytes, args.length ≠ 1 → selectArg args = none) ∧
    (∀ a : Bytes, parseU64 a = none → selectArg [a] = none) ∧
    (∀ k : Nat, 16 ≤ k → selectArg [natDigits k] = none) ∧
    (∀ t : Bytes, selectArg [45 :: t] = none) := by
  refine ⟨selectArg_arity, ?_, ?_, selectArg_neg⟩
  · intro a h; exact (selectArg_none_iff a).mpr (Or.inl h)
  · intro k hk
    rw [selectArg_natDigits]
    have : ¬ k < numDbs := by unfold numDbs; omega
    simp [this]

/-- a valid SELECT (direct path) answers OK and selects that database on this connection; the dataset is untouched -/
theorem select_valid_selects (w : Switches) (q : Quirks) (st : State) (now c k : Nat)
    (n : Bytes) (args : List Bytes) (obs : Option (List Bytes))
    (hn : nameOf (n :: args) = "SELECT") (hb : (st.conns c).blocked = false) (hm : (st.conns c).inMulti = false)
    (hw : st.wakes = []) (hok : selectArg args = some k) :
    (exec w q st now c (.plain (n :: args) obs)).2.reply = some ok ∧
    ((exec w q st now c (.plain (n :: args) obs)).1.conns c).db = k ∧ k < 16 ∧
    (exec w q st now c (.plain (n :: args) obs)).1.store = st.store := by
  have hk := selectArg_some_lt hok
  simp [exec, reqName, hn, hb, hm, dispatch, doSelect, hok, processWakes_nil, updConn, hw]
  exact hk

/-- The selection is per connection: whatever connection `c` sends — through any path, with any switches —
    the selection, the MULTI state and the queue of every OTHER connection stay as they were. -/
theorem selection_per_connection (w : Switches) (q : Quirks) (st : State) (now c c' : Nat) (r : Req) (h : c' ≠ c) :
    ((exec w q st now c r).1.conns c').db = (st.conns c').db ∧
    ((exec w q st now c r).1.conns c').inMulti = (st.conns c').inMulti ∧
    ((exec w q st now c r).1.conns c').queue = (st.conns c').queue :=
  (exec_tr w q st now c r).2 c' h

/-- … hence over whole histories (requests, time-outs of blocked clients, hang-ups): whatever the other connections do, in
    any interleaving and through any path, a connection that sends nothing keeps its selection (and its open transaction). -/
theorem selection_untouched_by_others (w : Switches) (q : Quirks) (c' : Nat) (evs : List Dbs.Ev) :
    ∀ (st : State), (∀ e ∈ evs, e.conn ≠ c') →
      ((run w q st evs).conns c').db = (st.conns c').db ∧ ((run w q st evs).conns c').inMulti = (st.conns c').inMulti ∧
      ((run w q st evs).conns c').queue = (st.conns c').queue := by
  induction evs with
  | nil => intro st _; exact ⟨rfl, rfl, rfl⟩
  | cons e rest ih =>
    intro st h
    have h1 := (stepEv_tr w q st e).2 c' (fun x => h e (by simp) x.symm)
    have h2 := ih (stepEv w q st e) (fun x hx => h x (by simp [hx]))
    simp only [run, List.foldl_cons] at h2 ⊢
    exact h1.trans h2

/-- FLUSHDB sent by a connection with database `i` selected empties database `i` and nothing else. -/
theorem flushdb_only_selected (q : Quirks) (st : State) (now c i : Nat) (n : Bytes) (obs : Option (List Bytes))
    (hn : nameOf [n] = "FLUSHDB") (hsel : (st.conns c).db = i) (hi : i < st.store.length)
    (hb : (st.conns c).blocked = false) (hm : (st.conns c).inMulti = false) (hw : st.wakes = []) :
    getDb (exec Switches.fixed q st now c (.plain [n] obs)).1.store i = [] ∧
    ∀ j, j ≠ i → getDb (exec Switches.fixed q st now c (.plain [n] obs)).1.store j = getDb st.store j := by
  constructor
  · have hne : ∀ s : String, s ≠ "FLUSHDB" → ¬ nameOf [n] = s := fun s hs e => hs (e.symm.trans hn)
    simp [exec, reqName, hb, hm, dispatch, hne, access, step_flushdb q _ _ now n obs hn, processWakes_nil, hw, hsel,
      getDb_setDb_self _ _ _ hi]
  · intro j hj
    refine conn_step_frame q st now c i j (.plain [n] obs) hsel hw ?_ ?_ hj
    · simp [Clean, hn]
    · intro he; simp [reqName, hn] at he

/-- FLUSHALL empties all of them, whatever is selected. -/
theorem flushall_all (q : Quirks) (st : State) (now c j : Nat) (n : Bytes) (obs : Option (List Bytes))
    (hn : nameOf [n] = "FLUSHALL")
    (hb : (st.conns c).blocked = false) (hm : (st.conns c).inMulti = false) (hw : st.wakes = []) :
    getDb (exec Switches.fixed q st now c (.plain [n] obs)).1.store j = [] := by
  have hne : ∀ s : String, s ≠ "FLUSHALL" → ¬ nameOf [n] = s := fun s hs e => hs (e.symm.trans hn)
  simp [exec, reqName, hb, hm, dispatch, hne, access, step_flushall q _ _ now n obs hn, processWakes_nil, hw,
    getDb_flushed]

/-- commands that read or write the key space of ONE database: they must be handed the connection's `db` -/
def dataNames : List String :=
  (KS.cmdNames.filter fun n => n != "FLUSHALL") ++
  ["ZREM", "ZSCORE", "ZCARD", "ZRANK", "ZREVRANK", "ZRANGE", "ZREVRANGE", "ZRANGEBYSCORE", "ZREVRANGEBYSCORE", "ZCOUNT",
   "ZINCRBY", "ZPOPMIN", "ZPOPMAX",
   "XRANGE", "XREVRANGE", "XLEN", "XREAD", "XTRIM", "XDEL", "XGROUP", "XREADGROUP", "XACK", "XCLAIM", "XPENDING", "XINFO",
   "SCAN", "HSCAN", "SSCAN", "ZSCAN", "EVAL", "EVALSHA", "BLPOP", "BRPOP", "MEMORY"]

/-- everything else the dispatch knows: connection, server, persistence, replication, introspection, all-database commands -/
def nonDataNames : List String :=
  ["VERIF", "PING", "ECHO", "SELECT", "FLUSHALL", "SLEEP", "CONFIG", "SAVE", "BGSAVE", "LASTSAVE", "BGREWRITEAOF", "INFO", "SLOWLOG",
   "CLIENT", "AUTH", "REPLICAOF", "SLAVEOF", "SYNC", "PSYNC", "QUIT", "COMMAND", "SHUTDOWN", "SCRIPT",
   "PUBLISH",   -- PUBLISH has an arm since b37919c (a queued PUBLISH run by EXEC); no key space involved
   "UNWATCH"]   -- UNWATCH has an arm since 7dd14e2 (a queued UNWATCH run by EXEC answers OK); no key space involved

/-- Every arm of the dispatch is classified: a command added to the server without deciding whether it touches
    the key space breaks this theorem. -/
theorem every_command_classified : ∀ c ∈ Gen.Dispatch.dispatch, c.1 ∈ dataNames ∨ c.1 ∈ nonDataNames := by
  have h : Gen.Dispatch.dispatch.all (fun c => hasName dataNames c.1 || hasName nonDataNames c.1) = true := by decide +kernel
  simpa only [List.all_eq_true, Bool.or_eq_true, hasName_iff] using h

theorem classification_disjoint : ∀ n ∈ dataNames, n ∉ nonDataNames := by
  have h : dataNames.all (fun n => !hasName nonDataNames n) = true := by decide +kernel
  simpa only [List.all_eq_true, Bool.not_eq_eq_eq_not, Bool.not_true, hasName_false_iff] using h

/-- Every data command is handed the database the connection has selected — full statement, no exception list
    (until b74cb7f the EVALSHA arm was the one exception; dropping `db` from any data arm breaks this theorem). -/
theorem every_data_command_gets_db : ∀ c ∈ Gen.Dispatch.dispatch, c.1 ∈ dataNames → c.2 = true := by
  have h : Gen.Dispatch.dispatch.all (fun c => c.2 || !hasName dataNames c.1) = true := by decide +kernel
  intro c hc hd
  simpa only [hasName_iff.mpr hd, Bool.not_true, Bool.or_false] using List.all_eq_true.mp h c hc

/-- in particular both script entry points -/
theorem eval_and_evalsha_get_db : ("EVAL", true) ∈ Gen.Dispatch.dispatch ∧ ("EVALSHA", true) ∈ Gen.Dispatch.dispatch := by decide

/-- no data command is answered before the dispatch (where no database index is in sight) -/
theorem pre_dispatch_not_data : ∀ n ∈ Gen.Dispatch.preDispatch, n ∉ dataNames := by
  have h : Gen.Dispatch.preDispatch.all (fun n => !hasName dataNames n) = true := by decide +kernel
  simpa only [List.all_eq_true, Bool.not_eq_eq_eq_not, Bool.not_true, hasName_false_iff] using h

/-- every command of the key-space machine is an arm of the server's dispatch -/
theorem model_vocabulary_dispatched : ∀ n ∈ KS.cmdNames, (n, true) ∈ Gen.Dispatch.dispatch ∨ (n, false) ∈ Gen.Dispatch.dispatch := by
  have h : KS.cmdNames.all (hasName (Gen.Dispatch.dispatch.map (·.1))) = true := by decide +kernel
  intro n hn
  obtain ⟨⟨_, b⟩, hc, rfl⟩ := List.mem_map.mp (hasName_iff.mp (List.all_eq_true.mp h n hn))
  cases b
  · exact Or.inr hc
  · exact Or.inl hc

/-- The code variant IS the prescribed machine: read off the regenerated tables, no switch is on (EVALSHA's arm passes
    `db`, `execute_database` gets `db`, `handle_exec` executes a queued SELECT on the real connection); 16 databases,
    one blocking registry each.  A regression at any of the three sites flips a generated constant and breaks this. -/
theorem code_is_the_spec :
    codeSwitches = Switches.fixed ∧
    Gen.Dispatch.numDatabases = numDbs ∧ Gen.Dispatch.blockingRegistries = numDbs ∧ emptyStore.length = numDbs := by decide

/-- Hence, for the machine as the source has it today: every access of every history, on all four paths, uses the
    database prescribed for it … -/
theorem code_paths_use_selection (q : Quirks) (st : State) (evs : List Dbs.Ev) :
    ∃ as, (run codeSwitches q st evs).log = st.log ++ as ∧ ∀ a ∈ as, a.db = a.sel := by
  rw [code_is_the_spec.1]; exact fixed_paths_use_selection q st evs

/-- … the numbered databases are isolated over arbitrary interleaved histories … -/
theorem code_isolation_over_histories (q : Quirks) (st : State) (evs : List Dbs.Ev) (j : Nat) :
    ∃ as, (run codeSwitches q st evs).log = st.log ++ as ∧
      getDb (run codeSwitches q st evs).store j =
        getDb (runAcc q st.store (as.filter fun a => a.sel == j || isFlushAll a.cmd)) j := by
  rw [code_is_the_spec.1]; exact isolation_over_histories q st evs j

/-- … and a request that neither selects nor flushes everything leaves every database but the selected one untouched. -/
theorem code_conn_step_frame (q : Quirks) (st : State) (now c i j : Nat) (r : Req)
    (hsel : (st.conns c).db = i) (hw : st.wakes = [])
    (hr : Clean false r) (hq : reqName r = "EXEC" → ∀ x ∈ (st.conns c).queue, Clean false x) (hj : j ≠ i) :
    getDb (exec codeSwitches q st now c r).1.store j = getDb st.store j := by
  rw [code_is_the_spec.1]; exact conn_step_frame q st now c i j r hsel hw hr hq hj

/-- Prescribed (what Redis does): a SELECT queued in a transaction is executed by EXEC like any other command — the
    commands queued after it run on the newly selected database and the selection stays after the transaction.
    Stated for `MULTI; SELECT k; cmd; EXEC` with any valid SELECT spelling, any ordinary command (one that cannot serve a
    blocked client) and any state. -/
theorem select_in_multi (q : Quirks) (st : State) (now c k : Nat) (e n0 a n : Bytes) (args : List Bytes) (obs : Option (List Bytes))
    (he : nameOf [e] = "EXEC") (hn : nameOf [n0, a] = "SELECT") (hk : selectArg [a] = some k)
    (h1 : nameOf (n :: args) ≠ "SELECT") (h2 : nameOf (n :: args) ≠ "BLPOP") (h3 : nameOf (n :: args) ≠ "BRPOP")
    (h4 : nameOf (n :: args) ≠ "LPUSH") (h5 : nameOf (n :: args) ≠ "RPUSH")
    (h6 : nameOf (n :: args) ≠ "RENAME") (h7 : nameOf (n :: args) ≠ "RENAMENX")
    (hb : (st.conns c).blocked = false) (hm : (st.conns c).inMulti = true)
    (hq : (st.conns c).queue = [.plain [n0, a] none, .plain (n :: args) obs]) (hw : st.wakes = []) :
    (exec Switches.fixed q st now c (.plain [e] none)).2.reply
        = some (.array [ok, (KS.step q st.store k now (n :: args) obs).2]) ∧
    (exec Switches.fixed q st now c (.plain [e] none)).1.store = (KS.step q st.store k now (n :: args) obs).1 ∧
    ((exec Switches.fixed q st now c (.plain [e] none)).1.conns c).db = k ∧
    ((exec Switches.fixed q st now c (.plain [e] none)).1.conns c).inMulti = false := by
  simp [exec, reqName, he, hb, hm, hq, execQueue, dispatch, hn, doSelect, hk, h1, h2, h3, h4, h5, h6, h7, updConn, access,
    processWakes_nil, hw, Switches.fixed]

/-- `MULTI; SELECT 1; SET k v; EXEC` by connection 1 on an empty server -/
def selectInMultiWitness : List Dbs.Ev :=
  [.req 1000 1 (.plain [wMULTI] none), .req 1000 1 (.plain [wSELECT, [49]] none), .req 1000 1 (.plain [wSET, [107], [118]] none),
   .req 1000 1 (.plain [wEXEC] none)]

/-- The code before commit 2147747 (switch `execSelectNoop`) violated it (witness, replayed on the server by lib/c18.py's
    corpus, where it must now behave as prescribed): EXEC re-dispatched with connection id 0, the queued SELECT answered OK
    and selected nothing — `k` lands in database 0, database 1 stays empty and
    the selection is still 0; the prescribed machine puts `k` into database 1 and leaves 1 selected. -/
theorem select_in_multi_fails :
    ((run { execSelectNoop := true } {} {} selectInMultiWitness).conns 1).db = 0 ∧
    getDb (run { execSelectNoop := true } {} {} selectInMultiWitness).store 1 = [] ∧
    getDb (run { execSelectNoop := true } {} {} selectInMultiWitness).store 0 = [([107], ⟨.str [118], none⟩)] ∧
    ((run Switches.fixed {} {} selectInMultiWitness).conns 1).db = 1 ∧
    getDb (run Switches.fixed {} {} selectInMultiWitness).store 1 = [([107], ⟨.str [118], none⟩)] ∧
    getDb (run Switches.fixed {} {} selectInMultiWitness).store 0 = [] := by decide

/-- What did hold for that code: a transaction whose queue contains no SELECT was executed exactly as prescribed. -/
theorem select_in_multi_partial (q : Quirks) (st : State) (now c : Nat) (r : Req)
    (hq : ∀ x ∈ (st.conns c).queue, ∀ a o, x = .plain a o → nameOf a ≠ "SELECT") :
    exec { execSelectNoop := true } q st now c r = exec Switches.fixed q st now c r := by
  apply exec_eq_fixed
  · cases r with
    | plain a o => simp [Benign]
    | script sha cmds pcs => simp [Benign]
  · intro x hx
    cases x with
    | plain a o => intro _; exact hq _ hx a o rfl
    | script sha cmds pcs => simp [Benign]

/-- `SELECT 3` by connection 1 -/
def select3 : List Dbs.Ev := [.req 1000 1 (.plain [wSELECT, [51]] none)]

/-- EVALSHA on database 0 (switch `evalshaDb0`, the code before commit b74cb7f) violates the frame rule of the connection
    machine (the exact negation of `conn_step_frame` for that switch): connection 1 has database 3 selected, its EVALSHA of a script doing `SET k v` changes database 0
    and leaves database 3 empty. -/
theorem evalsha_isolation_fails :
    ∃ (st : State) (now c i j : Nat) (r : Req),
      (st.conns c).db = i ∧ st.wakes = [] ∧ Clean false r ∧ reqName r ≠ "EXEC" ∧ j ≠ i ∧
      getDb (exec { evalshaDb0 := true } {} st now c r).1.store j ≠ getDb st.store j ∧
      getDb (exec { evalshaDb0 := true } {} st now c r).1.store i = [] := by
  refine ⟨run {} {} {} select3, 1000, 1, 3, 0, .script true [[wSET, [107], [118]]], ?_⟩
  simp only [Clean, List.mem_singleton, forall_eq]
  decide

/-- `SET zero 1` by connection 2 (database 0); `SELECT 3; SET three 1` by connection 1 -/
def twoDbs : List Dbs.Ev :=
  [.req 1000 2 (.plain [wSET, [122], [49]] none), .req 1000 1 (.plain [wSELECT, [51]] none), .req 1000 1 (.plain [wSET, [116], [49]] none)]

/-- FLUSHDB / DBSIZE from a script acting on database 0 (switch `scriptDbCmdsDb0`, the code before commit 0c66cae;
    same negation, for the second switch): with database 3
    selected, `EVAL "return redis.call('FLUSHDB')" 0` empties database 0 and leaves database 3 as it was, and
    `redis.call('DBSIZE')` counts database 0. -/
theorem script_flushdb_isolation_fails :
    ∃ (st : State) (now c i j : Nat) (r : Req),
      (st.conns c).db = i ∧ st.wakes = [] ∧ Clean false r ∧ reqName r ≠ "EXEC" ∧ j ≠ i ∧
      getDb (exec { scriptDbCmdsDb0 := true } {} st now c r).1.store j ≠ getDb st.store j ∧
      getDb (exec { scriptDbCmdsDb0 := true } {} st now c r).1.store i = getDb st.store i ∧ getDb st.store i ≠ [] := by
  refine ⟨run {} {} {} twoDbs, 1000, 1, 3, 0, .script false [[wFLUSHDB]], ?_⟩
  simp only [Clean, List.mem_singleton, forall_eq]
  decide

/-! ### Non-vacuity: the hypotheses are satisfiable, and the served path is really exercised -/

example : ({} : State).wakes = [] ∧ (({} : State).conns 1).blocked = false ∧ (({} : State).conns 1).inMulti = false ∧
    ({} : State).store.length = 16 := by decide
example : Clean false (.plain [wGET, [107]] none) := by simp only [Clean]; decide
example : Clean false (.script true [[wSET, [107], [118]], [wGET, [107]]]) := by
  simp only [Clean, true_and]; intro x hx; simp at hx; rcases hx with h | h <;> subst h <;> decide
example : selectArg [[43, 53]] = some 5 ∧ selectArg [[48, 48, 55]] = some 7 ∧ selectArg [[49, 54]] = none ∧
    selectArg [[45, 48]] = none ∧ selectArg [[]] = none ∧ selectArg [[32, 49]] = none ∧ selectArg [[49, 46, 48]] = none ∧
    selectArg [] = none ∧ selectArg [[49], [50]] = none := by decide
/-- connection 1 blocks in database 3 (`SELECT 3; BLPOP l 0`); connection 2 pushes to `l` in database 0 (nobody is
    served), selects 3 and pushes again: the pop that serves connection 1 runs on database 3, the element pushed in
    database 0 is still there. -/
example :
    let evs : List Dbs.Ev :=
      [.req 1 1 (.plain [wSELECT, [51]] none), .req 2 1 (.plain [[66, 76, 80, 79, 80], [108], [48]] none),
       .req 3 2 (.plain [[82, 80, 85, 83, 72], [108], [97]] none), .req 4 2 (.plain [wSELECT, [51]] none),
       .req 5 2 (.plain [[82, 80, 85, 83, 72], [108], [98]] none)]
    (run Switches.fixed {} {} evs).log.map (fun a => (a.path, a.db, a.sel)) =
        [(.direct, 3, 3), (.direct, 0, 0), (.direct, 3, 3), (.served, 3, 3)] ∧
    getDb (run Switches.fixed {} {} evs).store 0 = [([108], ⟨.list [[97]], none⟩)] ∧
    getDb (run Switches.fixed {} {} evs).store 3 = [] ∧
    ((run Switches.fixed {} {} evs).conns 1).blocked = false := by decide +kernel

/-- the wake-up is carried out at the end of the pushing command itself (also inside EXEC): connection 2 waits on `k`
    (`BRPOP k 0`), connection 1 runs `MULTI; LPUSH k a; RPUSH k b; EXEC` — the waiter gets `a` before the second push. -/
example :
    let evs : List Dbs.Ev :=
      [.req 1 2 (.plain [[66, 82, 80, 79, 80], [107], [48]] none), .req 2 1 (.plain [wMULTI] none),
       .req 3 1 (.plain [[76, 80, 85, 83, 72], [107], [97]] none), .req 4 1 (.plain [[82, 80, 85, 83, 72], [107], [98]] none),
       .req 5 1 (.plain [wEXEC] none)]
    (run Switches.fixed {} {} evs).log.map (fun a => (a.path, a.db)) = [(.direct, 0), (.exec, 0), (.served, 0), (.exec, 0)] ∧
    getDb (run Switches.fixed {} {} evs).store 0 = [([107], ⟨.list [[98]], none⟩)] ∧
    ((run Switches.fixed {} {} evs).conns 2).blocked = false ∧ (run Switches.fixed {} {} evs).outbox = [] := by decide +kernel

/-- multi-key waits, re-selection and reuse of key names: connection 1 waits on `a` and `b` in database 15
    (`SELECT 15; BLPOP a b 0`) and is served through `a`; it then selects database 2 and waits on `b` again.  A push
    to `b` in database 15 (where it once waited) serves nobody and stays in database 15; the push to `b` in database 2
    serves it.  A time-out and a hang-up touch no database. -/
example :
    let evs : List Dbs.Ev :=
      [.req 1 1 (.plain [wSELECT, [49, 53]] none), .req 2 1 (.plain [[66, 76, 80, 79, 80], [97], [98], [48]] none),
       .req 3 2 (.plain [wSELECT, [49, 53]] none), .req 4 2 (.plain [[82, 80, 85, 83, 72], [97], [120]] none),
       .req 5 1 (.plain [wSELECT, [50]] none), .req 6 1 (.plain [[66, 76, 80, 79, 80], [98], [48]] none),
       .req 7 2 (.plain [[82, 80, 85, 83, 72], [98], [121]] none),
       .req 8 3 (.plain [wSELECT, [50]] none), .req 9 3 (.plain [[82, 80, 85, 83, 72], [98], [122]] none),
       .req 10 3 (.plain [[66, 76, 80, 79, 80], [99], [48, 46, 49]] none), .timeout 3, .close 2]
    (run Switches.fixed {} {} evs).log.map (fun a => (a.path, a.db, a.sel)) =
        [(.direct, 15, 15), (.direct, 15, 15), (.direct, 15, 15), (.served, 15, 15), (.direct, 2, 2), (.direct, 15, 15),
         (.direct, 2, 2), (.served, 2, 2), (.direct, 2, 2)] ∧
    getDb (run Switches.fixed {} {} evs).store 15 = [([98], ⟨.list [[121]], none⟩)] ∧
    getDb (run Switches.fixed {} {} evs).store 2 = [] ∧
    (run Switches.fixed {} {} evs).waiting = [] ∧ ((run Switches.fixed {} {} evs).conns 3).blocked = false := by decide +kernel

/-- `redis.pcall` is handed the same database as `redis.call`: with database 9 selected, a script that pcalls a failing command
    (`GET` without a key), goes on, pcalls `SET k v` and then `FLUSHDB` — every access is on database 9, database 0 keeps its
    key, and the failed pcall did not abort the script. -/
example :
    let evs : List Dbs.Ev :=
      [.req 1 2 (.plain [wSET, [122], [49]] none), .req 2 1 (.plain [wSELECT, [57]] none),
       .req 3 1 (.script false [[wGET], [wSET, [107], [118]], [wDBSIZE], [wFLUSHDB]] [true, true, false, true])]
    (run Switches.fixed {} {} evs).log.map (fun a => (a.path, a.db, a.sel)) =
        [(.direct, 0, 0), (.script false, 9, 9), (.script false, 9, 9), (.script false, 9, 9), (.script false, 9, 9)] ∧
    getDb (run Switches.fixed {} {} evs).store 9 = [] ∧
    getDb (run Switches.fixed {} {} evs).store 0 = [([122], ⟨.str [49], none⟩)] := by decide +kernel

end Ferrous.C18
