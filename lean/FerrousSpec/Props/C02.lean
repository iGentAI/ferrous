/-
  C02 — expiration is exact.

  "A key given a time-to-live is visible with its value intact to every command until its deadline, and
  from the deadline on it is absent to every command of every data type, whether or not the background
  sweeper has run yet.  The TTL is removed by overwriting the key (SET, GETSET, MSET) or PERSIST, travels
  with the value on RENAME, survives in-place modifications, and a key that has no TTL (or whose TTL was
  removed or extended) is never deleted by the server on its own.  TTL/PTTL report the remaining time,
  -1 for no TTL and -2 for an absent key."

  Model: Model/Expiry.lean.  `step c` is the transliteration of the storage functions of engine.rs with
  respect to the stored deadline and the index `expiring_keys`; `sweepCollect` / `sweepDelete` are the two
  phases of the sweeper, interleavable with any storage call (`Step`, `runM`, `trace`); `Spec.step` is the
  prescribed instant-expiry store.  The facts `c : Cfg` are regenerated from the source (`Gen/Expiry.lean`,
  `codeCfg` below); `Cfg.pinned` is the tree as it was confirmed over TCP BEFORE the repairs 191d9b7 (sweeper re-check),
  3b7595a (index maintenance) and ab54c21 (central lazy expiry in `get_shard`) — an explicit quirk record the witness
  lemmas are about; `Cfg.fixed` the prescribed behaviour.  The tie theorems (`tree_is_repaired`, `code_*`) state that the
  tables regenerated from the CURRENT source have the repaired values and that the full statements hold for `codeCfg`.  The single instant `now = deadline` is left to either side.

  Statements at full strength are proved for every configuration that has the repair switch(es) they need;
  for the tree as first analysed (`Cfg.pinned`; the current tree is `codeCfg`) the negation is proved by a concrete
  witness and the provable part is named `…_partial`.  Property theorems only; helper lemmas are in Proofs/Expiry*.lean.
-/
import FerrousSpec.Proofs.ExpiryIndex
import FerrousSpec.Proofs.ExpiryTtl
import FerrousSpec.Proofs.ExpiryMulti
import FerrousSpec.Proofs.NameCode
import FerrousSpec.Gen.Expiry
import FerrousSpec.Props.C01
namespace Ferrous.C02
open Ferrous Ferrous.Exp

/-! ### Configurations -/

def pinnedLazy : List String :=
  ["exists", "get", "get_string", "hscan", "scan", "set_string_nx", "set_string_nx_ex", "sscan", "was_modified_since", "zscan"]
def pinnedReaping : List String := ["get", "get_string", "hscan", "sscan", "zscan"]

/-- The tree as confirmed on the real server before the repairs (explicit quirk record): lazy tests only in `get` (and what reads
    through it), `exists`, `set_string_nx(_ex)`, `scan`, `was_modified_since`; no index maintenance in `set_value`
    without TTL, `set_string_nx`, `rename`, the emptying deletes; no re-check in the sweeper. -/
def Cfg.pinned : Cfg :=
  { lazy := fun fn => pinnedLazy.contains fn, reaps := fun fn => pinnedReaping.contains fn, sweeperRechecks := false,
    setValueDropsStale := false, setNxDropsStale := false, renameMovesIndex := false, emptiedDropsIndex := false }

/-- The tree as the translator sees it NOW. -/
def codeCfg : Cfg :=
  { lazy := fun fn => Gen.lazyChecked.contains fn, reaps := fun fn => Gen.reaping.contains fn,
    sweeperRechecks := Gen.sweeperRechecks, setValueDropsStale := Gen.setValueDropsStale,
    setNxDropsStale := Gen.setNxDropsStale, renameMovesIndex := Gen.renameMovesIndex,
    emptiedDropsIndex := Gen.emptiedDropsIndex }

def kA : Key := [97]
def kB : Key := [98]

/-! ### Tie to the current source: the regenerated tables have the repaired values -/

/-- TABLE: the sweeper re-checks the stored deadline, the index is maintained at every site, `get_shard` tests expiry for
    every single-key function, and NO storage function looks at `data` without a lazy test. -/
theorem tree_is_repaired :
    Gen.sweeperRechecks = true ∧ Gen.setValueDropsStale = true ∧ Gen.setNxDropsStale = true ∧ Gen.renameMovesIndex = true ∧
    Gen.emptiedDropsIndex = true ∧ Gen.centralLazy = true ∧ Gen.notLazy = [] := by decide

/-- the engine functions behind the three table-driven classes of storage calls -/
def readFns : List String :=
  ["strlen", "getrange", "llen", "lrange", "lindex", "lset", "ltrim", "smembers", "sismember", "scard", "sunion", "sinter", "sdiff",
   "srandmember", "sscan", "hget", "hmget", "hgetall", "hlen", "hexists", "hkeys", "hvals", "hscan", "zscore", "zcard", "zrank", "zrange",
   "zrangebyscore", "zcount", "zscan", "xlen", "xrange", "xrevrange", "xread"]
def updateFns : List String :=
  ["incr", "incr_by", "append", "setrange", "lpush", "rpush", "sadd", "hset", "hincrby", "zadd", "zincrby", "xadd", "xadd_with_id"]
def shrinkFns : List String := ["lpop", "rpop", "ltrim", "lrem", "srem", "spop", "hdel", "zrem", "xdel", "xtrim"]
def keysFns : List String := ["keys", "get_all_keys"]

/-- a storage call that names a real engine function of its class -/
def wfOp : Op → Bool
  | .read fn _ _ => readFns.contains fn
  | .update fn _ _ _ => updateFns.contains fn
  | .shrink fn _ _ => shrinkFns.contains fn
  | .keys fn => keysFns.contains fn
  | _ => true

def wfSteps : List Step → Bool
  | [] => true
  | .op o _ :: r => wfOp o && wfSteps r
  | _ :: r => wfSteps r

/-- TABLE (current tree): every engine function of every class has a lazy test, and the ones that create keys remove what
    they find expired; hence every well-formed storage call is lazily checked and keeps the index. -/
theorem code_ops_lazy_and_keep_index (o : Op) (h : wfOp o = true) :
    lazyOp codeCfg o = true ∧ keepsIndex codeCfg o = true := by
  -- One walk through `Gen.lazyChecked` and one through `Gen.reaping`, on the numbers of the names (`hasName`), evaluated
  -- by the kernel alone: the elaborator's own evaluation of `decide` would cost twice as much again.
  have ht : ((["set_string_nx", "set_string_nx_ex", "get", "exists", "delete", "expire", "persist", "ttl", "key_type",
      "rename", "scan"] ++ (readFns ++ (updateFns ++ (shrinkFns ++ keysFns)))).all (hasName Gen.lazyChecked) &&
      updateFns.all (hasName Gen.reaping)) = true := by decide +kernel
  simp only [Bool.and_eq_true, List.all_eq_true, hasName_iff, List.cons_append, List.nil_append, List.forall_mem_cons,
    List.forall_mem_append] at ht
  obtain ⟨⟨hnx, hnxex, hget, hexists, hdelete, hexpire, hpersist, httl, htype, hrename, hscan, hr, hup, hs, hk⟩, hu⟩ := ht
  have lz (fn : String) (h : fn ∈ Gen.lazyChecked) : codeCfg.lazy fn = true := List.contains_iff_mem.mpr h
  have rp (fn : String) (h : fn ∈ Gen.reaping) : codeCfg.reaps fn = true := List.contains_iff_mem.mpr h
  obtain ⟨-, hsv, hsn, hrn, hem, -, -⟩ := tree_is_repaired
  cases o with
  | setValue k tag v ttl => exact ⟨rfl, by simp [keepsIndex, codeCfg, hsv]⟩
  | setNx k v ttl =>
    refine ⟨?_, by simp [keepsIndex, codeCfg, hsn]⟩
    cases ttl with
    | none => exact lz _ hnx
    | some _ => exact lz _ hnxex
  | get k => exact ⟨lz _ hget, rfl⟩
  | «exists» k => exact ⟨lz _ hexists, rfl⟩
  | delete k => exact ⟨lz _ hdelete, rfl⟩
  | expire k t => exact ⟨lz _ hexpire, rfl⟩
  | persist k => exact ⟨lz _ hpersist, rfl⟩
  | ttl k => exact ⟨lz _ httl, rfl⟩
  | keyType k => exact ⟨lz _ htype, rfl⟩
  | read fn k tag => exact ⟨lz fn (hr fn (List.contains_iff_mem.mp h)), rfl⟩
  | update fn k tag d =>
    have hm := List.contains_iff_mem.mp h
    exact ⟨lz fn (hup fn hm), by simp [keepsIndex, rp fn (hu fn hm)]⟩
  | shrink fn k tag => exact ⟨lz fn (hs fn (List.contains_iff_mem.mp h)), by simp [keepsIndex, codeCfg, hem]⟩
  | rename a b => exact ⟨lz _ hrename, by simp [keepsIndex, codeCfg, hrn]⟩
  | keys fn => exact ⟨lz fn (hk fn (List.contains_iff_mem.mp h)), rfl⟩
  | scan => exact ⟨lz _ hscan, rfl⟩
  | flush => exact ⟨rfl, rfl⟩

/-! ### (1) The index agrees with the stored deadlines -/

/-- For ANY configuration (the code as it is included): every storage call outside the decidable exception set
    `keepsIndex c o = false` preserves (I), and so does every sweeper phase. -/
theorem index_agrees_partial (c : Cfg) (steps : List Step) (m : M) (h : IndexAgrees m.shard)
    (hk : ∀ st ∈ steps, match st with | .op o _ => keepsIndex c o = true | _ => True) :
    IndexAgrees (runM c m steps).shard :=
  runM_ia c steps m h (allOps_iff.mpr hk)

/-- (I) is an invariant of every run — storage calls and sweeper phases in any order — of a configuration whose
    storage functions all maintain the index.  It is what makes "collect from the index" sound. -/
theorem index_agrees (c : Cfg) (hk : ∀ o, keepsIndex c o = true) (steps : List Step) (m : M)
    (h : IndexAgrees m.shard) : IndexAgrees (runM c m steps).shard :=
  runM_ia c steps m h (allOps_of_all hk steps)

/-- … in particular of the prescribed configuration, from the empty server. -/
theorem index_agrees_fixed (steps : List Step) : IndexAgrees (runM Cfg.fixed M.empty steps).shard := by
  apply index_agrees Cfg.fixed _ steps M.empty indexAgrees_empty
  intro o; cases o <;> simp [keepsIndex, Cfg.fixed]

/-- THE CURRENT TREE: (I) is an invariant of every run of well-formed storage calls and sweeper phases from the empty server. -/
theorem code_index_agrees (steps : List Step) (hw : wfSteps steps = true) : IndexAgrees (runM codeCfg M.empty steps).shard := by
  have hw' : allOps wfOp steps = true := by
    induction steps with
    | nil => rfl
    | cons st r ih =>
      cases st with
      | op o t => simp only [wfSteps, allOps, Bool.and_eq_true] at hw ⊢; exact ⟨hw.1, ih hw.2⟩
      | _ => exact ih hw
  exact runM_ia codeCfg steps M.empty indexAgrees_empty (allOps_mono (fun o h => (code_ops_lazy_and_keep_index o h).2) steps hw')

/-- `SET k v EX ..; SET k v2` before 3b7595a: `set_value` without a TTL left the index entry of the old value. -/
theorem index_agrees_fails_set_over_ttl :
    ∃ s, IndexAgrees s ∧ ¬ IndexAgrees (step Cfg.pinned (.setValue kA .str 2 none) 10 s).1 := by
  refine ⟨(step Cfg.pinned (.setValue kA .str 1 (some 1000)) 0 Shard.empty).1, ?_, ?_⟩
  · exact step_ia _ _ _ _ (by decide) indexAgrees_empty
  · exact not_ia _ kA 1000 (by decide) (by decide)

/-- `SET k v PX 300; (deadline passes); SET k w NX`: `set_string_nx` overwrites the expired entry and keeps its index entry. -/
theorem index_agrees_fails_setnx_over_expired :
    ∃ s, IndexAgrees s ∧ ¬ IndexAgrees (step Cfg.pinned (.setNx kA 2 none) 500 s).1 := by
  refine ⟨(step Cfg.pinned (.setValue kA .str 1 (some 300)) 0 Shard.empty).1, ?_, ?_⟩
  · exact step_ia _ _ _ _ (by decide) indexAgrees_empty
  · exact not_ia _ kA 300 (by decide) (by decide)

/-- `RENAME a b`: the index entry stays under the old name and none is made under the new one (engine.rs:2031). -/
theorem index_agrees_fails_rename :
    ∃ s, IndexAgrees s ∧ ¬ IndexAgrees (step Cfg.pinned (.rename kA kB) 10 s).1 := by
  refine ⟨(step Cfg.pinned (.setValue kA .str 1 (some 300)) 0 Shard.empty).1, ?_, ?_⟩
  · exact step_ia _ _ _ _ (by decide) indexAgrees_empty
  · exact not_ia _ kA 300 (by decide) (by decide)

/-- `RPUSH l a; PEXPIRE l 300; LPOP l`: the list is deleted because it became empty, its index entry stays
    (engine.rs:1084) — a later re-creation of `l` inherits it. -/
theorem index_agrees_fails_emptied :
    ∃ s, IndexAgrees s ∧ ¬ IndexAgrees (step Cfg.pinned (.shrink "lpop" kA .list) 20 s).1 := by
  refine ⟨(step Cfg.pinned (.expire kA 300) 10 (step Cfg.pinned (.update "rpush" kA .list 1) 0 Shard.empty).1).1, ?_, ?_⟩
  · exact step_ia _ _ _ _ (by decide) (step_ia _ _ _ _ (by decide) indexAgrees_empty)
  · exact not_ia _ kA 310 (by decide) (by decide)

/-! ### (2) The server never deletes a key whose stored deadline is absent or in the future -/

/-- NO SPURIOUS DELETE, all interleavings: with the re-check in the delete phase, along EVERY run — storage calls,
    collect phases and delete phases in any order, from any state, with any index content (no invariant needed) —
    no sweeper phase removes or alters an entry whose stored deadline is absent or has not passed. -/
theorem no_spurious_delete (c : Cfg) (hr : c.sweeperRechecks = true) (steps : List Step) (m : M) :
    SweepSafe c m steps :=
  sweepSafe_of_recheck c hr steps m

/-- THE CURRENT TREE: the translator sees the re-check in `expiration_cleanup_loop` (`Gen.sweeperRechecks`), so the full
    statement holds for the code as it is, for every run from every state. -/
theorem code_no_spurious_delete (steps : List Step) (m : M) : SweepSafe codeCfg m steps :=
  sweepSafe_of_recheck codeCfg (by decide) steps m

/-- THE CURRENT TREE: a key without TTL (or whose TTL has not elapsed) is never deleted by the server on its own. -/
theorem code_never_deleted_on_its_own (k : Key) (e : Stored) (steps : List Step) (m : M)
    (hl : lookup m.shard.data k = some e) (hq : ∀ st ∈ steps, st.avoids k = true) (ht : ∀ st ∈ steps, expired st.time e = false) :
    lookup (runM codeCfg m steps).shard.data k = some e :=
  entry_survives codeCfg (by decide) k e steps m hl hq ht

/-- … and in client terms: an entry survives, value and deadline intact, every run of sweeper phases and of calls
    about other keys for as long as its stored deadline has not passed — for ever if it has none.  ("A key that has
    no TTL, or whose TTL was removed or extended, is never deleted by the server on its own"; "visible until its deadline".) -/
theorem never_deleted_on_its_own (c : Cfg) (hr : c.sweeperRechecks = true) (k : Key) (e : Stored) (steps : List Step) (m : M)
    (hl : lookup m.shard.data k = some e)
    (hq : ∀ st ∈ steps, st.avoids k = true)
    (ht : ∀ st ∈ steps, expired st.time e = false) :
    lookup (runM c m steps).shard.data k = some e :=
  entry_survives c hr k e steps m hl hq ht

/-- The part that holds for any configuration (the tree as first analysed, `Cfg.pinned`, included): when (I) holds, an ATOMIC pass — collect immediately
    followed by delete — removes no entry whose stored deadline is absent or after `now`. -/
theorem no_spurious_delete_partial (c : Cfg) (now : Nat) (s : Shard) (h : IndexAgrees s) (hn : NodupKeys s.expiring)
    (k : Key) (e : Stored) (hl : lookup s.data k = some e) (hd : ∀ d, e.deadline = some d → now < d) :
    lookup (sweepDelete c now (sweepCollect now s) s).data k = some e :=
  atomic_sweep_safe c now s h hn k e hl hd

/-- `SET k v EX 1; SET k v2`, then a sweeper pass after one second. -/
def staleIndexRun : List Step :=
  [.op (.setValue kA .str 1 (some 1000)) 0, .op (.setValue kA .str 2 none) 10, .collect 1500, .delete 1500]

/-- The stale index entry makes the sweeper delete a key that has NO time-to-live. -/
theorem no_spurious_delete_fails_stale_index :
    ¬ SweepSafe Cfg.pinned M.empty staleIndexRun ∧
    lookup (runM Cfg.pinned M.empty (staleIndexRun.take 3)).shard.data kA = some ⟨.str, 2, none⟩ ∧
    lookup (runM Cfg.pinned M.empty staleIndexRun).shard.data kA = none := by
  refine ⟨?_, by decide, by decide⟩
  intro h
  have := h.2.2.2.1 rfl kA ⟨.str, 2, none⟩ (by decide) (by decide)
  revert this; decide

/-- The window proper: the sweeper collects at 400 ms a key whose deadline (300 ms) has passed; between collect and
    delete a client re-creates it without TTL (`windowSetRun`), or — the key being late-visible — gives it a long TTL
    (`windowExpireRun`); `windowPersistRun` is the boundary instant `now = d` (collected by `d ≤ now`, not yet expired by
    `now > d`), where PERSIST is legitimate and the key is deleted all the same. -/
def windowSetRun : List Step :=
  [.op (.setValue kA .str 1 (some 300)) 0, .collect 400, .op (.setValue kA .str 2 none) 401, .delete 402]

def windowExpireRun : List Step :=
  [.op (.setValue kA .list 1 (some 300)) 0, .collect 400, .op (.expire kA 100000) 401, .delete 402]

def windowPersistRun : List Step :=
  [.op (.setValue kA .list 1 (some 300)) 0, .collect 300, .op (.persist kA) 300, .delete 301]

/-- The collect/delete window: a key collected as expired and then overwritten without TTL, given a long TTL, or
    made persistent before the delete phase runs is deleted all the same (`data.remove(&key)` does not look at the
    stored deadline, engine.rs:2505). -/
theorem no_spurious_delete_fails_window :
    (¬ SweepSafe Cfg.pinned M.empty windowSetRun ∧ lookup (runM Cfg.pinned M.empty windowSetRun).shard.data kA = none) ∧
    (¬ SweepSafe Cfg.pinned M.empty windowExpireRun ∧ lookup (runM Cfg.pinned M.empty windowExpireRun).shard.data kA = none) ∧
    (¬ SweepSafe Cfg.pinned M.empty windowPersistRun ∧ lookup (runM Cfg.pinned M.empty windowPersistRun).shard.data kA = none) := by
  refine ⟨⟨?_, by decide⟩, ⟨?_, by decide⟩, ⟨?_, by decide⟩⟩
  · intro h
    have := h.2.2.2.1 rfl kA ⟨.str, 2, none⟩ (by decide) (by decide)
    revert this; decide
  · intro h
    have := h.2.2.2.1 rfl kA ⟨.list, 1, some 100401⟩ (by decide) (by decide)
    revert this; decide
  · intro h
    have := h.2.2.2.1 rfl kA ⟨.list, 1, none⟩ (by decide) (by decide)
    revert this; decide

/-- `RPUSH l a; PEXPIRE l 300; LPOP l; RPUSH l b` — the re-created list has no TTL and is deleted at 300 ms;
    `SET a v PX 300; RENAME a b; INCR a` — the counter created under the old name is deleted at 300 ms. -/
def emptiedRecreatedRun : List Step :=
  [.op (.update "rpush" kA .list 1) 0, .op (.expire kA 300) 1, .op (.shrink "lpop" kA .list) 2,
   .op (.update "rpush" kA .list 1) 3, .collect 1000, .delete 1000]

def renameRecreatedRun : List Step :=
  [.op (.setValue kA .str 5 (some 300)) 0, .op (.rename kA kB) 1, .op (.update "incr_by" kA .str 1) 2, .collect 1000, .delete 1000]

theorem no_spurious_delete_fails_recreated :
    (lookup (runM Cfg.pinned M.empty (emptiedRecreatedRun.take 4)).shard.data kA = some ⟨.list, 1, none⟩ ∧
     lookup (runM Cfg.pinned M.empty emptiedRecreatedRun).shard.data kA = none) ∧
    (lookup (runM Cfg.pinned M.empty (renameRecreatedRun.take 3)).shard.data kA = some ⟨.str, 1, none⟩ ∧
     lookup (runM Cfg.pinned M.empty renameRecreatedRun).shard.data kA = none) := by
  decide

/-- the same runs under the re-check keep the key (instances of `no_spurious_delete`; they show the hypothesis is
    satisfiable and the repair sufficient WITHOUT any index maintenance) -/
theorem recheck_repairs_witnesses :
    let c : Cfg := { Cfg.pinned with sweeperRechecks := true }
    lookup (runM c M.empty staleIndexRun).shard.data kA = some ⟨.str, 2, none⟩ ∧
    lookup (runM c M.empty windowSetRun).shard.data kA = some ⟨.str, 2, none⟩ ∧
    lookup (runM c M.empty windowExpireRun).shard.data kA = some ⟨.list, 1, some 100401⟩ ∧
    lookup (runM c M.empty windowPersistRun).shard.data kA = some ⟨.list, 1, none⟩ ∧
    lookup (runM c M.empty emptiedRecreatedRun).shard.data kA = some ⟨.list, 1, none⟩ ∧
    lookup (runM c M.empty renameRecreatedRun).shard.data kA = some ⟨.str, 1, none⟩ := by
  decide

/-! ### (3) Never early: until its deadline a key is visible, value intact, to every command -/

/-- For EVERY configuration (the code as it is included), every storage function and every state: a call that meets
    no expired entry under its key(s) returns exactly what the prescribed store returns and leaves the same visible
    entries — no lazy test fires before the deadline (`now > d` is false up to and including `d`). -/
theorem never_early (c : Cfg) (o : Op) (now : Nat) (s : Shard) (hn : NodupKeys s.data) (h : Clean now o s) :
    Spec.purge now (step c o now s).1.data = (Spec.step o now s.data).1 ∧
    (step c o now s).2 = (Spec.step o now s.data).2 :=
  step_refines c o now s hn (Or.inr h)

/-- … and the entry it is handed is the stored one, nothing having been removed. -/
theorem live_entry_is_seen (c : Cfg) (fn : String) (now : Nat) (s : Shard) (k : Key) (e : Stored)
    (hl : lookup s.data k = some e) (he : expired now e = false) : enter c fn now s k = (s, some e) :=
  enter_live c fn now s k e hl he

/-! ### (4) Never late: from the deadline on a key is absent to every command -/

/-- NEVER LATE, full statement: when every storage function has a lazy test, every call on every state returns what the
    instant-expiry store returns and leaves the same visible entries: an entry whose deadline has passed has no
    influence on any reply or on any later visible state, swept or not. -/
theorem never_late (c : Cfg) (hl : ∀ o, lazyOp c o = true) (o : Op) (now : Nat) (s : Shard) (hn : NodupKeys s.data) :
    Spec.purge now (step c o now s).1.data = (Spec.step o now s.data).1 ∧
    (step c o now s).2 = (Spec.step o now s.data).2 :=
  step_refines c o now s hn (Or.inl (hl o))

/-- The part that holds for any configuration (the tree as first analysed, `Cfg.pinned`, included): the calls that DO have a
    lazy test (and the blind overwrites). -/
theorem never_late_partial (c : Cfg) (o : Op) (now : Nat) (s : Shard) (hn : NodupKeys s.data) (h : lazyOp c o = true) :
    Spec.purge now (step c o now s).1.data = (Spec.step o now s.data).1 ∧
    (step c o now s).2 = (Spec.step o now s.data).2 :=
  step_refines c o now s hn (Or.inl h)

/-- THE CURRENT TREE, never late: every well-formed storage call, on every state, returns what the instant-expiry store
    returns and leaves the same visible entries (this is a statement about `Gen.lazyChecked`: it stops checking as soon as
    one engine function loses its test). -/
theorem code_never_late (o : Op) (hw : wfOp o = true) (now : Nat) (s : Shard) (hn : NodupKeys s.data) :
    Spec.purge now (step codeCfg o now s).1.data = (Spec.step o now s.data).1 ∧
    (step codeCfg o now s).2 = (Spec.step o now s.data).2 :=
  step_refines codeCfg o now s hn (Or.inl (code_ops_lazy_and_keep_index o hw).1)

/-- ALL INTERLEAVINGS: when every storage function has a lazy test and the sweeper re-checks, every run of client calls
    interleaved in any way with collect and delete phases (times non-decreasing) returns, call by call, exactly what
    the instant-expiry store — which has no sweeper — returns.  Never early, never late and no spurious delete in one. -/
theorem fixed_refines_spec (c : Cfg) (hl : ∀ o, lazyOp c o = true) (hr : c.sweeperRechecks = true) (steps : List Step)
    (hm : monotoneFrom 0 steps = true) : trace c M.empty steps = Spec.trace [] steps :=
  run_refines_of c hr steps M.empty [] 0 (allOps_of_all hl steps) nodup_nil rfl hm

/-- THE CURRENT TREE, all interleavings: every run of well-formed storage calls interleaved in any way with collect and delete
    phases (times non-decreasing) returns, call by call, exactly what the instant-expiry store returns. -/
theorem code_refines_spec (steps : List Step) (hw : wfSteps steps = true) (hm : monotoneFrom 0 steps = true) :
    trace codeCfg M.empty steps = Spec.trace [] steps := by
  have hw' : allOps wfOp steps = true := by
    clear hm
    induction steps with
    | nil => rfl
    | cons st r ih =>
      cases st with
      | op o t => simp only [wfSteps, allOps, Bool.and_eq_true] at hw ⊢; exact ⟨hw.1, ih hw.2⟩
      | _ => exact ih hw
  exact run_refines_of codeCfg tree_is_repaired.1 steps M.empty [] 0
    (allOps_mono (fun o h => (code_ops_lazy_and_keep_index o h).1) steps hw') nodup_nil rfl hm

/-- the store with one expired, unswept entry used by the witnesses: `kA` of the given type, deadline 300, at time 500 -/
def late (tag : Tag) : Shard := ⟨[(kA, ⟨tag, 1, some 300⟩)], [(kA, 300)]⟩

/-- NEVER LATE is FALSE for the tree as first analysed (`Cfg.pinned`; for the current tree see `code_never_late`),
    one witness per class of storage function without a lazy test:
    on `RPUSH l a; PEXPIRE l 300` at 500 ms, unswept — LLEN answers 1; RPUSH appends to the dead list (2) and the
    acknowledged element is lost with it; LPOP pops from it; DEL answers 1; EXPIRE revives it; PERSIST makes it
    permanent; TYPE says list; RENAME moves it; KEYS / DBSIZE count it; `ttl` reports zero (→ PTTL 0). -/
theorem never_late_fails :
    (step Cfg.pinned (.read "llen" kA .list) 500 (late .list)).2 ≠ (Spec.step (.read "llen" kA .list) 500 (late .list).data).2 ∧
    (step Cfg.pinned (.update "rpush" kA .list 1) 500 (late .list)).2 ≠ (Spec.step (.update "rpush" kA .list 1) 500 (late .list).data).2 ∧
    (step Cfg.pinned (.update "incr_by" kA .str 1) 500 (late .str)).2 ≠ (Spec.step (.update "incr_by" kA .str 1) 500 (late .str).data).2 ∧
    (step Cfg.pinned (.shrink "lpop" kA .list) 500 (late .list)).2 ≠ (Spec.step (.shrink "lpop" kA .list) 500 (late .list).data).2 ∧
    (step Cfg.pinned (.delete kA) 500 (late .list)).2 ≠ (Spec.step (.delete kA) 500 (late .list).data).2 ∧
    (step Cfg.pinned (.expire kA 1000) 500 (late .list)).2 ≠ (Spec.step (.expire kA 1000) 500 (late .list).data).2 ∧
    (step Cfg.pinned (.persist kA) 500 (late .list)).2 ≠ (Spec.step (.persist kA) 500 (late .list).data).2 ∧
    (step Cfg.pinned (.keyType kA) 500 (late .list)).2 ≠ (Spec.step (.keyType kA) 500 (late .list).data).2 ∧
    (step Cfg.pinned (.rename kA kB) 500 (late .list)).2 ≠ (Spec.step (.rename kA kB) 500 (late .list).data).2 ∧
    (step Cfg.pinned (.keys "keys") 500 (late .list)).2 ≠ (Spec.step (.keys "keys") 500 (late .list).data).2 ∧
    (step Cfg.pinned (.keys "get_all_keys") 500 (late .list)).2 ≠ (Spec.step (.keys "get_all_keys") 500 (late .list).data).2 ∧
    (step Cfg.pinned (.ttl kA) 500 (late .list)).2 ≠ (Spec.step (.ttl kA) 500 (late .list).data).2 := by
  decide

/-- the consequences a client sees: EXPIRE on the dead key revives it (visible again to GET-like calls);
    an element pushed onto the dead list is acknowledged and then deleted with it by the next pass. -/
theorem never_late_fails_consequences :
    -- revived
    Spec.purge 600 (step Cfg.pinned (.expire kA 1000) 500 (late .list)).1.data ≠ [] ∧
    (Spec.step (.expire kA 1000) 500 (late .list).data).1 = [] ∧
    -- acknowledged write lost
    (let s1 := (step Cfg.pinned (.update "rpush" kA .list 1) 500 (late .list)).1
     lookup (sweepDelete Cfg.pinned 1000 (sweepCollect 1000 s1) s1).data kA = none) ∧
    lookup (Spec.step (.update "rpush" kA .list 1) 500 (late .list).data).1 kA = some ⟨.list, 1, none⟩ := by
  decide

/-- the functions that had NO lazy test before ab54c21, confirmed one by one over TCP with the sweeper paused (lib/c02.py
    matrix): `never_late_fails` has one witness per class of them, `late_functions_repaired` finds each in `Gen.lazyChecked` -/
def knownLate : List String :=
  ["append", "delete", "expire", "get_all_keys", "getrange", "hdel", "hexists", "hget", "hgetall", "hincrby", "hkeys", "hlen",
   "hmget", "hset", "hvals", "incr", "incr_by", "key_type", "keys", "lindex", "llen", "lpop", "lpush", "lrange", "lrem", "lset",
   "ltrim", "persist", "pexpire", "pttl", "rename", "rpop", "rpush", "sadd", "scard", "sdiff", "setrange", "sinter", "sismember",
   "smembers", "spop", "srandmember", "srem", "stream_create_consumer_group", "strlen", "sunion", "ttl", "xadd", "xadd_with_id",
   "xdel", "xlen", "xrange", "xread", "xrevrange", "xtrim", "zadd", "zcard", "zcount", "zincrby", "zrange", "zrangebyscore", "zrank",
   "zrem", "zscore"]

/-- TABLE (current tree): every function that was late is lazily checked now, and none looks at `data` without a test. -/
theorem late_functions_repaired : (∀ fn ∈ knownLate, fn ∈ Gen.lazyChecked) ∧ Gen.notLazy = [] := by
  have ht : knownLate.all (hasName Gen.lazyChecked) = true := by decide +kernel
  exact ⟨by simpa only [List.all_eq_true, hasName_iff] using ht, rfl⟩

/-- TABLE: the functions that had a lazy test still have it, and the sweeper still collects from the index. -/
theorem lazy_core_kept : (∀ fn ∈ pinnedLazy, fn ∈ Gen.lazyChecked) ∧ (∀ fn ∈ pinnedReaping, fn ∈ Gen.reaping) ∧
    Gen.sweeperCollectsFromIndex = true ∧ Gen.snapshotReadsThroughGet = true := by
  have ht : (pinnedLazy.all (hasName Gen.lazyChecked) && pinnedReaping.all (hasName Gen.reaping)) = true := by
    decide +kernel
  simp only [Bool.and_eq_true, List.all_eq_true, hasName_iff] at ht
  exact ⟨ht.1, ht.2, rfl, rfl⟩

/-- TABLE: the comparison operators the model uses are the code's: `is_expired` is `now > d`, `ttl` tests `d > now`. -/
theorem comparison_operators_match : Gen.expiredIsStrict = true ∧ Gen.ttlComparesStrict = true := by decide

/-! ### (5) Who removes, moves and keeps the time-to-live (on STORED deadlines; every configuration) -/

/-- SET, GETSET, MSET (and SETNX on an absent key) store the new value WITHOUT a deadline, whatever was there. -/
theorem ttl_cleared_by_overwrite (c : Cfg) (now : Nat) (s : Shard) (k : Key) (n : Nat) :
    lookup (cmd c { name := "SET", k := k, n := n } now s).1.data k = some ⟨.str, n, none⟩ ∧
    lookup (cmd c { name := "MSET", k := k, n := n } now s).1.data k = some ⟨.str, n, none⟩ ∧
    (∀ e, lookup s.data k = some e → e.tag = .str → expired now e = false →
      (cmd c { name := "GETSET", k := k, n := n } now s).2 = .num e.val ∧
      lookup (cmd c { name := "GETSET", k := k, n := n } now s).1.data k = some ⟨.str, n, none⟩) := by
  refine ⟨by simp [cmd, cmdWith, step, lookup_insert_self], by simp [cmd, cmdWith, step, lookup_insert_self], ?_⟩
  intro e hl ht he
  obtain ⟨tag, val, d⟩ := e
  simp only [] at ht; subst ht
  simp [cmd, cmdWith, step, enter_live c _ now s k _ hl he, lookup_insert_self]

/-- … and with the index maintained (`setValueDropsStale`) no index entry is left behind either. -/
theorem overwrite_drops_index (c : Cfg) (h : c.setValueDropsStale = true) (now : Nat) (s : Shard) (k : Key) (tag : Tag) (n : Nat) :
    lookup (step c (.setValue k tag n none) now s).1.expiring k = none := by
  simp [step, h, lookup_erase_self]

/-- PERSIST on a visible key with a deadline removes the deadline and nothing else. -/
theorem ttl_cleared_by_persist (c : Cfg) (now : Nat) (s : Shard) (k : Key) (e : Stored) (d : Nat)
    (hl : lookup s.data k = some e) (hd : e.deadline = some d) (he : expired now e = false) :
    (step c (.persist k) now s).2 = .bool true ∧
    lookup (step c (.persist k) now s).1.data k = some { e with deadline := none } ∧
    lookup (step c (.persist k) now s).1.expiring k = none := by
  simp [step, enter_live c _ now s k e hl he, hd, lookup_insert_self, lookup_erase_self]

/-- RENAME moves the stored entry — type, value AND deadline — to the new name; the old name is gone. -/
theorem ttl_travels_on_rename (c : Cfg) (now : Nat) (s : Shard) (a b : Key) (e : Stored) (hab : a ≠ b)
    (hl : lookup s.data a = some e) (he : expired now e = false) :
    (step c (.rename a b) now s).2 = .bool true ∧
    lookup (step c (.rename a b) now s).1.data b = some e ∧
    lookup (step c (.rename a b) now s).1.data a = none := by
  simp [step, enter_live c _ now s a e hl he, lookup_insert_self, lookup_insert_other _ _ _ _ hab, lookup_erase_self]

/-- … and with the index maintained the index entry travels too. -/
theorem rename_moves_index (c : Cfg) (h : c.renameMovesIndex = true) (now : Nat) (s : Shard) (a b : Key) (e : Stored) (d : Nat)
    (hab : a ≠ b) (hl : lookup s.data a = some e) (hd : e.deadline = some d) (he : expired now e = false) :
    lookup (step c (.rename a b) now s).1.expiring b = some d ∧ lookup (step c (.rename a b) now s).1.expiring a = none := by
  simp [step, enter_live c _ now s a e hl he, h, hd, lookup_insert_self, lookup_insert_other _ _ _ _ hab, lookup_erase_self]

/-- In-place modifications (INCR, APPEND, SETRANGE, pushes, SADD, HSET, ZADD, XADD; pops and removals that leave the
    collection non-empty) keep the stored deadline, and the index is not touched. -/
theorem ttl_survives_in_place_update (c : Cfg) (fn : String) (now : Nat) (s : Shard) (k : Key) (e : Stored) (delta : Nat)
    (hl : lookup s.data k = some e) (he : expired now e = false) :
    lookup (step c (.update fn k e.tag delta) now s).1.data k = some { e with val := e.val + delta } ∧
    (step c (.update fn k e.tag delta) now s).1.expiring = s.expiring ∧
    (1 < e.val → lookup (step c (.shrink fn k e.tag) now s).1.data k = some { e with val := e.val - 1 } ∧
                 (step c (.shrink fn k e.tag) now s).1.expiring = s.expiring) := by
  refine ⟨by simp [step, enter_live c _ now s k e hl he, lookup_insert_self], by simp [step, enter_live c _ now s k e hl he], ?_⟩
  intro hv
  have : ¬ e.val ≤ 1 := by omega
  simp [step, enter_live c _ now s k e hl he, this, lookup_insert_self]

/-- The same facts on the command-level reference machine of C01/C03 (`KS.step`), cited from there. -/
theorem ks_ttl_rules (db : KS.Db) (now : Nat) (k v : Bytes) :
    KS.lookup (KS.cmdSet db now [k, v]).1 k = some { val := .str v, deadline := none } ∧
    (∀ a b e, KS.DbOk db → a ≠ b → KS.lookup db a = some e →
      KS.lookup (KS.cmdRename db false [a, b]).1 b = some e ∧ KS.lookup (KS.cmdRename db false [a, b]).1 a = none) ∧
    (∀ b d, KS.lookup db k = some ⟨.str b, d⟩ → b.length + v.length ≤ 536870912 →
      KS.cmdAppend db [k, v] = (KS.insert db k ⟨.str (b ++ v), d⟩, KS.nat (b.length + v.length))) ∧
    (∀ e d, KS.lookup db k = some e → e.deadline = some d →
      KS.lookup (KS.cmdPersist db [k]).1 k = some { e with deadline := none }) := by
  refine ⟨C01.set_clears_ttl db now k v, ?_, ?_, ?_⟩
  · intro a b e hdb hab h
    exact (C01.rename_moves_value_and_ttl db a b e hdb hab h).2
  · intro b d h hl
    rw [C01.append_is_concat db k b v d h, if_pos hl]
  · intro e d h hd
    simp [KS.cmdPersist, h, hd, KS.lookup_insert_self]

/-- the visibility rule of that machine (`KS.purge`: visible iff `now < d`) is this model's (`expired`: absent iff
    `d < now`) at every instant other than the deadline itself -/
theorem ks_visibility_rule_agrees (now d : Nat) (v : KS.Val) (tag : Tag) (n : Nat) (h : now ≠ d) :
    KS.alive now ⟨v, some d⟩ = !expired now ⟨tag, n, some d⟩ := by
  simp only [KS.alive, expired]
  by_cases h1 : now < d
  · have : ¬ d < now := by omega
    simp [h1, this]
  · have : d < now := by omega
    simp [h1, this]

/-! ### (6) What TTL and PTTL reply -/

/-- TTL, for every remaining time of at least one millisecond (in nanoseconds): the remaining time in seconds,
    ROUNDED UP; PTTL: the remaining whole milliseconds; −1 without deadline; −2 for an absent key. -/
theorem ttl_reply_spec (ns : Nat) (h : nsPerMs ≤ ns) :
    ttlReply (some ns) true = Spec.ttlSeconds ns ∧ 1 ≤ ttlReply (some ns) true ∧
    pttlReply (some ns) true = Spec.pttlMillis ns ∧
    ttlReply none true = -1 ∧ pttlReply none true = -1 ∧ ttlReply none false = -2 ∧ pttlReply none false = -2 :=
  ⟨ttlOfRemaining_ceil ns h, ttlOfRemaining_pos ns h, rfl, rfl, rfl, rfl, rfl⟩

/-- DEVIATION in the last millisecond, of the chain the tree had before the repair b8984a2 (`ttlOfRemaining`; the current
    chain is `ttlOfRemainingWith true`, see `ttl_reply_spec_repaired`): a key that is still visible (`ns > 0` left, `GET`
    returns it) is reported as absent by TTL (`as_secs() == 0 && subsec_millis() == 0 → -2`), and PTTL says 0. -/
theorem ttl_reply_fails_sub_millisecond :
    ttlReply (some 999999) true = -2 ∧ pttlReply (some 999999) true = 0 ∧ Spec.ttlSeconds 999999 = 1 ∧
    (∀ ns, ns < nsPerMs → ttlReply (some ns) true = -2) :=
  ⟨by decide, by decide, by decide, fun ns h => ttlOfRemaining_sub_ms ns h⟩

/-- Redis rounds to the NEAREST second (`(ms + 500) / 1000`); the code rounds UP: the two differ by one exactly when the
    fractional part is between 1 and 499 ms (`SET k v PX 1400; TTL k` → 2 here, 1 in Redis). -/
theorem ttl_rounds_up_not_nearest (ms : Nat) (h : 1 ≤ ms) :
    ttlOfRemaining (ms * nsPerMs) = Spec.redisTtl ms + (if 0 < ms % 1000 ∧ ms % 1000 < 500 then 1 else 0) :=
  ttl_vs_redis ms h

/-- On an expired, unswept entry the non-lazy `ttl` answers `Some(0)`: the TTL command maps it to −2 (as for an absent
    key — never late), the PTTL command to 0 (late: a key that is gone reports "0 ms left" until the sweeper removes it). -/
theorem ttl_on_expired_unswept (c : Cfg) (hz : c.lazy "ttl" = false) (now : Nat) (s : Shard) (k : Key) (e : Stored) (d : Nat)
    (hl : lookup s.data k = some e) (hd : e.deadline = some d) (he : d ≤ now) :
    (cmd c { name := "TTL", k := k } now s).2 = .int (-2) ∧ (cmd c { name := "PTTL", k := k } now s).2 = .int 0 := by
  have hsub : d - now = 0 := by omega
  constructor <;>
    simp [cmd, cmdWith, step, enter, hl, hz, hd, hsub, ttlReply, pttlReply, ttlOfRemaining, pttlOfRemaining, nsPerSec, nsPerMs]

theorem pttl_on_expired_unswept_fails :
    (cmd Cfg.pinned { name := "PTTL", k := kA } 500 (late .list)).2 = .int 0 ∧
    (Spec.cmd { name := "PTTL", k := kA } 500 (late .list).data).2 = .int (-2) := by
  decide

/-- TABLE: the if-chain of `handle_ttl` is the one transliterated in `ttlOfRemainingWith Gen.ttlLastMsFixed` — in the current
    tree (`Gen.ttlLastMsFixed = true`) the chain whose first arm tests a ZERO duration, before the repair b8984a2 the chain
    with the last-millisecond −2 (`ttlOfRemaining`) — and `pttl` is the floor in milliseconds. -/
theorem ttl_arithmetic_matches_source :
    ((Gen.ttlLastMsFixed = false ∧
      Gen.ttlArms = ["duration.as_secs() == 0 && duration.subsec_millis() == 0 => -2",
                     "duration.as_secs() == 0 && duration.subsec_millis() > 0 => 1",
                     "nanos > 0 => (secs + 1) as i64", "else => secs as i64"]) ∨
     (Gen.ttlLastMsFixed = true ∧
      Gen.ttlArms = ["duration.is_zero() => -2", "duration.as_secs() == 0 => 1",
                     "nanos > 0 => (secs + 1) as i64", "else => secs as i64"])) ∧ Gen.pttlFloorsMillis = true := by decide

/-- with the repaired first arm the full statement holds: for EVERY positive remaining time TTL is the remaining time in
    seconds rounded up (and −2 only at zero); without it `ttlOfRemainingWith false` is the chain above. -/
theorem ttl_reply_spec_repaired (ns : Nat) (h : 0 < ns) :
    ttlOfRemainingWith true ns = Spec.ttlSeconds ns ∧ ttlOfRemainingWith true 0 = -2 ∧
    ttlOfRemainingWith false ns = ttlOfRemaining ns :=
  ⟨ttlOfRemainingWith_fixed_ceil ns h, by decide, ttlOfRemainingWith_unfixed ns⟩

/-! ### (7) One command is one step with respect to the clock -/

/-- MULTI-MEMBER WRITE, ATOMIC: a write of `n` members made as ONE storage call that has a lazy test — at ANY instant, on
    ANY state — applies wholly to the key that is visible at that instant (all `n` members join it, its deadline kept) or
    wholly to a fresh key without TTL (the key being absent or its deadline passed); never to a strict subset. -/
theorem multi_member_write_atomic (c : Cfg) (fn : String) (hl : c.lazy fn = true) (k : Key) (n now : Nat) (s : Shard)
    (hn : NodupKeys s.data) :
    (∃ e, lookup (Spec.purge now s.data) k = some e ∧ e.tag = .zset ∧
        lookup (step c (.update fn k .zset n) now s).1.data k = some { e with val := e.val + n } ∧
        (step c (.update fn k .zset n) now s).2 = .num (e.val + n)) ∨
    (lookup (Spec.purge now s.data) k = none ∧
        lookup (step c (.update fn k .zset n) now s).1.data k = some ⟨.zset, n, none⟩ ∧
        (step c (.update fn k .zset n) now s).2 = .num n) ∨
    (∃ e, lookup (Spec.purge now s.data) k = some e ∧ e.tag ≠ .zset ∧ (step c (.update fn k .zset n) now s).2 = .wrongType) := by
  have hs := enter_snd c fn now s k hn (Or.inl hl)
  rcases update_result c fn k .zset n now s with ⟨e, h1, h2, h3, h4⟩ | ⟨h1, h3, h4⟩ | ⟨e, h1, h2, h4, _⟩
  · left; exact ⟨e, by rw [← hs, h1], h2, h3, h4⟩
  · right; left; exact ⟨by rw [← hs, h1], h3, h4⟩
  · right; right; exact ⟨e, by rw [← hs, h1], h2, h4⟩

/-- … and the single-call ZADD is the prescribed store's single step (an instance of `never_late`). -/
theorem multi_member_write_refines (c : Cfg) (hl : c.lazy "zadd_many" = true) (k : Key) (times : List Nat) (s : Shard)
    (hn : NodupKeys s.data) :
    (zaddCmd c true k times s).2 = (Spec.step (.update "zadd_many" k .zset times.length) (times.headD 0) s.data).2 ∧
    Spec.purge (times.headD 0) (zaddCmd c true k times s).1.data =
      (Spec.step (.update "zadd_many" k .zset times.length) (times.headD 0) s.data).1 := by
  have := step_refines c (.update "zadd_many" k .zset times.length) (times.headD 0) s hn (Or.inl hl)
  simp only [zaddCmd, if_true]
  exact ⟨this.2, this.1⟩

/-- The part that holds for the per-member loop: when no iteration reads the clock past the deadline, every member joins
    the live key (the loop equals the single call). -/
theorem multi_member_write_partial (c : Cfg) (fn : String) (k : Key) (times : List Nat) (s : Shard) (e : Stored)
    (hl : lookup s.data k = some e) (ht : e.tag = .zset) (hv : ∀ t ∈ times, expired t e = false) :
    lookup (perMemberRun c fn k times s).1.data k = some { e with val := e.val + times.length } ∧
    (perMemberRun c fn k times s).2 = times.length :=
  perMemberRun_live c fn k times s e hl ht hv

/-- The per-member loop is NOT atomic, even with every function lazily checked: `ZADD z 0 seed; PEXPIRE z 130;
    ZADD z <4 pairs>` whose iterations run at 100, 120, 140, 160 ms answers 4, puts two members into the expiring key
    (removed with it by the third iteration's lazy test) and creates a NEW key without TTL holding the other two: neither
    the 1 + 4 members of "before the deadline" nor the 4 members of "after it". -/
theorem multi_member_write_fails_per_member :
    let s : Shard := ⟨[(kA, ⟨.zset, 1, some 130⟩)], [(kA, 130)]⟩
    (zaddCmd Cfg.fixed false kA [100, 120, 140, 160] s).2 = .num 4 ∧
    lookup (zaddCmd Cfg.fixed false kA [100, 120, 140, 160] s).1.data kA = some ⟨.zset, 2, none⟩ ∧
    lookup (zaddCmd Cfg.fixed true kA [100, 120, 140, 160] s).1.data kA = some ⟨.zset, 5, some 130⟩ ∧
    lookup (zaddCmd Cfg.fixed true kA [140, 160, 180, 200] s).1.data kA = some ⟨.zset, 4, none⟩ := by
  decide

/-- TABLE: the sorted-set write handlers are either all per-member loops over lazily checked, reaping `zadd` / `zrem`
    (the tree before db4c992: the witness above applies) or all single storage calls `zadd_many` / `zrem_many` / `zpop`,
    lazily checked, reaping and index-maintaining (the current tree: `Gen.zsetOneCall = true`). -/
theorem zset_handlers_match_model :
    (Gen.zsetOneCall = false ∧ (∀ fn ∈ ["zadd", "zrem", "zrange"], fn ∈ Gen.lazyChecked ∧ fn ∈ Gen.reaping)) ∨
    (Gen.zsetOneCall = true ∧ (∀ fn ∈ ["zadd_many", "zrem_many", "zpop"], fn ∈ Gen.lazyChecked ∧ fn ∈ Gen.reaping) ∧
      Gen.emptiedDropsIndex = true) := by decide +kernel

/-- THE CURRENT TREE, where the translator sees the single storage calls (`Gen.zsetOneCall = true`, the hypothesis `h`):
    ZADD with any number of pairs, executed at any instant, is the prescribed store's single step. -/
theorem code_multi_member_atomic (h : Gen.zsetOneCall = true) (k : Key) (times : List Nat) (s : Shard) (hn : NodupKeys s.data) :
    (zaddCmd codeCfg Gen.zsetOneCall k times s).2 = (Spec.step (.update "zadd_many" k .zset times.length) (times.headD 0) s.data).2 ∧
    Spec.purge (times.headD 0) (zaddCmd codeCfg Gen.zsetOneCall k times s).1.data =
      (Spec.step (.update "zadd_many" k .zset times.length) (times.headD 0) s.data).1 := by
  rcases zset_handlers_match_model with ⟨h0, -⟩ | ⟨-, hz, -⟩
  · rw [h] at h0; cases h0
  · rw [h]
    exact multi_member_write_refines codeCfg (List.contains_iff_mem.mpr (hz "zadd_many" List.mem_cons_self).1) k times s hn

/-! ### (8) One script / one transaction is one step with respect to the clock -/

/-- ONE BLOCK = ONE INSTANT: a script or a transaction whose storage calls — made at ANY real times — all read the storage
    clock frozen at its start returns, call by call, what the prescribed store returns when the whole block happens at the
    instant it starts, and leaves the same visible entries: reads, existence tests, writes that create or update, TTL
    replies and the deadlines set inside are all relative to that one instant. -/
theorem block_is_one_instant (c : Cfg) (t0 : Nat) (ops : List (Op × Nat)) (s : Shard)
    (hl : blockLazy c ops = true) (hn : NodupKeys s.data) :
    (blockRun c true t0 ops s).2 = (Spec.blockRun t0 ops s.data).2 ∧
    Spec.purge t0 (blockRun c true t0 ops s).1.data = Spec.purge t0 (Spec.blockRun t0 ops s.data).1 :=
  blockRun_frozen_refines c t0 ops s s.data hl hn rfl

/-- SAME LIVENESS THROUGHOUT: under the frozen clock two looks at a key `k` inside one block — separated by any calls that
    are not about `k`, at any real times, for any deadline of `k` — give the same answer (GET the same value or nil both
    times, EXISTS the same bit): no key expires in the middle of a script or of a transaction. -/
theorem block_same_liveness (c : Cfg) (hg : c.lazy "get" = true) (hx : c.lazy "exists" = true) (t0 : Nat) (k : Key)
    (mid : List (Op × Nat)) (s : Shard) (hn : NodupKeys s.data) (ha : blockAvoids k mid = true) :
    (step c (.get k) t0 (blockRun c true t0 mid (step c (.get k) t0 s).1).1).2 = (step c (.get k) t0 s).2 ∧
    (step c (.exists k) t0 (blockRun c true t0 mid (step c (.exists k) t0 s).1).1).2 = (step c (.exists k) t0 s).2 :=
  ⟨blockRun_reread c (o := .get k) rfl t0 (fun cur => by cases cur <;> rfl) hg mid s hn ha,
   blockRun_reread c (o := .exists k) rfl t0 (fun cur => by cases cur <;> rfl) hx mid s hn ha⟩

/-- the block of the witness: `SET lock 5 PX 200`; one script reads it at 100 ms, works, and at 500 ms tests, reads,
    APPENDs to (here: a modify-or-create of size 1) and asks the TTL of the same key -/
def lockBlock : List (Op × Nat) :=
  [(.get kA, 100), (.exists kA, 100), (.exists kA, 500), (.get kA, 500), (.update "append" kA .str 1, 500), (.ttl kA, 500)]

/-- With every call reading the clock on its own the key EXPIRES INSIDE the block, even with every function lazily
    checked: the script sees `5, 1` and then `0, nil`, its APPEND re-creates the key WITHOUT a TTL (a lock that never
    expires); under the frozen clock it sees `5, 1, 1, 5`, the APPEND modifies the live key and 100 ms are left. -/
theorem block_fails_per_call_clock :
    let s : Shard := ⟨[(kA, ⟨.str, 5, some 200⟩)], [(kA, 200)]⟩
    (blockRun Cfg.fixed false 100 lockBlock s).2 =
      [.found .str 5, .bool true, .bool false, .missing, .num 1, .remaining none] ∧
    lookup (blockRun Cfg.fixed false 100 lockBlock s).1.data kA = some ⟨.str, 1, none⟩ ∧
    (blockRun Cfg.fixed true 100 lockBlock s).2 =
      [.found .str 5, .bool true, .bool true, .found .str 5, .num 6, .remaining (some 100)] ∧
    lookup (blockRun Cfg.fixed true 100 lockBlock s).1.data kA = some ⟨.str, 6, some 200⟩ := by
  decide

/-- the well-formed calls of a block -/
def wfBlock : List (Op × Nat) → Bool
  | [] => true
  | (o, _) :: r => wfOp o && wfBlock r

/-- THE CURRENT TREE, where the translator sees the frozen storage clock (`storage::clock::freeze()` in the EVAL /
    EVALSHA and EXEC paths, every expiry site reading `storage::clock::now()`; `Gen.scriptClockFrozen = true`, the
    hypothesis `h`): every script and every transaction of well-formed storage calls is one instant of the prescribed store. -/
theorem code_block_is_one_instant (h : Gen.scriptClockFrozen = true) (t0 : Nat) (ops : List (Op × Nat)) (s : Shard)
    (hw : wfBlock ops = true) (hn : NodupKeys s.data) :
    (blockRun codeCfg Gen.scriptClockFrozen t0 ops s).2 = (Spec.blockRun t0 ops s.data).2 ∧
    Spec.purge t0 (blockRun codeCfg Gen.scriptClockFrozen t0 ops s).1.data = Spec.purge t0 (Spec.blockRun t0 ops s.data).1 := by
  rw [h]
  apply block_is_one_instant codeCfg t0 ops s _ hn
  induction ops with
  | nil => rfl
  | cons p r ih =>
    obtain ⟨o, t⟩ := p
    simp only [wfBlock, Bool.and_eq_true] at hw
    simp only [blockLazy, Bool.and_eq_true]
    exact ⟨(code_ops_lazy_and_keep_index o hw.1).1, ih hw.2⟩

/-! ### Non-vacuity -/

example : ∀ o, lazyOp Cfg.fixed o = true := by intro o; cases o <;> rfl
example : Cfg.fixed.sweeperRechecks = true := rfl
example : monotoneFrom 0 staleIndexRun = true := by decide
example : trace Cfg.fixed M.empty staleIndexRun = [.unit, .unit] := by decide
example : IndexAgrees (late .list) := by
  intro k t h
  by_cases hk : kA = k
  · subst hk; exact ⟨⟨.list, 1, some 300⟩, by decide, by simp [late, lookup_cons] at h; simp [h]⟩
  · simp [late, lookup_cons, hk, lookup_nil] at h
example : NodupKeys (late .list).data ∧ NodupKeys (late .list).expiring := by unfold NodupKeys; decide
example : Clean 200 (.read "llen" kA .list) (late .list) := by
  intro e h; simp [late, lookup_cons] at h; subst h; decide
example : lazyOp Cfg.pinned (.get kA) = true ∧ lazyOp Cfg.pinned (.read "llen" kA .list) = false := by decide

end Ferrous.C02
