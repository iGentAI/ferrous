/-
  C15 — within a stream IDs strictly increase; XRANGE / XREVRANGE / XREAD return exactly the present
  entries within the bounds, in order, honouring COUNT; XLEN is the number of present entries;
  entries keep their fields.

  Property theorems only; helper lemmas live in FerrousSpec/Proofs/Stream{Range,Ops,Parse}.lean.
  Model: FerrousSpec/Model/Stream.lean (transliteration of src/storage/stream.rs and of the handlers in
  src/storage/commands/streams.rs).  `pinned` is the tree as first analysed, `fixed` has every repair
  (the switches of `Quirks`); which switches the tree has is read off the sources by lib/c15.py on
  every run.  Tie to the code: lib/c15.py drives the real
  `ferrous::storage::stream::Stream` and the real `handle_x*` functions over a `StorageEngine`
  in-process with the same operation lines as the compiled model (Drv/Stream.lean).
-/
import FerrousSpec.Proofs.StreamOps
import FerrousSpec.Proofs.StreamParse
namespace Ferrous.C15
open Ferrous Ferrous.Stream Ferrous.Stream.Code

/-! ### (1) IDs strictly increase over every history -/

/-- Every accepted XADD (auto or explicit) returns an ID greater than every ID ever added to the
    stream before it, whatever XDEL / XTRIM happened in between, whatever the clock did and however
    often the server was restarted from its dump in between
    (`added` is the ghost list of all accepted XADDs in order; `Sorted` = strictly increasing IDs;
    the `addAuto` step is `StorageEngine::xadd`: the engine's pre-check, then `add_auto`; the
    `restart` step is SAVE, stop, start, load).
    Full statement, no exclusion: holds for every tree whose generator carries into the next
    millisecond, whose engine refuses `*` at the top of the ID space (`seqCarry`) and whose dump
    carries the last ID (`persistLastId`) — lib/c15.py reads both off the sources on every run. -/
theorem ids_strictly_increase (q : Quirks) (hq : q.seqCarry = true) (hp : q.persistLastId = true) (ops : List Op) :
    Sorted (run q ops).added :=
  (run_inv q ops (Or.inl hq) (Or.inl hp)).incr

/-- Any tree (the pinned one in particular): the same, for every history in which no auto ID was
    generated while the last ID had sequence number 2^64-1 and the clock had not moved past its
    millisecond, and in which no restart came back with a smaller last ID. -/
theorem ids_strictly_increase_partial (q : Quirks) (ops : List Op)
    (h : (run q ops).wrapped = false) (hl : (run q ops).lost = false) :
    Sorted (run q ops).added :=
  (run_inv q ops (Or.inr h) (Or.inr hl)).incr

/-- The last ID of a stream never goes down, over EVERY history including restarts: with the last ID
    in the dump a restart gives back exactly the saved state. -/
theorem last_id_monotone (q : Quirks) (hq : q.seqCarry = true) (hp : q.persistLastId = true)
    (ops : List Op) (op : Op) :
    (run q ops).st.lastId ≤ (run q (ops ++ [op])).st.lastId :=
  run_lastId_le q ops [op] (Or.inl hq) (Or.inl hp)

/-- … and a restart is the identity on the stream (entries, fields, last ID, generator, length). -/
theorem restart_is_identity (q : Quirks) (hq : q.seqCarry = true) (hp : q.persistLastId = true) (ops : List Op) :
    restart q (run q ops).st = (run q ops).st :=
  restart_eq q (run_inv q ops (Or.inl hq) (Or.inl hp)) (Or.inl hp)

/-- Witness that without the last ID in the dump the full statement is false (hunt d1):
    `XADD a 5-0; XADD a 9-0; XDEL a 9-0; SAVE; restart; XADD a 7-0` is accepted, and an emptied
    stream comes back with last ID 0-0. -/
theorem last_id_lost_by_restart :
    (run pinned [.addId ⟨5, 0⟩ [], .addId ⟨9, 0⟩ [], .del [⟨9, 0⟩], .restart, .addId ⟨7, 0⟩ []]).added.map (·.1) =
        [⟨5, 0⟩, ⟨9, 0⟩, ⟨7, 0⟩] ∧
    (run pinned [.addId ⟨5, 0⟩ [], .addId ⟨9, 0⟩ [], .del [⟨9, 0⟩], .restart, .addId ⟨7, 0⟩ []]).lost = true ∧
    (run pinned [.addId ⟨3, 0⟩ [], .trimCount 0, .restart]).st.lastId = Id.zero := by
  refine ⟨by decide, by decide, by decide⟩

/-- The excluded situation needs a sequence number at the very top of the u64 range: a history of
    `n` operations whose explicit IDs all have `seq + n < 2^64` never reaches it. -/
theorem wrap_needs_top_seq (ops : List Op) (hn : ops.length < u64Mod)
    (h : ∀ op ∈ ops, seqRoom ops.length op) :
    (run pinned ops).wrapped = false := by
  have hk : 0 + ops.length < u64Mod := by omega
  have := foldl_no_wrap pinned ops Run.init ⟨hk, hk, fun e he => by cases he⟩ h
  simpa [run, Run.init] using this

/-- Witness that the full statement is false for the pinned tree:
    `XADD w 5-18446744073709551615 …` then `XADD w * …` with the clock at or before 5 ms
    returns `5-0`, below the top entry (release arithmetic; a debug build panics instead). -/
theorem ids_increase_fails_at_seq_wrap :
    (run pinned [.addId ⟨5, 18446744073709551615⟩ [], .addAuto 3 []]).added =
        [(⟨5, 18446744073709551615⟩, []), (⟨5, 0⟩, [])] ∧
    ¬ Sorted (run pinned [.addId ⟨5, 18446744073709551615⟩ [], .addAuto 3 []]).added := by
  have h : (run pinned [.addId ⟨5, 18446744073709551615⟩ [], .addAuto 3 []]).added =
      [(⟨5, 18446744073709551615⟩, []), (⟨5, 0⟩, [])] := by decide
  refine ⟨h, ?_⟩
  rw [h]
  intro hs
  have := (sorted_cons.1 hs).1 (⟨5, 0⟩, []) (by simp)
  simp [Id.lt_def] at this

/-- The rule the correspondence run checks on every `*` of the real code: outside the wrap situation
    (pinned) and away from the top of the ID space (repaired; the engine refuses there) the generated
    ID either opens a later millisecond with sequence 0 (the clock reading, or the carry of the
    repaired generator) or stays on the last millisecond with the next sequence number. -/
theorem auto_id_rule (q : Quirks) (now : Nat) (s : Code.Stream) (id : Id) (ms sq : Nat)
    (hw : (q.seqCarry = true ∧ isTopId ⟨s.atomMs, s.atomSeq⟩ = false) ∨ (q.seqCarry = false ∧ wrapsAt now s = false))
    (h : nextAuto q now s = some (id, ms, sq)) :
    (s.atomMs < id.ms ∧ id.seq = 0) ∨ (id.ms = s.atomMs ∧ id.seq = s.atomSeq + 1) := by
  refine (nextAuto_rule (hw.imp (·.1) (·.2)) (fun hnt => ?_) h).1
  rcases hw with ⟨_, ht⟩ | ⟨hf, _⟩
  · rw [ht] at hnt; cases hnt.2
  · rw [hf] at hnt; cases hnt.1

/-- With the repair, `XADD *` is refused exactly when the last ID has no successor among u64 pairs
    ("or is refused when no greater ID exists"), and a refusal changes nothing. -/
theorem auto_refused_iff_no_successor (q : Quirks) (hq : q.seqCarry = true) (hp : q.persistLastId = true)
    (ops : List Op) (now : Nat) (f : Fields) :
    ((xaddAuto q now f (run q ops).st).2 = none ↔ Spec.succId (run q ops).st.lastId = none) ∧
    ((xaddAuto q now f (run q ops).st).2 = none → (xaddAuto q now f (run q ops).st).1 = (run q ops).st) := by
  have h := xaddAuto_refused_iff q now f (run q ops).st
  rw [← isTopId_iff_succId]
  exact ⟨h.1.trans ⟨(·.2), fun ht => ⟨hq, ht⟩⟩, h.2⟩

/-- `isTopId` is the comparison `last_id == StreamId::max()` of the code, for u64 halves. -/
theorem isTop_iff_eq_max (a : Id) (h1 : a.ms < u64Mod) (h2 : a.seq < u64Mod) :
    isTopId a = true ↔ a = Id.top := by
  rw [Stream.Id.eq_def]
  have e : isTopId a = true ↔ (a.ms + 1 ≥ u64Mod ∧ a.seq + 1 ≥ u64Mod) := by simp [isTopId]
  rw [e]
  simp only [Id.top, u64Max, u64Mod] at *
  omega

/-! ### (2) explicit IDs -/

/-- XADD with an explicit ID that is 0-0 or not greater than some ID ever added is refused and the
    stream (entries, last ID, length) is exactly what it was. -/
theorem explicit_not_greater_refused_no_effect (q : Quirks) (ops : List Op)
    (hw : q.seqCarry = true ∨ (run q ops).wrapped = false)
    (hl : q.persistLastId = true ∨ (run q ops).lost = false) (id : Id) (f : Fields)
    (h : id = Id.zero ∨ ∃ e ∈ (run q ops).added, id ≤ e.1) :
    addWithId id f (run q ops).st = ((run q ops).st, false) := by
  have hi := run_inv q ops hw hl
  have hle : id ≤ (run q ops).st.lastId := by
    rcases h with rfl | ⟨e, he, hle⟩
    · exact Id.zero_le _
    · exact Std.le_trans hle (hi.bound e he)
  unfold addWithId
  rw [if_pos hle]

/-- Conversely an explicit ID above 0-0 and above everything ever added is accepted: the entry is
    appended with its fields and becomes the last ID (refusal is not the trivial way out). -/
theorem explicit_greater_accepted (q : Quirks) (ops : List Op)
    (hw : q.seqCarry = true ∨ (run q ops).wrapped = false)
    (hl : q.persistLastId = true ∨ (run q ops).lost = false) (id : Id) (f : Fields)
    (h0 : Id.zero < id) (h : ∀ e ∈ (run q ops).added, e.1 < id) :
    addWithId id f (run q ops).st = (push (run q ops).st id f, true) := by
  have hi := run_inv q ops hw hl
  have hgt : (run q ops).st.lastId < id := by
    by_cases hnil : (run q ops).added = []
    · rw [hi.lastZero hnil]; exact h0
    · obtain ⟨e, he, hee⟩ := hi.lastMem hnil
      rw [← hee]; exact h e he
  exact addWithId_of_gt hi.sorted hgt (fun x hx => Std.ne_of_lt (h x (hi.sub.subset hx))) f

/-! ### (3)–(5) range reads are filters -/

/-- Every state reached without the wrap keeps its entries strictly sorted by ID, so the read
    theorems below apply to it. -/
theorem reachable_sorted (q : Quirks) (ops : List Op)
    (hw : q.seqCarry = true ∨ (run q ops).wrapped = false)
    (hl : q.persistLastId = true ∨ (run q ops).lost = false) : Sorted (run q ops).st.entries :=
  (run_inv q ops hw hl).sorted

/-- XRANGE (repaired end bound): on every strictly sorted entry list, for all bounds and every COUNT,
    the two binary searches and the index loop return exactly the entries with `s ≤ id ≤ e`,
    in ID order, cut to COUNT. -/
theorem range_eq_filter (es : List Entry) (h : Sorted es) (s e : Id) (count : Option Nat) :
    Code.range fixed es s e count false = Spec.range es s e count := by
  simpa [Spec.range] using range_slice fixed h s e count false (Or.inl rfl)

/-- XRANGE as pinned: the same unless the end bound lies below the first entry while the start
    bound does not lie above it. -/
theorem range_eq_filter_partial (es : List Entry) (h : Sorted es) (s e : Id) (count : Option Nat)
    (hd : ¬ rangeDev es s e) :
    Code.range pinned es s e count false = Spec.range es s e count := by
  simpa [Spec.range] using range_slice pinned h s e count false (Or.inr hd)

/-- In the excluded case the pinned code returns the first entry (cut to COUNT) although no entry
    lies within the bounds — in both directions. -/
theorem range_dev_returns_first (x : Entry) (r : List Entry) (h : Sorted (x :: r)) (s e : Id)
    (count : Option Nat) (rev : Bool) (hd : rangeDev (x :: r) s e) :
    Code.range pinned (x :: r) s e count rev = Spec.takeOpt count [x] ∧
    Spec.range (x :: r) s e count = [] := by
  have hpd : pinned.rangeEndFix = false ∧ rangeDev (x :: r) s e := ⟨rfl, hd⟩
  constructor
  · simp only [range_eq pinned h, if_pos hpd]
    cases rev <;> rfl
  · rw [Spec.range, ← slice_eq_filter h, ((rangeDev_iff _ s e).1 hd).2.1, Nat.zero_sub, List.take_zero, takeOpt_nil]

/-- Witness (DESIGN §6, C15, fixed 63b3b5a): `XADD s 5-0 …; XRANGE s 1-0 2-0` returns `5-0`. -/
theorem range_fails_end_below_first :
    Code.range pinned [(⟨5, 0⟩, [])] ⟨1, 0⟩ ⟨2, 0⟩ none false = [(⟨5, 0⟩, [])] ∧
    Spec.range [(⟨5, 0⟩, [])] ⟨1, 0⟩ ⟨2, 0⟩ none = [] := by
  constructor <;> decide

/-- XREVRANGE (repaired end bound): the same entries in reverse ID order, COUNT taken from the top. -/
theorem revrange_eq_reverse (es : List Entry) (h : Sorted es) (s e : Id) (count : Option Nat) :
    Code.range fixed es s e count true = Spec.revrange es s e count := by
  simpa [Spec.revrange] using range_slice fixed h s e count true (Or.inl rfl)

theorem revrange_eq_reverse_partial (es : List Entry) (h : Sorted es) (s e : Id) (count : Option Nat)
    (hd : ¬ rangeDev es s e) :
    Code.range pinned es s e count true = Spec.revrange es s e count := by
  simpa [Spec.revrange] using range_slice pinned h s e count true (Or.inr hd)

/-- XREVRANGE is XRANGE reversed when COUNT is absent (both trees, outside the deviation). -/
theorem revrange_eq_range_reversed (q : Quirks) (es : List Entry) (h : Sorted es) (s e : Id)
    (hq : q.rangeEndFix = true ∨ ¬ rangeDev es s e) :
    Code.range q es s e none true = (Code.range q es s e none false).reverse := by
  rw [range_slice q h s e none true hq, range_slice q h s e none false hq]
  simp [Spec.takeOpt]

/-- XREAD: `range_after` returns exactly the entries with `id > after`, in ID order, cut to COUNT
    (no deviation on the pinned tree). -/
theorem xread_eq_filter_gt (es : List Entry) (h : Sorted es) (after : Id) (count : Option Nat) :
    Code.rangeAfter es after count = Spec.readAfter es after count :=
  rangeAfter_eq h after count

/-! ### (6) XLEN, XDEL, XTRIM -/

/-- XLEN (the atomic counter the code reads) equals the number of present entries after any history
    of XADD / XDEL / XTRIM — no hypothesis, both trees. -/
theorem xlen_eq_length (q : Quirks) (ops : List Op) :
    (run q ops).st.length = (run q ops).st.entries.length :=
  foldl_len q ops _ rfl

/-- XDEL removes exactly the present entries whose ID is listed (any order, duplicates allowed),
    reports how many went, and leaves the last ID alone — so a deleted top ID is never reissued. -/
theorem xdel_eq_filter (s : Code.Stream) (h : Sorted s.entries) (ids : List Id) :
    (Code.delete s ids).1.entries = Spec.del s.entries ids ∧
    (Code.delete s ids).2 + (Spec.del s.entries ids).length = s.entries.length ∧
    (Code.delete s ids).1.lastId = s.lastId := by
  have h1 := deleteIds_fst h ids
  have h2 := (deleteIds_shrinks s.entries ids).2
  refine ⟨h1, ?_, rfl⟩
  rw [← h1]
  simp only [Code.delete]
  omega

/-- XTRIM MAXLEN n keeps exactly the n newest entries and reports the number removed; the last ID stays. -/
theorem xtrim_keeps_newest (s : Code.Stream) (n : Nat) :
    (trimByCount s n).1.entries = Spec.trimCount s.entries n ∧
    (trimByCount s n).2 = s.entries.length - n ∧
    (trimByCount s n).1.lastId = s.lastId := by
  refine ⟨trimByCount_entries s n, trimByCount_count s n, ?_⟩
  unfold trimByCount; split <;> rfl

/-- trimming by minimum ID keeps exactly the entries with `id ≥ m`; the last ID stays. -/
theorem xtrim_minid_eq_filter (s : Code.Stream) (h : Sorted s.entries) (m : Id) :
    (trimByMinId s m).1.entries = Spec.trimMinId s.entries m ∧
    (trimByMinId s m).1.lastId = s.lastId := by
  refine ⟨trimByMinId_entries s h m, ?_⟩
  unfold trimByMinId; simp only; split <;> rfl

/-! ### (7) entries keep their fields -/

/-- The present entries are a sub-sequence of the accepted XADDs — same (ID, fields) pairs, same
    order — and accepted IDs are pairwise distinct, so each present ID carries exactly the fields it
    was added with. -/
theorem fields_preserved (q : Quirks) (ops : List Op)
    (hw : q.seqCarry = true ∨ (run q ops).wrapped = false)
    (hl : q.persistLastId = true ∨ (run q ops).lost = false) :
    (run q ops).st.entries.Sublist (run q ops).added ∧
    ∀ a ∈ (run q ops).st.entries, ∀ b ∈ (run q ops).added, a.1 = b.1 → a = b := by
  have hi := run_inv q ops hw hl
  refine ⟨hi.sub, ?_⟩
  exact fun a ha b hb hab => hi.incr.eq_of_fst_eq (hi.sub.subset ha) hb hab

/-! ### the search the model rests on, and the ID text -/

/-- Contract of the search the model uses for `binary_search_by` on a sorted list: found exactly when
    the ID is present, at the index with everything before it smaller; otherwise the insertion point. -/
theorem bsearch_contract (es : List Entry) (h : Sorted es) (t : Id) :
    ((bsearch es t).1 = true ↔ ∃ x ∈ es, x.1 = t) ∧
    (∀ i x, es[i]? = some x → (i < (bsearch es t).2 ↔ x.1 < t)) := by
  refine ⟨bsearch_found_iff h t, fun i x hx => ?_⟩
  rw [bsearch_snd]
  exact lt_lowerBound_iff h hx

/-- The halving loop of `core::slice::binary_search_by` computes the same answer on every sorted list. -/
theorem halving_search_meets_contract (es : List Entry) (h : Sorted es) (t : Id) :
    bsearchLoop es t = bsearch es t := bsearchLoop_eq h t

/-- ID text, repaired reader: accepts exactly `<u64>-<u64>` (split at the first dash). -/
theorem parseId_eq_spec (s : Bytes) : Code.parseId fixed s = Spec.parseId s := by
  unfold Code.parseId Spec.parseId
  cases splitDash s with
  | none => rfl
  | some p => obtain ⟨m, sq⟩ := p; simp only [fixed, parseU64Fast_true]

/-- ID text as pinned (`parse_u64_fast`): right whenever no component is empty or ≥ 2^64. -/
theorem parseId_eq_spec_partial (s : Bytes)
    (h : ∀ m sq, splitDash s = some (m, sq) → compOk m = true ∧ compOk sq = true) :
    Code.parseId pinned s = Spec.parseId s := by
  unfold Code.parseId Spec.parseId
  cases hs : splitDash s with
  | none => rfl
  | some p =>
    obtain ⟨m, sq⟩ := p
    obtain ⟨h1, h2⟩ := h m sq hs
    simp only [pinned, parseU64Fast_false_ok m h1, parseU64Fast_false_ok sq h2]

/-- Witness: `18446744073709551621-7` is read as `5-7`, and a lone `-` as `0-0`. -/
theorem parseId_wraps :
    Code.parseId pinned [49,56,52,52,54,55,52,52,48,55,51,55,48,57,53,53,49,54,50,49, 45, 55] = some ⟨5, 7⟩ ∧
    Spec.parseId [49,56,52,52,54,55,52,52,48,55,51,55,48,57,53,53,49,54,50,49, 45, 55] = none ∧
    Code.parseId pinned [45] = some ⟨0, 0⟩ ∧ Spec.parseId [45] = none := by
  refine ⟨by decide, by decide, by decide, by decide⟩

/-! ### entries keep their pairs; COUNT 0; incomplete and exclusive IDs -/

/-- With the list representation XADD stores the pairs exactly as given: flattened again they are the
    command's arguments `f v f v …`, in order, repeated names included — and `fields_preserved`
    together with the range theorems says every read returns the stored pairs untouched. -/
theorem xadd_keeps_pairs_as_given (args : List Bytes) (h : args.length % 2 = 0) :
    (pairsOfArgs args).flatMap (fun p => [p.1, p.2]) = args :=
  match args, h with
  | [], _ => rfl
  | [_], h => by cases h
  | k :: v :: r, h => by
    have := xadd_keeps_pairs_as_given r (by simp only [List.length_cons] at h; omega)
    simp only [pairsOfArgs, List.flatMap_cons, this, List.cons_append, List.nil_append]

/-- Witness (hunt d2): as a map, `XADD dup 1-0 a 1 a 2 b 3` keeps `a=2, b=3` only. -/
theorem map_fields_lose_pairs :
    fieldsOfArgs [[97], [49], [97], [50], [98], [51]] [] = [([97], [50]), ([98], [51])] ∧
    pairsOfArgs [[97], [49], [97], [50], [98], [51]] = [([97], [49]), ([97], [50]), ([98], [51])] := by
  constructor <;> decide

/-- XREAD COUNT 0 (repaired): no limit — the reply is that of XREAD without COUNT; as pinned it is empty (hunt d3). -/
theorem xread_count_zero :
    Cmd.xread fixed [([115], ⟨[(⟨1, 0⟩, []), (⟨2, 0⟩, [])], ⟨2, 0⟩, 2, 0, 2⟩)]
        [[88,82,69,65,68], [67,79,85,78,84], [48], [83,84,82,69,65,77,83], [115], [48]] =
      Cmd.xread fixed [([115], ⟨[(⟨1, 0⟩, []), (⟨2, 0⟩, [])], ⟨2, 0⟩, 2, 0, 2⟩)]
        [[88,82,69,65,68], [83,84,82,69,65,77,83], [115], [48]] ∧
    Cmd.xread pinned [([115], ⟨[(⟨1, 0⟩, []), (⟨2, 0⟩, [])], ⟨2, 0⟩, 2, 0, 2⟩)]
        [[88,82,69,65,68], [67,79,85,78,84], [48], [83,84,82,69,65,77,83], [115], [48]] = .streams [] := by
  constructor <;> rfl

/-- An exclusive range start `(a` is the inclusive start at the next ID: exactly the IDs above `a`. -/
theorem exclusive_start_exact (a b : Id) (h : nextId a = some b) (x : Id) (hx : x.seq < u64Mod) :
    a < x ↔ b ≤ x := by
  unfold nextId at h
  split at h
  · cases h; simp only [Id.lt_def, Id.le_def]; omega
  · split at h
    · cases h; simp only [Id.lt_def, Id.le_def]; omega
    · cases h

/-- An exclusive range end `(a` is the inclusive end at the previous ID: exactly the IDs below `a`. -/
theorem exclusive_end_exact (a b : Id) (h : prevId a = some b) (x : Id) (hx : x.seq < u64Mod) :
    x < a ↔ x ≤ b := by
  unfold prevId at h
  split at h
  · cases h; simp only [Id.lt_def, Id.le_def]; omega
  · split at h
    · cases h; simp only [Id.lt_def, Id.le_def, u64Max, u64Mod] at *; omega
    · cases h

/-- Incomplete IDs (repaired): `5` is `5-0` for XADD / XDEL / XREAD / a range start and
    `5-18446744073709551615` for a range end; as pinned they are refused (hunt d4). -/
theorem incomplete_ids :
    parseBound fixed true [53] = some ⟨5, 0⟩ ∧ parseBound fixed false [57] = some ⟨9, 18446744073709551615⟩ ∧
    parseBound fixed true [40, 53, 45, 48] = some ⟨5, 1⟩ ∧ parseBound fixed false [40, 57, 45, 56] = some ⟨9, 7⟩ ∧
    parseBound fixed false [40, 48, 45, 48] = none ∧
    parseBound pinned true [53] = none ∧ parseBound pinned true [40, 53, 45, 48] = none ∧
    parseIdSeq pinned 0 [49, 50] = none ∧ parseIdSeq fixed 0 [49, 50] = some ⟨12, 0⟩ := by
  refine ⟨by decide, by decide, by decide, by decide, by decide, by decide, by decide, by decide, by decide⟩

/-- The lexicographic order of the model is the order of the packed u128 the code compares. -/
theorem id_order_is_packed_order (a b : Id) (ha : a.seq < u64Mod) (hb : b.seq < u64Mod) :
    a < b ↔ a.packed < b.packed := by
  simp only [Id.lt_def, Id.packed, u64Mod] at *
  omega

/-! ### Non-vacuity: concrete non-trivial instances of the hypotheses -/

example : (run pinned [.addAuto 7 [([102], [118])], .addAuto 7 [], .addId ⟨9, 4⟩ [], .addAuto 8 [],
      .del [⟨9, 5⟩], .addId ⟨9, 5⟩ [], .addAuto 10 [], .trimCount 1]).wrapped = false := by decide
example : (run pinned [.addAuto 7 [([102], [118])], .addAuto 7 [], .addId ⟨9, 4⟩ [], .addAuto 8 [],
      .del [⟨9, 5⟩], .addId ⟨9, 5⟩ [], .addAuto 10 [], .trimCount 1]).added.map (·.1) =
    [⟨7, 0⟩, ⟨7, 1⟩, ⟨9, 4⟩, ⟨9, 5⟩, ⟨10, 0⟩] := by decide
example : Sorted [(⟨1, 0⟩, []), (⟨1, 1⟩, [([97], [98])]), (⟨3, 0⟩, [])] := by
  unfold Sorted; decide
example : ¬ rangeDev [(⟨5, 0⟩, [])] ⟨1, 0⟩ ⟨7, 0⟩ := by decide
example : rangeDev [(⟨5, 0⟩, [])] ⟨1, 0⟩ ⟨2, 0⟩ := by decide
example : Code.range pinned [(⟨1, 0⟩, []), (⟨1, 1⟩, []), (⟨3, 0⟩, []), (⟨4, 0⟩, [])] ⟨1, 1⟩ ⟨3, 5⟩ (some 5) true =
    [(⟨3, 0⟩, []), (⟨1, 1⟩, [])] := by decide
example : Code.rangeAfter [(⟨1, 0⟩, []), (⟨1, 1⟩, []), (⟨3, 0⟩, [])] ⟨1, 0⟩ (some 1) = [(⟨1, 1⟩, [])] := by decide
example : compOk [49, 50] = true ∧ compOk [120] = true ∧ compOk [] = false := by decide
example : Code.parseId pinned [49, 50, 45, 51] = some ⟨12, 3⟩ := by decide
example : seqRoom 3 (.addId ⟨5, 17⟩ []) := by simp [seqRoom, u64Mod]

end Ferrous.C15
