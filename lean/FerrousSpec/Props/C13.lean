/-
  C13 — blocking pops never lose, duplicate or strand.

  "Across any interleaving of pushes, pops, single- and multi-key BLPOP/BRPOP, timeouts and disconnects,
   every pushed element is either still in its list or was returned to exactly one client.  Clients
   blocked on a key are served in the order they blocked; whenever one of a blocked client's keys holds
   an element that no other client pops, that client is served promptly, and otherwise it receives nil
   no earlier than its timeout (never, when it asked to wait forever).  Once served or timed out, a
   client has no leftover registration that could swallow later elements or cut short a later blocking call."

  The machine is `Ferrous.Blk` (Model/Blocking.lean): `run q evs` executes any list of loop-phase events
  from the empty server; `q : Quirks` switches between what the tree did before the first blocking repair
  (`Quirks.code`, all off), what it does now (`sourceQuirks`, regenerated from the source) and the prescribed
  behaviour (`Quirks.fixed`).  The file holds the full statements as predicates on the quirk setting; what holds for
  every history and every setting (accounting, FIFO service); each full statement for the histories that a decidable
  predicate admits (`Allowed` for any setting, the much weaker `AllowedFixed` once the first five repairs are in),
  by an invariant kept by every event; and computed witnesses: each excluded class breaks the full statement on
  `Quirks.code` (each replayed on the real server by lib/c13.py) and no longer does with its repair switched on,
  and likewise for the later repairs.
-/
import FerrousSpec.Proofs.BlockingFixRun
import FerrousSpec.Proofs.BlockingAlways
import FerrousSpec.Gen.Blocking
namespace Ferrous.C13
open Ferrous.Blk

-- The witnesses below evaluate whole histories (a 32-step wake-up drain per event).  Six of them use `decide +kernel`
-- (both runs of `wBatchOverflow`, `sampleAllowed` on `Quirks.code`, `wMultiKeyLeftover` on `Quirks.fixed`, `wPipelinedPushPop`
-- on `Quirks.fixed` and with `wakeAtPush` alone): the elaborator's own evaluation of these histories, which plain `decide`
-- runs ahead of the kernel's, exceeds the default recursion depth; `+kernel` leaves the evaluation to the kernel.

/-! ## 1. Full statements -/

/-- Every pushed element is still in its list or was handed to exactly one live client (multiset equation). -/
def Conservation (q : Quirks) : Prop :=
  ∀ evs, (run q evs).pushed.Perm (delivered (run q evs) ++ (run q evs).store)

/-- At a loop boundary with an empty wake queue no blocked client has an element waiting under one of its keys. -/
def NoStrandedClient (q : Quirks) : Prop :=
  ∀ evs c k, (run q evs).wakeQ = [] → blockedOn (run q evs) c k → listOf (run q evs).store k = []

/-- At a loop boundary with an empty wake queue a connection is in the registry queue of `k` iff it is blocked on `k`. -/
def RegistryIffBlocked (q : Quirks) : Prop :=
  ∀ evs c k, (run q evs).wakeQ = [] → (inRegistry (run q evs) k c ↔ blockedOn (run q evs) c k)

/-- A client that is not blocked (never was, was served, timed out) is named by no registry queue and no wake-up request. -/
def NoLeftoverRegistration (q : Quirks) : Prop :=
  ∀ evs c, ((run q evs).conns c).blocked = none → c ∉ line (run q evs)

/-- The deadline scan releases a blocked client (null array) only at or after the deadline of the call it is
    blocked in — never when that call asked to wait for ever. -/
def NeverEarlyNil (q : Quirks) : Prop :=
  ∀ evs now c b, ((run q evs).conns c).blocked = some b →
    ((step q (run q evs) (.timeouts now)).conns c).blocked = none → ∃ d, b.deadline = some d ∧ d ≤ now

/-- Whatever happens, the clients in line for a key keep their order and newcomers join at the tail;
    a wake-up delivery goes to the head of the line. -/
def FifoService (q : Quirks) : Prop :=
  (∀ evs s k, FifoStep (lineOf s k) (lineOf (runFrom q s evs) k)) ∧
  (∀ s c k v, (wakeOne q s).out = s.out ++ [(c, .pair k v)] → (lineOf s k).head? = some c)

/-! ## 2. For every event sequence, every quirk setting -/

/-- Nothing is duplicated or invented: what was pushed is exactly what was handed to live clients, what was
    popped without reaching one (`lost`), and what is still stored.  So `Conservation` fails iff `lost ≠ []`. -/
theorem accounting (q : Quirks) (evs : List Event) :
    (run q evs).pushed.Perm (delivered (run q evs) ++ (run q evs).lost ++ (run q evs).store) :=
  Acc_runFrom q evs init Acc_init

/-- No element is handed out twice, nor handed out and kept: if the pushed elements are pairwise distinct, so are
    the delivered and the stored ones taken together — for every history, as the code is. -/
theorem no_duplication (q : Quirks) (evs : List Event) (h : (run q evs).pushed.Nodup) :
    (delivered (run q evs) ++ (run q evs).store).Nodup := by
  have hA := accounting q evs
  have hn : (delivered (run q evs) ++ (run q evs).lost ++ (run q evs).store).Nodup := hA.nodup_iff.mp h
  refine List.Nodup.sublist ?_ hn
  rw [List.append_assoc]
  exact List.Sublist.append (List.Sublist.refl _) (List.sublist_append_right _ _)

/-- Blocked clients are served in the order they blocked — holds as the code is, for all histories. -/
theorem fifo_service (q : Quirks) : FifoService q :=
  ⟨fun evs s k => fifo_runFrom q k evs s, fun s c k v h => wakeOne_serves_head q s c k v h⟩

/-- The switches as the translator reads them from the source on this run (lean/FerrousSpec/Gen/Blocking.lean);
    every theorem of sections 2 and 3 holds for them, being proved for all `q`.  (`Quirks.code`, all switches
    off, is the tree before the first blocking repair; the EXEC repair has landed since: `refuseBlockingInTx`.) -/
def sourceQuirks : Quirks :=
  ⟨Gen.Blocking.notifyPerElement, Gen.Blocking.wakeAtPush, Gen.Blocking.unregisterAllOnServe,
   Gen.Blocking.refuseBlockingInTx, Gen.Blocking.dedupKeys, Gen.Blocking.drainAll,
   Gen.Blocking.noticeBlockedHangup, Gen.Blocking.deferBatchWhenBlocked, Gen.Blocking.execAtomic,
   Gen.Blocking.wakeChecksClient, Gen.Blocking.serveDrains, Gen.Blocking.probeReadsInput⟩

/-- The model drains as many wake-ups per loop iteration as the source says. -/
theorem wakeBatch_matches_source : Gen.Blocking.wakeBatch = wakeBatch := by decide

/-! ## 3. The `_partial` theorems (all `Allowed` histories; any setting of the other switches, `execAtomic` off —
  with it on, the queued pushes of a transaction notify nobody until EXEC has finished, which the single-key
  invariant `Inv` does not describe; the `_fixed_partial` theorems of 3b cover both settings) -/

theorem conservation_partial (q : Quirks) (hx : q.execAtomic = false) (evs : List Event) (h : Allowed q evs) :
    (run q evs).pushed.Perm (delivered (run q evs) ++ (run q evs).store) := by
  have hA := accounting q evs
  rw [(InvA_run q hx evs h).inv.lost] at hA
  simpa using hA

theorem no_stranded_partial (q : Quirks) (hx : q.execAtomic = false) (evs : List Event) (h : Allowed q evs) (c : Conn) (k : Key)
    (hq : (run q evs).wakeQ = []) (hb : blockedOn (run q evs) c k) : listOf (run q evs).store k = [] :=
  InvR.not_stranded ⟨(InvA_run q hx evs h).inv, hq⟩ hb

theorem registry_iff_blocked_partial (q : Quirks) (hx : q.execAtomic = false) (evs : List Event) (h : Allowed q evs) (c : Conn) (k : Key)
    (hq : (run q evs).wakeQ = []) : inRegistry (run q evs) k c ↔ blockedOn (run q evs) c k :=
  InvR.registry_iff ⟨(InvA_run q hx evs h).inv, hq⟩ c k

theorem no_leftover_registration_partial (q : Quirks) (hx : q.execAtomic = false) (evs : List Event) (h : Allowed q evs) (c : Conn)
    (hb : ((run q evs).conns c).blocked = none) : c ∉ line (run q evs) :=
  (InvA_run q hx evs h).inv.no_leftover hb

theorem never_early_nil_partial (q : Quirks) (hx : q.execAtomic = false) (evs : List Event) (h : Allowed q evs) (now : Nat) (c : Conn) (b : Blocked)
    (hb : ((run q evs).conns c).blocked = some b)
    (hn : ((step q (run q evs) (.timeouts now)).conns c).blocked = none) : ∃ d, b.deadline = some d ∧ d ≤ now :=
  (InvA_run q hx evs h).inv.never_early_nil now (InvA_run q hx evs h).apart c b hb hn

/-- …and it does receive it: after the deadline scan at `now`, a blocked client whose deadline has passed and that has
    no wake-up under way is released (the code's failure of this — a client dropped from the registry by an
    empty wake-up never times out — is the witness `no_stranded_fails_pipelined_push_pop`). -/
theorem timeout_fires_partial (q : Quirks) (hx : q.execAtomic = false) (evs : List Event) (h : Allowed q evs) (now : Nat) (c : Conn) (b : Blocked) (d : Nat)
    (hb : ((run q evs).conns c).blocked = some b) (hd : b.deadline = some d) (hle : d ≤ now)
    (hw : ∀ w, w ∈ (run q evs).wakeQ → w.conn ≠ c) :
    ((step q (run q evs) (.timeouts now)).conns c).blocked = none :=
  (InvA_run q hx evs h).inv.timeout_fires now (InvA_run q hx evs h).apart c b d hb hd hle hw

/-- In an allowed history a queued wake-up request always finds its element and its client still blocked:
    the registry/wake-queue/connection-state triple never disagrees (`Inv`). -/
theorem invariant_partial (q : Quirks) (hx : q.execAtomic = false) (evs : List Event) (h : Allowed q evs) : Inv (run q evs) :=
  (InvA_run q hx evs h).toInv

def ka : Key := [97]
def kb : Key := [98]

/-! ## 3b. The tree as it is now: the `_fixed_partial` theorems

  With the five repairs in (`Repaired q`: one notification per pushed element, wake-ups carried out right after the
  command that requested them, a served client unregistered from all its keys, no blocking inside EXEC, a key
  named twice waited on once) every full statement holds for ALL histories that satisfy the much weaker
  decidable predicate `AllowedFixed`: any number of keys per blocking pop (duplicates included), any number of
  pushed elements up to the drain bound, pops anywhere (pipelined behind a push, inside EXEC, …), blocking pops
  inside MULTI/EXEC, time-outs, hang-ups.  What `AllowedFixed` still excludes depends on the later switches
  (all of them on in the current tree: `Gen/Blocking.lean`, `sourceQuirks = Quirks.fixed`):
  * without `noticeBlockedHangup` + `wakeChecksClient` (the server probes blocked sockets, unregisters a vanished
    client at once and `wake_client` looks at the connection before it pops): any hang-up while blocked.  With them a
    blocked client may hang up at any time; what stays excluded is only a BATCH processed between that hang-up and the
    server's next look at the socket (`reap`).  With `wakeChecksClient` the model conserves there too (`wake_client`
    peeks at the socket before it pops: example after `conservation_fails_disconnect_in_flight_without_check`), but the
    invariant of the proof assumes that batches run in a calm state, so that window is NOT covered by the theorems
    (`in_flight_window_is_excluded`); beyond the model, a peer that closes after the peek loses what is in its socket;
  * a blocking pop executed for a connection that is already blocked, i.e. pipelined behind a blocking pop that
    blocked (finding C13-pipelined-second-bpop; cannot occur once `deferBatchWhenBlocked` is on: the exclusion is
    then vacuous, the batch stops at the first blocking pop that blocks);
  * a push of more than `wakeBatch` = 32 elements (finding C13-wake-batch-overflow: the drain after a command
    carries out one batch; dropped from the predicate once `drainAll` is on).
  The theorems hold for either setting of `execAtomic` (wake-ups after each queued command, or after the whole
  EXEC, as the current tree does — see `ExecAtomic` below), of `noticeBlockedHangup`, `deferBatchWhenBlocked`, `drainAll`.
  Proof: induction over the event list with the multi-key invariant `InvR` (`InvR_run`; `InvB` between the commands of a
  batch — Proofs/BlockingFixInv.lean, BlockingFixRun.lean). -/

/-- The switches regenerated from the source on this run have the five repairs on: the theorems below speak
    about the current tree.  (Breaks, by design, if a repair is reverted.) -/
theorem sourceQuirks_repaired : Repaired sourceQuirks := by decide

theorem invariant_fixed_partial (q : Quirks) (hq : Repaired q) (evs : List Event) (h : AllowedFixed q evs) :
    InvR (run q evs) := InvR_run q hq evs h

/-- Conservation: nothing pushed is ever lost — multi-key waits, multi-element pushes, any interleaving of pops. -/
theorem conservation_fixed_partial (q : Quirks) (hq : Repaired q) (evs : List Event) (h : AllowedFixed q evs) :
    (run q evs).pushed.Perm (delivered (run q evs) ++ (run q evs).store) := by
  have hA := accounting q evs
  rw [(InvR_run q hq evs h).inv.lost] at hA
  simpa using hA

/-- Between events the wake queue is empty (every wake-up has been carried out)… -/
theorem wake_queue_empty_fixed_partial (q : Quirks) (hq : Repaired q) (evs : List Event) (h : AllowedFixed q evs) :
    (run q evs).wakeQ = [] := (InvR_run q hq evs h).quiet

/-- …and no blocked client has an element waiting under any of its keys. -/
theorem no_stranded_fixed_partial (q : Quirks) (hq : Repaired q) (evs : List Event) (h : AllowedFixed q evs)
    (c : Conn) (k : Key) (hb : blockedOn (run q evs) c k) : listOf (run q evs).store k = [] :=
  (InvR_run q hq evs h).not_stranded hb

/-- A connection is in the registry queue of `k` iff it is blocked on `k` — for each of its keys. -/
theorem registry_iff_blocked_fixed_partial (q : Quirks) (hq : Repaired q) (evs : List Event) (h : AllowedFixed q evs)
    (c : Conn) (k : Key) : inRegistry (run q evs) k c ↔ blockedOn (run q evs) c k :=
  (InvR_run q hq evs h).registry_iff c k

/-- Served or timed out, a client is named by no queue. -/
theorem no_leftover_registration_fixed_partial (q : Quirks) (hq : Repaired q) (evs : List Event) (h : AllowedFixed q evs)
    (c : Conn) (hb : ((run q evs).conns c).blocked = none) : c ∉ line (run q evs) :=
  (InvR_run q hq evs h).inv.no_leftover hb

/-- The deadline scan releases a client only at or after the deadline of the call it is blocked in. -/
theorem never_early_nil_fixed_partial (q : Quirks) (hq : Repaired q) (evs : List Event) (h : AllowedFixed q evs)
    (now : Nat) (c : Conn) (b : Blocked) (hb : ((run q evs).conns c).blocked = some b)
    (hn : ((step q (run q evs) (.timeouts now)).conns c).blocked = none) : ∃ d, b.deadline = some d ∧ d ≤ now :=
  (InvR_run q hq evs h).inv.never_early_nil now (.of_quiet (InvR_run q hq evs h).quiet) c b hb hn

/-- And it does release it: after the scan at `now` no client whose deadline has passed is still blocked. -/
theorem timeout_fires_fixed_partial (q : Quirks) (hq : Repaired q) (evs : List Event) (h : AllowedFixed q evs)
    (now : Nat) (c : Conn) (b : Blocked) (d : Nat) (hb : ((run q evs).conns c).blocked = some b)
    (hd : b.deadline = some d) (hle : d ≤ now) :
    ((step q (run q evs) (.timeouts now)).conns c).blocked = none :=
  (InvR_run q hq evs h).inv.timeout_fires now (.of_quiet (InvR_run q hq evs h).quiet) c b d hb hd hle
    (fun w hw => by rw [(InvR_run q hq evs h).quiet] at hw; cases hw)

/-! ### What `AllowedFixed` excludes does break the tree with the five repairs on and nothing else (`repaired5`) -/

/-- The tree with the first five repairs and without the seven later ones (the current tree has all twelve). -/
def repaired5 : Quirks :=
  { Quirks.fixed with drainAll := false, noticeBlockedHangup := false, deferBatchWhenBlocked := false, execAtomic := false,
                      wakeChecksClient := false, serveDrains := false, probeReadsInput := false }

example : Repaired repaired5 := by decide

/-- hang-up while blocked: unnoticed, the next element goes into the dead socket -/
theorem fixed_exclusion_needed_hangup_blocked :
    (run repaired5 [.conn 3 0 [.bpop .left [ka] 0], .hangup 3, .reap 3, .conn 2 0 [.push .right ka [[1]]], .wakeups]).lost
      = [(ka, [1])] := by decide

/-- a blocking pop pipelined behind one that blocked: registered on `a` without being blocked on `a` -/
theorem fixed_exclusion_needed_second_bpop :
    (run repaired5 [.conn 3 0 [.bpop .left [ka] 0, .bpop .left [kb] 0]]).wakeQ = [] ∧
    inRegistry (run repaired5 [.conn 3 0 [.bpop .left [ka] 0, .bpop .left [kb] 0]]) ka 3 ∧
    ¬ blockedOn (run repaired5 [.conn 3 0 [.bpop .left [ka] 0, .bpop .left [kb] 0]]) 3 ka := by
  refine ⟨by decide, ⟨⟨3, none, .left⟩, by decide, rfl⟩, ?_⟩
  rintro ⟨b, hb, hk⟩
  have h : ((run repaired5 [.conn 3 0 [.bpop .left [ka] 0, .bpop .left [kb] 0]]).conns 3).blocked = some ⟨[kb], none, .left⟩ := by decide
  rw [h] at hb
  obtain rfl := Option.some.inj hb
  revert hk
  decide

/-- a push that wakes more than 32 clients, with a pop pipelined behind it: 34 waiters, `RPUSH a v0..v33; LPOP a` in one
    write — the 34th waiter ends blocked, in no queue, with an empty wake queue (replayed on the server by the
    probe `wake-batch-overflow` of lib/c13.py) -/
def wBatchOverflow : List Event :=
  ((List.range 34).map fun i => Event.conn (i + 1) 0 [.bpop .left [ka] 0]) ++
  [ .conn 100 0 [.push .right ka ((List.range 34).map fun i => [i]), .pop .left ka], .wakeups ]

theorem fixed_exclusion_needed_big_push :
    (run repaired5 wBatchOverflow).registry = [] ∧ (run repaired5 wBatchOverflow).wakeQ = [] ∧
    ((run repaired5 wBatchOverflow).conns 34).blocked = some ⟨[ka], none, .left⟩ := by decide +kernel

set_option maxRecDepth 100000 in
/-- with `drainAll` all 34 are served before the LPOP runs (it answers nil) -/
example : ((run { repaired5 with drainAll := true } wBatchOverflow).conns 34).blocked = none ∧
    outOf (run { repaired5 with drainAll := true } wBatchOverflow) 100 = [.int 34, .nil] := by decide +kernel

/-! ### Elements that reach a waited key without passing through the LPUSH / RPUSH arms -/

/-- The commands after which the server serves the blocked keys of the database — read from the source on this run
    (`process_normal_command` for a top-level command, `handle_exec` for a queued one) — include every command that can
    make a list appear or grow behind the push arms: a script started either way, and both renames.  (Scripts and RENAME
    are outside the event machine; each arrival is also replayed on the server by the probes of lib/c13.py.) -/
theorem sweep_covers_scripts_and_rename :
    ∀ c ∈ ["EVAL", "EVALSHA", "RENAME", "RENAMENX"],
      c ∈ Gen.Blocking.sweepCommands ∧ c ∈ Gen.Blocking.execSweepCommands := by decide

/-! ### The wake queue is empty between events — for every history -/

/-- Once every place that queues a wake-up request carries out all queued requests before it returns (`wakeAtPush`,
    `drainAll`, `serveDrains`), NO history leaves a request behind: hang-ups, CLIENT KILL, stale waiters, pipelined
    batches, transactions — nothing is excluded.  (`wake_queue_empty_fixed_partial` says the same under `AllowedFixed`
    without `serveDrains`; what it excludes there — a stale head waiter — is exactly what `serveDrains` repairs.) -/
theorem wake_queue_empty_always (q : Quirks) (hq : AlwaysDrains q) (evs : List Event) : (run q evs).wakeQ = [] :=
  quiet_run q hq evs

example : AlwaysDrains Quirks.fixed := by decide

/-- The tree before the `serveDrains` repair (that switch off, all others on): two clients blocked on `a`, the first is
    killed (CLIENT KILL — its registrations stay until the end of the iteration), and in the same batch
    `MULTI; RPUSH a 1; EXEC`: `serve_key` wakes the stale head, `wake_client` queues a request for the second client —
    and the loop ends there, the request stays queued. -/
def wStaleHead : List Event :=
  [ .conn 3 0 [.bpop .left [ka] 0], .conn 4 0 [.bpop .left [ka] 0], .kill 3,
    .conn 2 5 [.multi, .push .right ka [[1]], .exec] ]

theorem wake_queue_left_over_stale_head :
    (run { Quirks.fixed with serveDrains := false } wStaleHead).wakeQ = [⟨4, ka, .left⟩] ∧
    (run { Quirks.fixed with serveDrains := false } wStaleHead).store = [(ka, [1])] ∧
    ((run { Quirks.fixed with serveDrains := false } wStaleHead).conns 4).blocked = some ⟨[ka], none, .left⟩ := by decide

/-- The same without CLIENT KILL: the head waiter hangs up after this iteration's probe (the loop was stalled); the
    look `wake_client` takes at its socket drops it and queues the request for the next waiter — left over as above. -/
example : (run { Quirks.fixed with serveDrains := false }
    [ .conn 3 0 [.bpop .left [ka] 0], .conn 4 0 [.bpop .left [ka] 0], .hangup 3,
      .conn 2 5 [.multi, .push .right ka [[1]], .exec] ]).wakeQ = [⟨4, ka, .left⟩] := by decide

/-- With `serveDrains` the second client is served by that same EXEC. -/
example : (run Quirks.fixed wStaleHead).wakeQ = [] ∧ outOf (run Quirks.fixed wStaleHead) 4 = [.pair ka [1]] ∧
    (run Quirks.fixed wStaleHead).store = [] := by decide

/-- The left-over request strands the second client: a plain `LPOP a` in the same batch takes the element, the drain
    that follows carries the request out on an empty list and drops it — the client stays blocked, in no queue (its
    deadline, had it one, is never looked at again: time-outs go through the registry). -/
theorem stale_head_strands_next_waiter :
    let s := run { Quirks.fixed with serveDrains := false }
      [ .conn 3 0 [.bpop .left [ka] 0], .conn 4 0 [.bpop .left [ka] 100], .kill 3,
        .conn 2 5 [.multi, .push .right ka [[1]], .exec, .pop .left ka], .reap 3, .timeouts 1000 ]
    s.wakeQ = [] ∧ s.registry = [] ∧ (s.conns 4).blocked = some ⟨[ka], some 100, .left⟩ ∧
      outOf s 2 = [.ok, .queued, .arrHdr 1, .int 1, .bulk ka [1]] := by decide

example :
    let s := run Quirks.fixed
      [ .conn 3 0 [.bpop .left [ka] 0], .conn 4 0 [.bpop .left [ka] 100], .kill 3,
        .conn 2 5 [.multi, .push .right ka [[1]], .exec, .pop .left ka], .reap 3, .timeouts 1000 ]
    (s.conns 4).blocked = none ∧ outOf s 4 = [.pair ka [1]] ∧ outOf s 2 = [.ok, .queued, .arrHdr 1, .int 1, .nil] := by decide

/-! ### A transaction is one indivisible step -/

/-- What the commands queued in a transaction see and answer depends on the lists alone — not on who is blocked, nor on
    a wake-up request left in the queue: in every state the server can reach, running the queued commands gives the same
    replies and the same lists as running them with nobody waiting (no blocked client is served between two commands
    of an EXEC; it is served once the EXEC has finished). -/
def ExecAtomic (q : Quirks) : Prop :=
  ∀ (evs : List Event) (now : Nat) (c : Conn) (cmds : List Cmd),
    (cmds.foldl (dataCmd q now c 0) (run q evs)).out
      = (cmds.foldl (dataCmd q now c 0) { run q evs with registry := [], wakeQ := [] }).out ∧
    (cmds.foldl (dataCmd q now c 0) (run q evs)).store
      = (cmds.foldl (dataCmd q now c 0) { run q evs with registry := [], wakeQ := [] }).store

/-- The same for any two states with an empty wake queue that agree on lists, replies and connections. -/
theorem exec_atomic_of_quiet (q : Quirks) (hx : q.execAtomic = true) (now : Nat) (c : Conn) (cmds : List Cmd) (s t : State)
    (h1 : s.store = t.store) (h2 : s.out = t.out) (h3 : s.conns = t.conns) (h4 : s.lost = t.lost)
    (hs : s.wakeQ = []) (ht : t.wakeQ = []) :
    (cmds.foldl (dataCmd q now c 0) s).out = (cmds.foldl (dataCmd q now c 0) t).out ∧
    (cmds.foldl (dataCmd q now c 0) s).store = (cmds.foldl (dataCmd q now c 0) t).store := by
  have := Sim_foldl q hx now c cmds (s := s) (t := t) ⟨h1, h2, h3, h4, hs, ht⟩
  exact ⟨this.out, this.store⟩

/-- Holds once the queued commands no longer notify and the pushed keys are served after EXEC (`execAtomic`), AND no
    request is ever left in the queue (`AlwaysDrains`, by `wake_queue_empty_always`) — for every reachable state, no
    exclusion… -/
theorem exec_atomic_holds (q : Quirks) (hx : q.execAtomic = true) (hd : AlwaysDrains q) : ExecAtomic q := by
  intro evs now c cmds
  exact exec_atomic_of_quiet q hx now c cmds (run q evs) { run q evs with registry := [], wakeQ := [] }
    rfl rfl rfl rfl (wake_queue_empty_always q hd evs) rfl

/-- …and then the repaired invariant still holds (`invariant_fixed_partial` is proved for both settings), while the
    waiter is served right after the transaction: -/
example : outOf (run { Quirks.fixed with deferBatchWhenBlocked := false }
    [.conn 3 0 [.bpop .left [ka] 0], .conn 2 5 [.multi, .push .right ka [[1], [2]], .pop .left ka, .exec]]) 2
      = [.ok, .queued, .queued, .arrHdr 2, .int 2, .bulk ka [1]] ∧
    outOf (run Quirks.fixed
      [.conn 3 0 [.bpop .left [ka] 0], .conn 2 5 [.multi, .push .right ka [[1], [2]], .pop .left ka, .exec]]) 3
      = [.pair ka [2]] := by decide

/-- Before the EXEC repair (wake-ups after EACH command, also inside EXEC): with a client blocked on `a`, the LPOP of
    `MULTI; RPUSH a 1; LPOP a; EXEC` answers nil — the blocked client took the element in between. -/
theorem exec_atomic_fails : ¬ ExecAtomic { Quirks.fixed with execAtomic := false } := fun h => by
  have := (h [.conn 3 0 [.bpop .left [ka] 0]] 5 2 [.push .right ka [[1]], .pop .left ka]).1
  revert this
  decide

theorem exec_atomic_fails_reply :
    outOf (run { Quirks.fixed with execAtomic := false }
      [.conn 3 0 [.bpop .left [ka] 0], .conn 2 5 [.multi, .push .right ka [[1]], .pop .left ka, .exec]]) 2
      = [.ok, .queued, .queued, .arrHdr 2, .int 1, .nil] := by decide

/-- The tree before the `serveDrains` repair (`execAtomic` on, `serveDrains` off): after `wStaleHead` a request for
    client 4 is still queued; the drain that follows the first command of the NEXT transaction carries it out, so that
    transaction's LPOP finds the list empty — the element went to the blocked client between two of its commands. -/
theorem exec_atomic_fails_leftover_wake : ¬ ExecAtomic { Quirks.fixed with serveDrains := false } := fun h => by
  have := (h wStaleHead 9 2 [.push .right kb [[7]], .pop .left ka]).1
  revert this
  decide

theorem exec_atomic_fails_leftover_wake_reply :
    outOf (run { Quirks.fixed with serveDrains := false }
      (wStaleHead ++ [.conn 2 9 [.multi, .push .right kb [[7]], .pop .left ka, .exec]])) 2
      = [.ok, .queued, .arrHdr 1, .int 1, .ok, .queued, .queued, .arrHdr 2, .int 1, .nil] := by decide

example :
    outOf (run Quirks.fixed (wStaleHead ++ [.conn 2 9 [.multi, .push .right kb [[7]], .pop .left ka, .exec]])) 2
      = [.ok, .queued, .arrHdr 1, .int 1, .ok, .queued, .queued, .arrHdr 2, .int 1, .nil] ∧
    outOf (run Quirks.fixed (wStaleHead ++ [.conn 2 9 [.multi, .push .right kb [[7]], .pop .left ka, .exec]])) 4
      = [.pair ka [1]] := by decide

/-! ### A hang-up behind unread bytes -/

/-- The tree before the `probeReadsInput` repair (that switch off): the blocked client writes something (unread while
    it is blocked) and closes; the probe's one-byte peek sees the unread byte, not the end-of-file behind it — `reap`
    does nothing, and so does the look `wake_client` takes: the next element is popped into the dead socket. -/
def wHangupBehindBytes : List Event :=
  [ .conn 3 0 [.bpop .left [ka] 0], .hangupDirty 3, .reap 3, .conn 2 0 [.push .right ka [[1]]], .reap 3 ]

theorem conservation_fails_hangup_behind_unread_bytes :
    (run { Quirks.fixed with probeReadsInput := false } wHangupBehindBytes).lost = [(ka, [1])] ∧
    (run { Quirks.fixed with probeReadsInput := false } wHangupBehindBytes).store = [] := by decide

/-- A probe that reads the pending input sees the hang-up: the client is dropped, the element stays. -/
example : (run Quirks.fixed wHangupBehindBytes).lost = [] ∧ (run Quirks.fixed wHangupBehindBytes).store = [(ka, [1])] ∧
    AllowedFixed Quirks.fixed wHangupBehindBytes := by decide

/-- …also when the push is handled before the probe's next round (`wake_client` looks with the same probe). -/
example : (run Quirks.fixed [.conn 3 0 [.bpop .left [ka] 0], .hangupDirty 3, .conn 2 0 [.push .right ka [[1]]]]).lost = [] ∧
    (run Quirks.fixed [.conn 3 0 [.bpop .left [ka] 0], .hangupDirty 3, .conn 2 0 [.push .right ka [[1]]]]).store = [(ka, [1])] := by
  decide

/-- `AllowedFixed` excludes that hang-up on the tree before that repair (and nothing after it could be covered: the server
    never learns that the client has gone). -/
example : ¬ AllowedFixed { Quirks.fixed with probeReadsInput := false } wHangupBehindBytes := by decide

/-! ### Non-vacuity of `AllowedFixed` (on the switches read from the source) -/

/-- a multi-key wait served from its SECOND key; a 3-element push serving two waiters; `RPUSH k x; LPOP k`
    pipelined while a client waits on `k`; a duplicate key; BLPOP inside MULTI/EXEC; a multi-key time-out -/
def sampleFixed : List Event :=
  [ .conn 3 0 [.bpop .left [ka, kb] 0], .conn 2 5 [.push .right kb [[1]]],
    .conn 3 10 [.bpop .left [ka, ka] 0], .conn 4 15 [.bpop .right [ka] 0], .conn 2 20 [.push .right ka [[2], [3], [4]]],
    .conn 5 25 [.bpop .left [kb, ka] 300], .conn 2 30 [.push .right kb [[5]], .pop .left kb],
    .conn 2 35 [.multi, .bpop .left [kb] 0, .push .left kb [[6]], .bpop .left [kb] 0, .exec],
    .conn 6 40 [.bpop .right [kb, ka] 100], .wakeups, .timeouts 200 ]

example : AllowedFixed sourceQuirks sampleFixed := by decide
example : AllowedFixed Quirks.fixed sampleFixed := by decide
example : ¬ Allowed sourceQuirks sampleFixed := by decide
example : (run sourceQuirks sampleFixed).out =
    [(2, .int 1), (3, .pair kb [1]), (2, .int 3), (3, .pair ka [2]), (4, .pair ka [4]),
     (5, .pair ka [3]), (2, .int 1), (2, .bulk kb [5]),
     (2, .ok), (2, .queued), (2, .queued), (2, .queued), (2, .arrHdr 3), (2, .nilArr), (2, .int 1), (2, .pair kb [6]),
     (6, .nilArr)] := by decide

/-! ### Non-vacuity: `Allowed` admits blocking, waking, timing out, pipelines, MULTI/EXEC and disconnects -/


/-- two waiters on `a` (one with a deadline), two pushes, a wake-up batch, a pipelined push + pop on another key,
    a transaction, a time-out, an idle client going away -/
def sampleAllowed : List Event :=
  [ .conn 3 0 [.bpop .left [ka] 0], .conn 4 10 [.bpop .right [ka] 200],
    .conn 2 20 [.push .right ka [[1]]], .wakeups,
    .conn 2 30 [.push .left kb [[7]], .pop .left kb, .multi, .push .right kb [[8]], .pop .right kb, .exec],
    .timeouts 250, .conn 5 260 [.bpop .left [kb] 100], .hangup 2, .reap 2, .conn 6 270 [.push .left kb [[9]]], .wakeups ]

example : Allowed Quirks.code sampleAllowed := by decide
example : (run Quirks.code sampleAllowed).out =
    [(2, .int 1), (3, .pair ka [1]), (2, .int 1), (2, .bulk kb [7]), (2, .ok), (2, .queued), (2, .queued),
     (2, .arrHdr 2), (2, .int 1), (2, .bulk kb [8]), (4, .nilArr), (6, .int 1), (5, .pair kb [9])] := by decide +kernel
example : Allowed Quirks.fixed sampleAllowed := by decide

/-! ## 4. Witnesses: each excluded class breaks the full statement on `Quirks.code` -/

/-- multi-key leftover: `BLPOP a b 0` is served from `a` and stays registered on `b`; the next push to `b`
    is popped for it and dropped. -/
def wMultiKeyLeftover : List Event :=
  [ .conn 3 0 [.bpop .left [ka, kb] 0], .conn 2 0 [.push .right ka [[1]]], .wakeups,
    .conn 2 0 [.push .right kb [[2]]], .wakeups ]

theorem conservation_fails_multikey_leftover : (run Quirks.code wMultiKeyLeftover).lost = [(kb, [2])] := by decide

/-- connection id 0: a BLPOP executed by EXEC registers the dummy id 0; the next push is popped for nobody. -/
def wExecConn0 : List Event :=
  [ .conn 3 0 [.multi, .bpop .left [ka] 0, .exec], .conn 2 0 [.push .right ka [[1]]], .wakeups ]

theorem conservation_fails_exec_conn0 : (run Quirks.code wExecConn0).lost = [(ka, [1])] := by decide

/-- and the EXEC reply is cut short on the wire: `*1` and nothing after it -/
theorem exec_reply_truncated : outOf (run Quirks.code wExecConn0) 3 = [.ok, .queued, .arrHdr 1] := by decide

/-- disconnect while blocked: a blocked connection is never read, so its hang-up goes unnoticed (`reap` is a
    no-op) and the next element is written into the dead socket. -/
def wDisconnectBlocked : List Event :=
  [ .conn 3 0 [.bpop .left [ka] 0], .hangup 3, .reap 3, .conn 2 0 [.push .right ka [[1]]], .wakeups ]

theorem conservation_fails_disconnect_while_blocked : (run Quirks.code wDisconnectBlocked).lost = [(ka, [1])] := by decide

/-- once blocked connections are probed for end-of-file (`noticeBlockedHangup`) the hang-up is noticed… -/
example : (run { Quirks.code with noticeBlockedHangup := true } wDisconnectBlocked).lost = [] := by decide

/-- …but, without the look-before-pop of `wakeChecksClient`, an element pushed between the hang-up and the moment the
    server looks is written into the dead socket: -/
def wDisconnectInFlight : List Event :=
  [ .conn 3 0 [.bpop .left [ka] 0], .hangup 3, .conn 2 0 [.push .right ka [[1]]], .wakeups ]

theorem conservation_fails_disconnect_in_flight_without_check :
    (run { Quirks.fixed with wakeChecksClient := false } wDisconnectInFlight).lost = [(ka, [1])] := by decide

/-- with it, `wake_client` peeks at the socket first, finds the peer gone, drops the client and leaves the element.
    (What remains outside the model is a peer that closes AFTER that peek: the bytes are already in the socket.) -/
example : (run Quirks.fixed wDisconnectInFlight).lost = [] ∧ (run Quirks.fixed wDisconnectInFlight).store = [(ka, [1])] ∧
    (run Quirks.fixed wDisconnectInFlight).registry = [] := by decide

/-- a second blocking pop pipelined behind one that blocked is executed at once: two registrations, one
    blocked state; the first service leaves the other registration behind, which swallows the next element. -/
def wPipelinedSecondBpop : List Event :=
  [ .conn 3 0 [.bpop .left [ka] 0, .bpop .left [kb] 0], .conn 2 0 [.push .right ka [[1]]], .wakeups,
    .conn 2 0 [.push .right kb [[2]]], .wakeups ]

theorem conservation_fails_pipelined_second_bpop : (run Quirks.code wPipelinedSecondBpop).lost = [(kb, [2])] := by decide

theorem conservation_fails : ¬ Conservation Quirks.code := fun h =>
  not_conserved_of_lost (accounting Quirks.code wMultiKeyLeftover) (by decide) (h wMultiKeyLeftover)

/-- one wake-up per push command: `RPUSH a 1 2 3` wakes one of two waiters; the other stays blocked with
    two elements in its list. -/
def wOneWakePerPush : List Event :=
  [ .conn 3 0 [.bpop .left [ka] 0], .conn 4 0 [.bpop .left [ka] 0], .conn 2 0 [.push .right ka [[1], [2], [3]]], .wakeups ]

theorem no_stranded_fails_one_wake_per_push :
    (run Quirks.code wOneWakePerPush).wakeQ = [] ∧ blockedOn (run Quirks.code wOneWakePerPush) 4 ka ∧
    listOf (run Quirks.code wOneWakePerPush).store ka = [[2], [3]] :=
  ⟨by decide, ⟨⟨[ka], none, .left⟩, by decide, by decide⟩, by decide⟩

/-- pipelined push + pop: the waiter leaves the registry at notify time, the LPOP of the same batch takes the
    element, the wake-up finds nothing and the waiter is dropped: blocked, in no queue, beyond the reach of
    later pushes and of the deadline scan. -/
def wPipelinedPushPop : List Event :=
  [ .conn 3 0 [.bpop .left [ka] 200], .conn 2 10 [.push .right ka [[1]], .pop .left ka], .wakeups,
    .conn 2 20 [.push .right ka [[2]]], .wakeups, .timeouts 1000 ]

theorem no_stranded_fails_pipelined_push_pop :
    (run Quirks.code wPipelinedPushPop).wakeQ = [] ∧ blockedOn (run Quirks.code wPipelinedPushPop) 3 ka ∧
    listOf (run Quirks.code wPipelinedPushPop).store ka = [[2]] ∧ (run Quirks.code wPipelinedPushPop).registry = [] :=
  ⟨by decide, ⟨⟨[ka], some 200, .left⟩, by decide, by decide⟩, by decide, by decide⟩

theorem no_stranded_client_fails : ¬ NoStrandedClient Quirks.code := fun h => by
  have := h wOneWakePerPush 4 ka no_stranded_fails_one_wake_per_push.1 no_stranded_fails_one_wake_per_push.2.1
  rw [no_stranded_fails_one_wake_per_push.2.2] at this
  cases this

/-- blocked but in no queue (pipelined push + pop) -/
theorem registry_iff_blocked_fails : ¬ RegistryIffBlocked Quirks.code := fun h => by
  obtain ⟨hq, hb, _, hr⟩ := no_stranded_fails_pipelined_push_pop
  obtain ⟨w, hw, _⟩ := (h wPipelinedPushPop 3 ka hq).mpr hb
  rw [hr] at hw
  cases hw

/-- in a queue but not blocked (multi-key leftover, after the first service) -/
theorem no_leftover_registration_fails : ¬ NoLeftoverRegistration Quirks.code := fun h => by
  have := h (wMultiKeyLeftover.take 3) 3 (by decide)
  exact this (by decide)

/-- a leftover registration cuts a later call short: `BLPOP a b 0.2` is served from `a`; the entry left on
    `b` keeps the old deadline; the client then waits FOR EVER on `a` and is answered nil when the old
    deadline passes — and its new registration on `a` stays behind in turn. -/
def wLeftoverDeadline : List Event :=
  [ .conn 3 0 [.bpop .left [ka, kb] 200], .conn 2 50 [.push .right ka [[1]]], .wakeups, .conn 3 100 [.bpop .left [ka] 0] ]

theorem never_early_nil_fails : ¬ NeverEarlyNil Quirks.code := fun h => by
  obtain ⟨d, hd, _⟩ := h wLeftoverDeadline 260 3 ⟨[ka], none, .left⟩ (by decide) (by decide)
  cases hd

theorem never_early_nil_fails_reply :
    outOf (runFrom Quirks.code (run Quirks.code wLeftoverDeadline) [.timeouts 260]) 3 = [.pair ka [1], .nilArr] := by decide

/-! ### Hang-up while blocked, once the server looks before it pops -/

/-- a blocked client hangs up, the server's probe notices (`reap`), THEN the push arrives: allowed, and the element
    stays in the list (the `hang-up during a stall` scenario: the probe runs first in the iteration that follows) -/
def wHangupNoticed : List Event :=
  [ .conn 3 0 [.bpop .left [ka, kb] 0], .conn 4 5 [.bpop .right [ka] 0], .hangup 3, .reap 3,
    .conn 2 10 [.push .right ka [[1], [2]]], .conn 2 20 [.push .left kb [[3]]] ]

example : AllowedFixed Quirks.fixed wHangupNoticed := by decide
example : (run Quirks.fixed wHangupNoticed).lost = [] ∧ outOf (run Quirks.fixed wHangupNoticed) 4 = [.pair ka [2]] ∧
    (run Quirks.fixed wHangupNoticed).store = [(kb, [3]), (ka, [1])] ∧ (run Quirks.fixed wHangupNoticed).registry = [] := by decide

/-- the window that stays excluded from the THEOREMS (not from conservation, see above): the batch runs between the
    hang-up and the server's look at the socket -/
theorem in_flight_window_is_excluded : ¬ AllowedFixed Quirks.fixed wDisconnectInFlight := by decide

/-- `wake_client` looking first: a request for a client that is no longer blocked (here: the dummy connection 0 of a
    tree without the EXEC repair) leaves the element in the list instead of dropping it -/
example : (run { Quirks.code with wakeChecksClient := true } wExecConn0).lost = [] ∧
    (run { Quirks.code with wakeChecksClient := true } wExecConn0).store = [(ka, [1])] := by decide

/-! ### The same witnesses with the local repairs switched on -/

example : (run Quirks.fixed wMultiKeyLeftover).lost = [] ∧ (run Quirks.fixed wMultiKeyLeftover).store = [(kb, [2])] := by decide +kernel
example : (run Quirks.fixed wExecConn0).lost = [] ∧ outOf (run Quirks.fixed wExecConn0) 3 = [.ok, .queued, .arrHdr 1, .nilArr] := by decide
example : outOf (run Quirks.fixed wOneWakePerPush) 4 = [.pair ka [2]] ∧ (run Quirks.fixed wOneWakePerPush).store = [(ka, [3])] := by decide
example : outOf (run Quirks.fixed wPipelinedPushPop) 3 = [.pair ka [1]] ∧ outOf (run Quirks.fixed wPipelinedPushPop) 2 = [.int 1, .nil, .int 1] := by decide +kernel
example : ((step Quirks.fixed (run Quirks.fixed wLeftoverDeadline) (.timeouts 260)).conns 3).blocked = some ⟨[ka], none, .left⟩ := by decide
/-- each repair alone flips its own witness -/
example : (run { Quirks.code with unregisterAllOnServe := true } wMultiKeyLeftover).lost = [] := by decide
example : (run { Quirks.code with refuseBlockingInTx := true } wExecConn0).lost = [] := by decide
example : outOf (run { Quirks.code with notifyPerElement := true } wOneWakePerPush) 4 = [.pair ka [2]] := by decide
example : outOf (run { Quirks.code with wakeAtPush := true } wPipelinedPushPop) 3 = [.pair ka [1]] := by decide +kernel

/-- the same key named twice: two registrations of one client; with one notify per element both are woken by a
    two-element push, the second wake-up finds the client served and its element is popped for nobody —
    unless a key named twice is waited on once (found by lib/c13.py on the tree with the first four repairs) -/
def wDuplicateKey : List Event :=
  [ .conn 3 0 [.bpop .right [ka, ka] 0], .conn 2 0 [.push .left ka [[1], [2]]], .wakeups ]

example : (run { Quirks.fixed with dedupKeys := false, wakeChecksClient := false } wDuplicateKey).lost = [(ka, [2])] := by decide
/-- …or `wake_client` looks first: the second request finds the client served and leaves the element -/
example : (run { Quirks.fixed with dedupKeys := false } wDuplicateKey).lost = [] := by decide
example : (run Quirks.fixed wDuplicateKey).lost = [] ∧ (run Quirks.fixed wDuplicateKey).store = [(ka, [2])] := by decide

end Ferrous.C13
