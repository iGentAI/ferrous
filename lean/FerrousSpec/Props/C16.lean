/-
  C16 — consumer groups: exactly-once delivery under `>`, pending-list accounting, group administration.

  Property theorems only; helper lemmas live in FerrousSpec/Proofs/Groups*.lean.
  Model: FerrousSpec/Model/Groups.lean — `Code.*` transliterates src/storage/consumer_groups.rs and the group
  entry points of src/storage/stream.rs with ALL representations the Rust keeps (entries_by_id,
  entries_by_consumer, per-consumer pending_count, total_pending, min/max, last_delivered_id) and its quirks
  behind the switches of `Quirks` (`Quirks.pinned` = the tree as first analysed, `Quirks.fixed` = every repair;
  which switches the tree has is read off the sources by lib/c16.py on every run);
  `Spec.*` is the property: a cursor and a finite map id → owner.
  Tie to the code: harness/src/bin/impl_grp.rs drives the real `Stream`/`ConsumerGroup` and compares
  `verif_dump()` after every operation with `Code`; lib/c16.py evaluates `Spec.gstep` and `Agree` on the
  implementation's own dumps.
-/
import FerrousSpec.Proofs.GroupsRefine
import FerrousSpec.Proofs.GroupsHistory
import FerrousSpec.Proofs.GroupsIdle
namespace Ferrous.C16
open Ferrous.Grp

/-! ### 1. The representations always describe the same pending set -/

/-- A freshly created group agrees (whatever the start id and whichever repairs are present). -/
theorem representations_agree_new (q : Quirks) (start : Id) : Agree (Code.newGroup q start) :=
  (good_newGroup q start).agree

/-- XACK (any id list: repeats, unknown ids) preserves agreement of `entries_by_id`, `entries_by_consumer`,
    `pending_count`, `total_pending` and `min/max` — for EVERY agreeing state. -/
theorem representations_agree_ack (g : Group) (h : Agree g) (ids : List Id) :
    Agree (Code.acknowledge g ids).1 := agree_acknowledge h ids

/-- XCLAIM (any claimer, any id list, idle test passing or not) preserves agreement — for every agreeing state. -/
theorem representations_agree_claim (g : Group) (h : Agree g) (c : Name) (elig : Bool) (ids : List Id) :
    Agree (Code.claim g c elig ids).1 := agree_claim h c elig ids

/-- XGROUP DELCONSUMER preserves agreement — for every agreeing state. -/
theorem representations_agree_delete_consumer (g : Group) (h : Agree g) (c : Name) :
    Agree (Code.deleteConsumer g c).1 := agree_deleteConsumer h c

/-- XGROUP CREATECONSUMER and SETID preserve agreement. -/
theorem representations_agree_admin (g : Group) (h : Agree g) (c : Name) (id : Id) :
    Agree (Code.createConsumer g c) ∧ Agree (Code.setId g id) :=
  ⟨agree_createConsumer h c, agree_setLast h id⟩

/-- A delivery (`add_pending`) of ids none of which is already pending preserves agreement. -/
theorem representations_agree_deliver_fresh (g : Group) (h : Agree g) (c : Name) (ids : List Id)
    (hnd : ids.Nodup) (hfresh : ∀ id ∈ ids, ∀ e ∈ g.byId, e.id ≠ id) :
    Agree (Code.addPending g c ids) := agree_addPending h c hnd hfresh

/-- Whole histories: starting from a new group over any strictly sorted stream, after ANY sequence of XADD, XDEL,
    XREADGROUP `>` (any consumer, any COUNT, with or without NOACK), XACK, XCLAIM, XAUTOCLAIM, DELCONSUMER,
    CREATECONSUMER, XPENDING — everything except the two re-delivering operations, XGROUP SETID and (on the
    pinned tree) XREADGROUP with an explicit id — the representations agree and no pending id lies beyond the
    cursor.  By induction over the operation list. -/
theorem representations_agree (q : Quirks) (stream : List Id) (lastId start : Id) (ops : List HOp)
    (hs : IdSorted stream) (hb : ∀ x ∈ stream, idLe x lastId = true)
    (hops : ∀ op ∈ ops, op.plainFor q = true) :
    Agree (Code.run q (Code.init q stream lastId start) ops).grp ∧
    ∀ e ∈ (Code.run q (Code.init q stream lastId start) ops).grp.byId,
      idLe e.id (Code.run q (Code.init q stream lastId start) ops).grp.lastDelivered = true :=
  have h := good_run q ops (σ := Code.init q stream lastId start) ⟨hs, hb⟩ (good_newGroup q start) hops
  ⟨h.agree, h.behind⟩

/-- FULL STATEMENT for a tree with the repaired `add_pending` (`redeliverFix`; whatever the other switches): a
    delivery preserves agreement for EVERY id list — ids that are already pending change hands as with XCLAIM — and
    therefore the representations agree after EVERY history from a new group, XGROUP SETID (backwards too) and
    explicit-id reads included.  By induction over the operation list. -/
theorem representations_agree_fixed (q : Quirks) (hq : q.redeliverFix = true) (stream : List Id) (lastId start : Id)
    (ops : List HOp) :
    Agree (Code.run q (Code.init q stream lastId start) ops).grp ∧
    (∀ g c ids, Agree g → Agree (Code.addPendingFixed g c ids)) :=
  ⟨agree_run_fixed q hq ops (σ := Code.init q stream lastId start) (good_newGroup q start).agree,
   fun _ c ids h => agree_addPendingFixed h c ids⟩

/-- What agreement means for the observable counters: the consumer vectors are a duplicate-free cover of the
    keys of `entries_by_id` (same length in total) and each `pending_count` is the number of rows its consumer owns. -/
theorem representations_agree_counts (g : Group) (h : Agree g) :
    g.totalPending = g.byId.length ∧
    (∀ c l, alGet c g.byConsumer = some l → l.length = (g.byId.filter (fun e => e.owner == c)).length) ∧
    (∀ c n, alGet c g.consumers = some n → n = (g.byId.filter (fun e => e.owner == c)).length) := by
  have hr := h.rep
  refine ⟨h.total, fun c l hl => ?_, fun c n hc => ?_⟩
  · have := hr.vec_length c
    rwa [vec, hl] at this
  · have := hr.count c
    rw [cnt, hc] at this
    exact this.trans (hr.vec_length c)

/-- WITNESS (DESIGN §6: fixed d3ce8bb and 4e71041): delivering an id that is already pending breaks the agreement.  State after
    `XADD 1-0; XGROUP CREATE g 0; XREADGROUP g c1 >` agrees; re-delivering 1-0 to c2 (what XREADGROUP with an
    explicit id, or `>` after SETID 0, does) leaves 1-0 in c1's vector, total_pending 2 for one row. -/
theorem representations_agree_fails_on_redelivery :
    ∃ g : Group, Agree g ∧ ¬ Agree (Code.addPending g 2 [(1, 0)]) := by
  refine ⟨Code.addPending (Code.newGroup Quirks.pinned (0, 0)) 1 [(1, 0)], ?_, ?_⟩
  · exact agree_addPending (good_newGroup _ _).agree 1 (by simp) (by intro id _ e he; cases he)
  · intro h
    exact absurd h.total (by decide)

/-- The executable check used by the driver on the implementation's dumps accepts exactly the agreeing states. -/
theorem agreeB_iff (g : Group) : agreeB g = true ↔ Agree g := by
  simp only [agreeB, agreeClauses, List.all_cons, List.all_nil, Bool.and_true, Bool.and_eq_true,
    decide_eq_true_eq]
  constructor
  · rintro ⟨h1, h2, h3, h4, h5, h6, h7, h8, h9, h10, h11⟩
    exact { sorted := h1, bcKeys := h2, csKeys := h3, lists := h4, own₁ := h5, own₂ := h6, cnt₁ := h7, cnt₂ := h8,
            bmin := h9, bmax := h10, total := h11 }
  · intro h
    exact ⟨h.sorted, h.bcKeys, h.csKeys, h.lists, h.own₁, h.own₂, h.cnt₁, h.cnt₂, h.bmin, h.bmax, h.total⟩

/-- WITNESS at history level: `>` by c1, XGROUP SETID back to 0-0, `>` by c2 — the pinned code ends in a state
    whose representations disagree (1-0 is owned by c2 in entries_by_id but still in c1's vector; total 2). -/
theorem representations_agree_fails_after_setid_back :
    ¬ Agree (Code.run Quirks.pinned (Code.init Quirks.pinned [(1, 0)] (1, 0) (0, 0))
        [.g (.read 1 none none false), .g (.setid (0, 0)), .g (.read 2 none none false)]).grp := by
  rw [← agreeB_iff]; decide

/-- The same history on the repaired tree: the second read moves 1-0 from c1 to c2 (delivery count 2), every
    representation follows. -/
theorem setid_back_redelivery_moves_ownership_when_fixed :
    Agree (Code.run Quirks.fixed (Code.init Quirks.fixed [(1, 0)] (1, 0) (0, 0))
        [.g (.read 1 none none false), .g (.setid (0, 0)), .g (.read 2 none none false)]).grp ∧
    (Code.run Quirks.fixed (Code.init Quirks.fixed [(1, 0)] (1, 0) (0, 0))
        [.g (.read 1 none none false), .g (.setid (0, 0)), .g (.read 2 none none false)]).grp.byId = [⟨(1, 0), 2, 2⟩] := by
  constructor
  · rw [← agreeB_iff]; decide
  · decide

/-- WITNESS at history level: `>` then XREADGROUP with the explicit id 0 by the same consumer — on the pinned tree
    1-0 is twice in c1's vector and pending_count is 2 for one pending row; the repaired code leaves the state alone. -/
theorem representations_agree_fails_after_explicit_id_read :
    ¬ Agree (Code.run Quirks.pinned (Code.init Quirks.pinned [(1, 0)] (1, 0) (0, 0))
        [.g (.read 1 none none false), .g (.read 1 (some (0, 0)) none false)]).grp ∧
    Agree (Code.run Quirks.fixed (Code.init Quirks.fixed [(1, 0)] (1, 0) (0, 0))
        [.g (.read 1 none none false), .g (.read 1 (some (0, 0)) none false)]).grp := by
  constructor
  · rw [← agreeB_iff]; decide
  · rw [← agreeB_iff]; decide

/-! ### 2. Exactly-once delivery under `>` -/

/-- THE PROPERTY (prescribed behaviour): for a group created at `start` over any strictly sorted stream, after ANY
    history of XADD / XDEL / XREADGROUP `>` by any consumers with any COUNT, with or without NOACK / explicit-id
    history reads / XACK / XCLAIM / DELCONSUMER (everything but SETID, which re-positions the group):
    (1) the ids delivered under `>`, in delivery order over the whole history, are strictly increasing — so no
        entry is delivered twice, hence to exactly one consumer, and in id order;
    (2) every delivered id lies after the start position;
    (3) nothing is skipped: an entry still in the stream after the start position and not beyond the cursor has
        been delivered;
    (4) one more unbounded read delivers every entry of the stream after the start position that was not. -/
theorem exactly_once (stream : List Id) (lastId start : Id) (ops : List HOp)
    (hs : IdSorted stream) (hb : ∀ x ∈ stream, idLe x lastId = true)
    (hops : ∀ op ∈ ops, op.noSetId = true) :
    let σ := Spec.run (Spec.init stream lastId start) ops
    IdSorted (σ.log.map (·.1)) ∧
    (∀ d ∈ σ.log, idLt start d.1 = true) ∧
    (∀ x ∈ σ.stream, idLt start x = true → idLe x σ.grp.cursor = true → x ∈ σ.log.map (·.1)) ∧
    (∀ c, ∀ x ∈ σ.stream, idLt start x = true →
        x ∈ (Spec.hstep σ (.g (.read c none none false))).log.map (·.1)) := by
  intro σ
  have h : OnceInv start σ := onceInv_run ops (onceInv_init start hs hb) hops
  exact ⟨h.logSorted, h.logAfter, h.noSkip, fun c x hx hsx => h.read_all c hx hsx⟩

/-- The code delivers exactly what the property prescribes — same deliveries to the same consumers in the same
    order, same cursor — on every history whose operations avoid the deviations that are still present in the
    tree described by `q` (see `HOp.plainFor`), for a group whose cursor starts where it should. -/
theorem code_delivers_as_prescribed (q : Quirks) (stream : List Id) (lastId start : Id) (ops : List HOp)
    (hq : q.startFix = true ∨ start = (0, 0)) (hops : ∀ op ∈ ops, op.plainFor q = true) :
    (Code.run q (Code.init q stream lastId start) ops).log = (Spec.run (Spec.init stream lastId start) ops).log ∧
    (Code.run q (Code.init q stream lastId start) ops).grp.lastDelivered =
      (Spec.run (Spec.init stream lastId start) ops).grp.cursor :=
  have h := sim_run q ops (sim_init q stream lastId start hq) hops
  ⟨h.log, h.cursor⟩

/-- FULL STATEMENT for the repaired code (`Quirks.fixed`: cursor initialised from the start id, NOACK advances,
    explicit ids read the consumer's history): exactly-once on every history without SETID, any start position. -/
theorem exactly_once_code_fixed (stream : List Id) (lastId start : Id) (ops : List HOp)
    (hs : IdSorted stream) (hb : ∀ x ∈ stream, idLe x lastId = true)
    (hops : ∀ op ∈ ops, op.noSetId = true) :
    let σ := Code.run Quirks.fixed (Code.init Quirks.fixed stream lastId start) ops
    IdSorted (σ.log.map (·.1)) ∧
    (∀ d ∈ σ.log, idLt start d.1 = true) ∧
    (∀ x ∈ σ.stream, idLt start x = true → idLe x σ.grp.lastDelivered = true → x ∈ σ.log.map (·.1)) :=
  once_code Quirks.fixed (Or.inl rfl) hs hb (fun op hop => plainFor_fixed (hops op hop))

/-- PARTIAL (the tree as pinned): exactly-once holds for groups created at 0-0 on histories without NOACK reads,
    explicit-id reads and SETID (`HOp.plainFor Quirks.pinned`, a decidable exclusion). -/
theorem exactly_once_partial (stream : List Id) (lastId : Id) (ops : List HOp)
    (hs : IdSorted stream) (hb : ∀ x ∈ stream, idLe x lastId = true)
    (hops : ∀ op ∈ ops, op.plainFor Quirks.pinned = true) :
    let σ := Code.run Quirks.pinned (Code.init Quirks.pinned stream lastId (0, 0)) ops
    IdSorted (σ.log.map (·.1)) ∧
    (∀ x ∈ σ.stream, idLt (0, 0) x = true → idLe x σ.grp.lastDelivered = true → x ∈ σ.log.map (·.1)) :=
  have h := once_code Quirks.pinned (Or.inr rfl) hs hb hops
  ⟨h.1, h.2.2⟩

/-- WITNESS (DESIGN §6: fixed baaa5f5, NOACK): on the pinned tree two NOACK reads deliver 1-0 twice, to two consumers. -/
theorem exactly_once_fails_for_noack :
    (Code.run Quirks.pinned (Code.init Quirks.pinned [(1, 0)] (1, 0) (0, 0))
        [.g (.read 1 none none true), .g (.read 2 none none true)]).log = [((1, 0), 1), ((1, 0), 2)] ∧
    ¬ IdSorted ([((1, 0), 1), ((1, 0), 2)].map (fun d : Id × Name => d.1)) := by
  constructor
  · rfl
  · decide

/-- WITNESS (DESIGN §6: fixed ad6dac3, start ignored): a group created at `$` = 2-0 over the stream 1-0, 2-0 is delivered both old
    entries by its first read; the prescribed behaviour delivers nothing. -/
theorem exactly_once_fails_for_dollar :
    (Code.run Quirks.pinned (Code.init Quirks.pinned [(1, 0), (2, 0)] (2, 0) (2, 0))
        [.g (.read 1 none none false)]).log = [((1, 0), 1), ((2, 0), 1)] ∧
    (Spec.run (Spec.init [(1, 0), (2, 0)] (2, 0) (2, 0)) [.g (.read 1 none none false)]).log = [] ∧
    idLt (2, 0) (1, 0) = false := by
  refine ⟨rfl, rfl, rfl⟩

/-- The repaired code passes both witnesses. -/
theorem witnesses_pass_when_fixed :
    (Code.run Quirks.fixed (Code.init Quirks.fixed [(1, 0)] (1, 0) (0, 0))
        [.g (.read 1 none none true), .g (.read 2 none none true)]).log = [((1, 0), 1)] ∧
    (Code.run Quirks.fixed (Code.init Quirks.fixed [(1, 0), (2, 0)] (2, 0) (2, 0))
        [.g (.read 1 none none false)]).log = [] := by
  refine ⟨rfl, rfl⟩

/-- WITNESS (explicit id): on the pinned tree XREADGROUP with id 0 by c1 consumes the never-delivered entry 1-0
    (it becomes pending for c1 and the cursor moves), so `>` never delivers it. -/
theorem explicit_id_read_consumes_new_entries :
    (Code.run Quirks.pinned (Code.init Quirks.pinned [(1, 0)] (1, 0) (0, 0))
        [.g (.read 1 (some (0, 0)) none false), .g (.read 2 none none false)]).log = [] ∧
    (Code.run Quirks.pinned (Code.init Quirks.pinned [(1, 0)] (1, 0) (0, 0))
        [.g (.read 1 (some (0, 0)) none false)]).grp.lastDelivered = (1, 0) := by
  refine ⟨rfl, rfl⟩

/-! ### 3. XACK, XCLAIM, XPENDING, administration -/

/-- XACK on any state whose `entries_by_id` is a map (strictly sorted keys — in particular every agreeing state):
    the reply is the number of pending rows whose id occurs in the argument list — each counted once however often
    it is repeated, unknown ids counting nothing — and exactly those rows are removed; the cursor is untouched. -/
theorem xack_counts_once (g : Group) (hs : Sorted g.byId) (ids : List Id) :
    (Code.acknowledge g ids).2 = (g.byId.filter (fun e => ids.contains e.id)).length ∧
    (Code.acknowledge g ids).1.byId = g.byId.filter (fun e => !ids.contains e.id) ∧
    Grp.abs (Code.acknowledge g ids).1 = (Spec.ack (Grp.abs g) ids).1 ∧
    (Code.acknowledge g ids).2 = (Spec.ack (Grp.abs g) ids).2 := by
  obtain ⟨h1, h2⟩ := ackLoop_byId g ids 0 hs
  obtain ⟨h3, h4⟩ := acknowledge_refines g ids hs
  refine ⟨?_, h1, h3, h4⟩
  show (Code.ackLoop g ids 0).2 = _
  rw [h2, Nat.zero_add]

/-- Acknowledging twice acknowledges nothing the second time. -/
theorem xack_idempotent (g : Group) (h : Agree g) (ids : List Id) :
    (Code.acknowledge (Code.acknowledge g ids).1 ids).2 = 0 := by
  have h' := agree_acknowledge h ids
  rw [(xack_counts_once _ h'.sorted ids).1, (xack_counts_once g h.sorted ids).2.1]
  rw [List.filter_filter, List.length_eq_zero_iff, List.filter_eq_nil_iff]
  intro e _
  cases ids.contains e.id <;> simp

/-- XCLAIM: on every state, the pending set after the claim is the old one with every listed pending id now owned
    by the claimer (when the idle test passes; unchanged otherwise), the reply lists exactly the listed ids that
    were pending, the cursor is untouched — and on agreeing states all representations follow (the ids leave their
    previous owners' vectors and counters and enter the claimer's). -/
theorem xclaim_moves (g : Group) (c : Name) (elig : Bool) (ids : List Id) :
    Grp.abs (Code.claim g c elig ids).1 = (Spec.claim (Grp.abs g) c elig ids).1 ∧
    (Code.claim g c elig ids).2 = (Spec.claim (Grp.abs g) c elig ids).2 ∧
    (Agree g → Agree (Code.claim g c elig ids).1) :=
  ⟨(claim_refines g c elig ids).1, (claim_refines g c elig ids).2, fun h => agree_claim h c elig ids⟩

/-- XCLAIM's idle threshold is measured from the LAST delivery: after a successful claim of `id` at time `t` (which
    stamps the row with `t`, whether the row changed hands or was created by FORCE), any claim of `id` without FORCE
    and with min-idle `T` at a time `t'` with `t' - t < T` — in particular immediately, `t' = t`, for every `T > 0` —
    is refused: nothing is claimed, the owner, the delivery count and every other representation stay as the first
    claim left them (only the would-be claimer is created).  On every tree. -/
theorem claim_resets_idle (q : Quirks) (stream : List Id) (g : Group) (ts : Code.Times) (c c' : Name)
    (t t' T T' : Nat) (force : Bool) (id : Id)
    (h : (Code.claimT q stream (g, ts) c t T' force [id]).2 = [id]) (hT : t' - t < T) :
    let s1 := (Code.claimT q stream (g, ts) c t T' force [id]).1
    (Code.claimT q stream s1 c' t' T false [id]).2 = [] ∧
    (Code.claimT q stream s1 c' t' T false [id]).1 = (Code.createConsumer s1.1 c', s1.2) ∧
    Code.lastOf s1.2 id = t := by
  intro s1
  have hlast : Code.lastOf s1.2 id = t := claimStepT_stamp (claimT_single_claimed h)
  have hr := claimT_refused q stream s1.1 s1.2 c' t' T id (by rw [hlast]; exact hT)
  exact ⟨congrArg Prod.snd hr, congrArg Prod.fst hr, hlast⟩

/-- Once the threshold has elapsed since that last claim, the entry can be claimed again (the test is exactly
    `T ≤ now - last_delivery`). -/
theorem claim_allowed_after_idle (q : Quirks) (stream : List Id) (g : Group) (ts : Code.Times) (c : Name) (now T : Nat)
    (id : Id) (e : PEntry)
    (hp : pelFind id (Code.createConsumer g c).byId = some e) (hT : T ≤ now - Code.lastOf ts id) :
    (Code.claimT q stream (g, ts) c now T false [id]).2 = [id] ∧
    Code.lastOf (Code.claimT q stream (g, ts) c now T false [id]).1.2 id = now := by
  have hstep := claimStepT_idle q c now T stream (Code.createConsumer g c, ts) id e hp hT
  simp only [Code.claimT, Code.claimLoopT, hstep, if_true, true_and]
  exact lastOf_setLast ts id now

/-- The timed claim is the Boolean one whenever the idle test has a uniform outcome and no row is created (min-idle 0:
    passes; a threshold larger than the clock: fails; FORCE on the pinned tree: passes) — which is how the untimed
    histories of the check use it — and it preserves the agreement of the representations whatever the times, the
    switches and FORCE are (row creation included). -/
theorem claim_timed (q : Quirks) (stream : List Id) (g : Group) (ts : Code.Times) (c : Name) (now minIdle : Nat)
    (force b : Bool) (ids : List Id) :
    ((∀ l, Code.idleOk now l minIdle (force && !q.forceFix) = b) → (q.forceFix && force) = false →
      (Code.claimT q stream (g, ts) c now minIdle force ids).1.1 = (Code.claim g c b ids).1 ∧
      (Code.claimT q stream (g, ts) c now minIdle force ids).2 = (Code.claim g c b ids).2) ∧
    (Agree g → Agree (Code.claimT q stream (g, ts) c now minIdle force ids).1.1 ∧
      (Code.claimT q stream (g, ts) c now minIdle force ids).1.1.lastDelivered = g.lastDelivered) := by
  constructor
  · intro h hnc
    exact claimLoopT_uniform q c now minIdle force b stream h hnc ids (Code.createConsumer g c, ts)
  · intro h
    exact claimLoopT_agree q c now minIdle force stream ids (Code.createConsumer g c, ts)
      (agree_createConsumer h c) (alGet_consCreate_self c g.consumers)

/-- XCLAIM as prescribed (tree with `forceFix`): an entry that is pending changes owner ONLY by a claim whose idle
    threshold it meets — with or without FORCE, a step whose threshold is not met leaves the group exactly as it
    was. -/
theorem xclaim_owner_changes_only_when_idle_met (q : Quirks) (hq : q.forceFix = true) (c : Name) (now T : Nat)
    (force : Bool) (stream : List Id) (s : Group × Code.Times) (id : Id) (e : PEntry)
    (hp : pelFind id s.1.byId = some e) (h : now - Code.lastOf s.2 id < T) :
    Code.claimStepT q c now T force stream s id = (s, false) :=
  claimStepT_refused_force q hq c now T force stream s id e hp h

/-- XCLAIM FORCE as prescribed (tree with `forceFix`): for an id that is pending for nobody, a row is created iff FORCE
    is given and the entry exists in the stream; it is exactly the row (id, claimer, delivery count 1), stamped now,
    with the claimer's counter and the total each one higher — and nothing else changes. -/
theorem xclaim_force_creates_missing_rows (q : Quirks) (hq : q.forceFix = true) (c : Name) (now T : Nat) (force : Bool)
    (stream : List Id) (s : Group × Code.Times) (id : Id) (hp : pelFind id s.1.byId = none) :
    Code.claimStepT q c now T force stream s id =
      (if force && stream.contains id then ((Code.addOne c s.1 id, Code.setLast s.2 id now), true) else (s, false)) ∧
    (Code.addOne c s.1 id).byId = pelInsert ⟨id, c, 1⟩ s.1.byId ∧
    (Code.addOne c s.1 id).totalPending = s.1.totalPending + 1 ∧
    (Code.addOne c s.1 id).lastDelivered = s.1.lastDelivered := by
  refine ⟨?_, rfl, rfl, rfl⟩
  unfold Code.claimStepT
  simp only [hp, hq, Bool.true_and]

/-- WITNESS (hunt d1): on the pinned tree FORCE is backwards.  c1 holds 1-0, delivered at time 0; at time 5 a claim
    with min-idle 3 600 000 and FORCE takes it (A), and FORCE on the existing, non-pending 3-0 creates nothing (B).
    The repaired tree refuses A and creates the row for B. -/
theorem xclaim_force_backwards_when_pinned :
    let g := Code.addPending (Code.newGroup Quirks.pinned (0, 0)) 1 [(1, 0)]
    (Code.claimT Quirks.pinned [(1, 0), (3, 0)] (g, []) 2 5 3600000 true [(1, 0)]).2 = [(1, 0)] ∧
    (Code.claimT Quirks.pinned [(1, 0), (3, 0)] (g, []) 3 5 0 true [(3, 0)]).2 = [] ∧
    (Code.claimT Quirks.fixed [(1, 0), (3, 0)] (g, []) 2 5 3600000 true [(1, 0)]).2 = [] ∧
    (Code.claimT Quirks.fixed [(1, 0), (3, 0)] (g, []) 3 5 0 true [(3, 0)]).2 = [(3, 0)] ∧
    (Code.claimT Quirks.fixed [(1, 0), (3, 0)] (g, []) 3 5 0 true [(3, 0), (9, 9)]).1.1.byId =
      [⟨(1, 0), 1, 1⟩, ⟨(3, 0), 3, 1⟩] := by
  refine ⟨by decide, by decide, by decide, by decide, by decide⟩

/-- WITNESS of what the idle test must not do: measured from the FIRST delivery (time 0) instead of the last one, the
    second claim at time 400 with threshold 300 would pass (`300 ≤ 400 - 0`); measured as prescribed it is refused. -/
theorem claim_idle_from_first_delivery_differs :
    Code.idleOk 400 0 300 false = true ∧ Code.idleOk 400 400 300 false = false := by decide

/-- XPENDING summary on agreeing states equals the actual pending set: the total is the number of pending rows, the
    bounds are the smallest and largest pending id, and the per-consumer rows are exactly the owners with the
    number of rows they own (consumers owning nothing are not listed). -/
theorem xpending_equals_actual (g : Group) (h : Agree g) :
    ∃ rows, Code.pendingInfo g = .summary (Grp.abs g).pending.length ((Grp.abs g).pending.head?.map (·.1))
        ((Grp.abs g).pending.getLast?.map (·.1)) rows ∧
      ∀ c n, (c, n) ∈ rows ↔
        (c, n) ∈ ((Grp.abs g).pending.map (·.2)).eraseDups.map (fun c => (c, Spec.countOf (Grp.abs g).pending c)) := by
  refine ⟨g.consumers.filter (fun p => p.2 > 0), ?_, ?_⟩
  · simp only [Code.pendingInfo, Grp.abs, List.length_map, List.head?_map, List.getLast?_map, h.bmin, h.bmax,
      Option.map_map]
    rfl
  · intro c n
    rw [pendingInfo_rows h.toAgreeCore, specInfo_rows]

/-- XPENDING with a range and no consumer filter, when the range is not reversed: the code returns exactly the
    pending rows with `s ≤ id ≤ e`, in id order, at most `count` — the same rows the property prescribes. -/
theorem xpending_range_equals_actual (q : Quirks) (g : Group) (s e : Option Id) (count : Nat)
    (hse : ∀ lo hi, s = some lo → e = some hi → idLe lo hi = true) :
    Code.pendingRange q g s e count none =
      .entries (((g.byId.filter (fun x => inRange s e x.id)).take count).map Code.showEntry) ∧
    Spec.pendingRange (Grp.abs g) s e count none =
      .entries (((g.byId.filter (fun x => inRange s e x.id)).take count).map (fun x => (x.id, x.owner, 0))) :=
  ⟨pendingRange_eq q g count hse, (specPendingRange_abs g s e count none).trans (by simp only [Bool.and_true])⟩

/-- XPENDING with a consumer filter on a tree with the repair (`filterFix`), range not reversed: exactly the rows of
    that consumer with `s ≤ id ≤ e`, in id order, at most `count` — the rows the property prescribes. -/
theorem xpending_range_consumer_equals_actual (q : Quirks) (hq : q.filterFix = true) (g : Group) (s e : Option Id)
    (count : Nat) (c : Name) (hse : ∀ lo hi, s = some lo → e = some hi → idLe lo hi = true) :
    Code.pendingRange q g s e count (some c) =
      .entries (((g.byId.filter (fun x => inRange s e x.id && x.owner == c)).take count).map Code.showEntry) ∧
    Spec.pendingRange (Grp.abs g) s e count (some c) =
      .entries (((g.byId.filter (fun x => inRange s e x.id && x.owner == c)).take count).map
        (fun x => (x.id, x.owner, 0))) :=
  ⟨pendingRange_consumer_eq q hq g count c hse, specPendingRange_abs g s e count (some c)⟩

/-- WITNESS (DESIGN §6: fixed db7bca5): a reversed range on a group that has ever held a pending entry panics on the pinned
    tree; with the repair it is the empty list, as prescribed. -/
theorem xpending_range_panics_when_reversed :
    let g := Code.addPending (Code.newGroup Quirks.pinned (0, 0)) 1 [(1, 0)]
    Code.pendingRange Quirks.pinned g (some (5, 0)) (some (1, 0)) 10 none = .panic ∧
    Code.pendingRange Quirks.fixed g (some (5, 0)) (some (1, 0)) 10 none = .entries [] ∧
    Spec.pendingRange (Grp.abs g) (some (5, 0)) (some (1, 0)) 10 none = .entries [] := by
  refine ⟨rfl, rfl, rfl⟩

/-- WITNESS (DESIGN §6: fixed b5405c7): with a consumer filter the code ignores the range: c1 owns 1-0 and 2-0, the range
    2-0..2-0 should list 2-0 only. -/
theorem xpending_consumer_filter_ignores_range :
    let g := Code.addPending (Code.newGroup Quirks.pinned (0, 0)) 1 [(1, 0), (2, 0)]
    Code.pendingRange Quirks.pinned g (some (2, 0)) (some (2, 0)) 10 (some 1) = .entries [((1, 0), 1, 1), ((2, 0), 1, 1)] ∧
    Spec.pendingRange (Grp.abs g) (some (2, 0)) (some (2, 0)) 10 (some 1) = .entries [((2, 0), 1, 0)] ∧
    Code.pendingRange Quirks.fixed g (some (2, 0)) (some (2, 0)) 10 (some 1) = .entries [((2, 0), 1, 1)] := by
  refine ⟨rfl, rfl, rfl⟩

/-- XGROUP DELCONSUMER on agreeing states: the reply is the number of rows the consumer owned, exactly those rows
    leave the pending set, the consumer disappears, the cursor is untouched. -/
theorem delconsumer_effect (g : Group) (h : Agree g) (c : Name) :
    Grp.abs (Code.deleteConsumer g c).1 = (Spec.delConsumer (Grp.abs g) c).1 ∧
    (Code.deleteConsumer g c).2 = (Spec.delConsumer (Grp.abs g) c).2 ∧
    alGet c (Code.deleteConsumer g c).1.consumers = none := by
  obtain ⟨_, hb, hn⟩ := deleteConsumer_spec h c
  refine ⟨?_, ?_, deleteConsumer_consumer g c⟩
  · simp only [Grp.abs, Spec.delConsumer, deleteConsumer_last, hb, List.filter_map]; rfl
  · simp only [hn, Grp.abs, Spec.delConsumer, List.filter_map, List.length_map]; rfl

/-- XGROUP SETID moves the cursor and nothing else; CREATECONSUMER changes no pending entry and no cursor. -/
theorem setid_createconsumer_effect (g : Group) (id : Id) (c : Name) :
    Grp.abs (Code.setId g id) = { Grp.abs g with cursor := id } ∧
    (Code.setId g id).byConsumer = g.byConsumer ∧ (Code.setId g id).consumers = g.consumers ∧
    (Code.setId g id).totalPending = g.totalPending ∧
    Grp.abs (Code.createConsumer g c) = Grp.abs g :=
  ⟨rfl, rfl, rfl, rfl, rfl⟩

/-- XGROUP CREATE on the repaired tree: the new group has the requested cursor and nothing pending; a second CREATE
    is refused (BUSYGROUP) and changes nothing; DESTROY removes exactly that group. -/
theorem create_destroy_effect (s : St) (gname : Name) (start : Id) (h : alGet gname s.groups = none) :
    let s1 := (St.create Quirks.fixed s gname start).1
    (alGet gname s1.groups).map Grp.abs = some (Spec.newGroup start) ∧
    St.create Quirks.fixed s1 gname start = (s1, .busy) ∧
    alGet gname (St.destroy s1 gname).1.groups = none ∧
    (∀ other, other ≠ gname → alGet other s1.groups = alGet other s.groups ∧
        alGet other (St.destroy s1 gname).1.groups = alGet other s.groups) ∧
    s1.stream = s.stream := by
  intro s1
  have hs1 : s1.groups = alSet gname (Code.newGroup Quirks.fixed start) s.groups :=
    congrArg St.groups (St.create_absent Quirks.fixed start h)
  have hget : alGet gname s1.groups = some (Code.newGroup Quirks.fixed start) := by
    rw [hs1, alGet_alSet, if_pos rfl]
  have hother : ∀ other, other ≠ gname → alGet other s1.groups = alGet other s.groups :=
    fun other hne => by rw [hs1, alGet_alSet, if_neg hne.symm]
  refine ⟨by rw [hget]; rfl, St.create_present Quirks.fixed start hget, ?_, fun other hne => ⟨hother other hne, ?_⟩,
    (congrArg St.stream (St.create_absent Quirks.fixed start h) :)⟩
  · rw [St.destroy_present hget]; exact (alGet_alErase gname gname _).trans (if_pos rfl)
  · rw [St.destroy_present hget]; exact (alGet_alErase other gname _).trans ((if_neg hne.symm).trans (hother other hne))

/-- WITNESS (DESIGN §6: fixed ad6dac3, start ignored), at the level of XGROUP CREATE: on the pinned tree the cursor of a new group is
    0-0 whatever start id was asked for. -/
theorem create_ignores_start_when_pinned (start : Id) :
    (Code.newGroup Quirks.pinned start).lastDelivered = (0, 0) ∧
    (Code.newGroup Quirks.fixed start).lastDelivered = start := ⟨rfl, rfl⟩

/-- "These effects and no others": an operation on one group changes neither the stream nor any other group. -/
theorem group_ops_isolated (q : Quirks) (s : St) (gname other : Name) (op : GOp) (hne : other ≠ gname) :
    alGet other (St.gop q s gname op).1.groups = alGet other s.groups ∧
    (St.gop q s gname op).1.stream = s.stream ∧ (St.gop q s gname op).1.lastId = s.lastId := by
  unfold St.gop
  cases alGet gname s.groups with
  | none => exact ⟨rfl, rfl, rfl⟩
  | some grp => exact ⟨by simp [alGet_alSet, Ne.symm hne], rfl, rfl⟩

/-! ### 4. Handler level: all-or-nothing multi-stream reads, names, the border id -/

/-- A multi-stream XREADGROUP whose later stream fails is refused, and on a tree that validates before delivering
    (`multiFix`) it changes nothing — "a refused command changes nothing", "delivered under `>` exactly once". -/
theorem multi_stream_read_all_or_nothing (q : Quirks) (stream : List Id) (g : Group) (c : Name) (count : Option Nat)
    (noack : Bool) :
    (Code.multiReadFailing q stream g c count noack).2 = .refused ∧
    (q.multiFix = true → (Code.multiReadFailing q stream g c count noack).1 = g) := by
  unfold Code.multiReadFailing
  constructor
  · split <;> rfl
  · intro h; simp [h]

/-- WITNESS: on the pinned tree `XREADGROUP GROUP g c1 STREAMS s t > >` with no group g on t answers NOGROUP but has
    made 1-0 pending for c1 and moved the cursor of s: 1-0 is never delivered under `>` again. -/
theorem multi_stream_read_delivers_before_failing_when_pinned :
    let g := Code.newGroup Quirks.pinned (0, 0)
    (Code.multiReadFailing Quirks.pinned [(1, 0)] g 1 none false).1.byId = [⟨(1, 0), 1, 1⟩] ∧
    (Code.multiReadFailing Quirks.pinned [(1, 0)] g 1 none false).1.lastDelivered = (1, 0) ∧
    (Code.multiReadFailing Quirks.fixed [(1, 0)] g 1 none false).1 = g := by
  refine ⟨rfl, rfl, rfl⟩

/-- WITNESS: the lossy UTF-8 conversion stores the two distinct binary names (transported as 100 and 101) under one
    name, so they are one group / one consumer; the repaired tree refuses such names instead. -/
theorem binary_names_collide_when_lossy :
    Code.lossyName 100 = Code.lossyName 101 ∧ (100 : Name) ≠ 101 ∧ ∀ n, Code.isBinaryName n = false → Code.lossyName n = n := by
  refine ⟨rfl, by decide, ?_⟩
  intro n h
  simp only [Code.isBinaryName, Bool.or_eq_false_iff, decide_eq_false_iff_not] at h
  simp [Code.lossyName, h.1, h.2]

/-- The explicit id `18446744073709551615-18446744073709551615`: the property's reading is "the consumer's pending
    entries after it" — none, for ids that fit in 64 bits; the pinned handler reads it as `>` (WITNESS), the
    repaired one as what it says; every other explicit id is read as itself on both. -/
theorem explicit_max_id (q : Quirks) :
    Code.explicitFrom Quirks.pinned Code.maxId = none ∧
    Code.explicitFrom Quirks.fixed Code.maxId = some Code.maxId ∧
    (∀ a, a ≠ Code.maxId → Code.explicitFrom q a = some a) ∧
    (∀ (g : Spec.Group) c count,
      (∀ x ∈ g.pending, x.1.1 < 18446744073709551616 ∧ x.1.2 < 18446744073709551616) →
      Spec.readHist g c Code.maxId count = []) :=
  ⟨rfl, rfl, fun a h => by simp [Code.explicitFrom, h], fun g c count hb => readHist_maxId g c count hb⟩

/-- COUNT 0 (hunt d2): the property reads COUNT 0 as "no limit"; the repaired handler hands `read_group` no count, the
    pinned one the literal 0, for which nothing is ever delivered (WITNESS). -/
theorem count_zero_is_unlimited (q : Quirks) (stream : List Id) (a : Id) :
    Code.countFrom Quirks.fixed 0 = none ∧ Code.countFrom Quirks.pinned 0 = some 0 ∧
    (∀ n, n ≠ 0 → Code.countFrom q n = some n) ∧
    rangeAfter stream a (some 0) = [] ∧ rangeAfter stream a none = stream.filter (fun x => idLt a x) := by
  refine ⟨rfl, rfl, ?_, by simp [rangeAfter], rfl⟩
  intro n h; simp [Code.countFrom, h]

/-- A refused XGROUP CREATE (hunt d3): "administration has exactly these effects and no others" — on the repaired tree a
    refused `CREATE key g <bad id> MKSTREAM` leaves a missing key missing; the pinned tree has created it (WITNESS). -/
theorem refused_create_changes_nothing (q : Quirks) (existed : Bool) :
    (q.createParseFix = true → Code.refusedCreateLeavesKey q existed = existed) ∧
    Code.refusedCreateLeavesKey Quirks.pinned false = true := by
  refine ⟨?_, rfl⟩
  intro h; simp [Code.refusedCreateLeavesKey, h]

/-- XPENDING bounds (hunt d4): the repaired handler reads a bound as the property prescribes (`boundSpec`); the pinned
    one reads an incomplete id, an exclusive bound, `+` as a start and garbage as "unbounded" (WITNESSES), so the reply
    lists rows outside the requested range.  The prescribed reading of the hunter's examples. -/
theorem xpending_bounds (q : Quirks) (hq : q.boundFix = true) (isStart excl : Bool) (b : Code.Bound) :
    Code.boundCode q isStart excl b = (Code.boundSpec isStart excl b).map some ∧
    Code.boundCode Quirks.pinned true false (.ms 2) = some none ∧
    Code.boundCode Quirks.pinned true true (.full (2, 0)) = some none ∧
    Code.boundCode Quirks.pinned true false .plus = some none ∧
    Code.boundCode Quirks.pinned true false .junk = some none ∧
    Code.boundSpec true false (.ms 2) = some (2, 0) ∧
    Code.boundSpec false false (.ms 2) = some (2, 18446744073709551615) ∧
    Code.boundSpec true true (.full (2, 0)) = some (2, 1) ∧
    Code.boundSpec false true (.full (3, 0)) = some (2, 18446744073709551615) ∧
    Code.boundSpec true false .plus = some Code.maxId ∧
    Code.boundSpec true true .plus = none ∧
    Code.boundSpec false false .junk = none := by
  refine ⟨by simp [Code.boundCode, hq], rfl, rfl, rfl, rfl, rfl, rfl, rfl, rfl, rfl, rfl, rfl⟩

/-! ### Non-vacuity: concrete non-trivial instances of the hypotheses -/

/-- an agreeing state with two consumers, three pending rows, reached by real operations -/
example : Agree (Code.claim (Code.addPending (Code.addPending (Code.newGroup Quirks.pinned (0, 0)) 1 [(1, 0), (2, 0)]) 2 [(3, 0)])
    2 true [(1, 0)]).1 := by
  rw [← agreeB_iff]; decide
example : IdSorted [(1, 0), (1, 1), (3, 0)] ∧ ∀ x ∈ [((1, 0) : Id), (1, 1), (3, 0)], idLe x (3, 0) = true := by decide
example : ∀ op ∈ [HOp.add (4, 0), .del [(1, 0)], .g (.read 1 none (some 2) false), .g (.ack [(1, 0), (1, 0), (9, 9)]),
    .g (.claim 2 true [(2, 0)]), .g (.delc 1), .g (.read 3 none none false)], op.plainFor Quirks.pinned = true := by decide
example : (Code.run Quirks.pinned (Code.init Quirks.pinned [(1, 0), (2, 0), (3, 0)] (3, 0) (0, 0))
    [.g (.read 1 none (some 2) false), .add (4, 0), .g (.read 2 none none false)]).log =
    [((1, 0), 1), ((2, 0), 1), ((3, 0), 2), ((4, 0), 2)] := by rfl
example : (Code.acknowledge (Code.addPending (Code.newGroup Quirks.pinned (0, 0)) 1 [(1, 0), (2, 0)]) [(1, 0), (1, 0), (9, 9)]).2 = 1 := by rfl

end Ferrous.C16
