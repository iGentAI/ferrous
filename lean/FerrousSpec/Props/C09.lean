/-
  C09 — an RDB snapshot restores exactly the saved dataset.

  Property theorems only; helper lemmas live in FerrousSpec/Proofs/Rdb*.lean.
  Model: FerrousSpec/Model/Rdb.lean — byte-exact transliteration of `RdbWriter` / `write_snapshot`
  (`encSnapshot`) and of `RdbReader::load_into` with the engine calls it makes (`decSnapshot`),
  time as explicit save instant `t` and load instant `t'` in milliseconds.
  Tie to the code: lib/c09.py runs the real `StorageEngine` + `RdbEngine::{save,load}` against this
  model in both directions (real file → `decSnapshot`, `encSnapshot` → real loader, byte equality
  of `encSnapshot (decSnapshot file)` with the real file) and real → real.

  `Fix.code` is the loader of the pinned tree, `Fix.fixed` the loader with the three repairs
  (`dropExpired`: a pair whose deadline has passed at load time is removed again; `keepEmptyStream`:
  a marker-only list re-creates the empty stream; `listEscape`: the loader's half of the escape
  rule).  The third defect — a LIST whose first element is the marker string is read back as a
  stream, because streams are written under the LIST opcode — is repaired inside the format by an
  ESCAPE element: the writer (`saveSnapshot esc`, `saveValue esc` = the byte-level writer
  `encSnapshot` / `encValue` applied to `escDataset esc` / `escValue esc`) puts the string
  `__FERROUS_LIST_ESCAPE__` in front of a genuine list whose first element is the marker or the
  escape string, and the loader drops a first element equal to the escape string and reads what
  follows as a plain list.  With the rule on both sides the theorems hold for ALL lists; for the
  tree without it the marker-headed lists stay an explicit exclusion (`startsWithMarker`), with
  witness lemmas.  "Well-formed" is always "as written" (`valueWF (escValue esc v)`,
  `datasetWF (escDataset esc d)`): every length field the writer emits is below 2^32, the escape
  element included.  lib/c09.py reads both halves of the rule from rdb.rs and sets the switches.
-/
import FerrousSpec.Proofs.RdbSnapshot
import FerrousSpec.Proofs.RdbTotal
namespace Ferrous.C09
open Ferrous Ferrous.Rdb

/-- `read_length (write_length n) = n` for EVERY `n < 2^32`, whatever bytes follow, consuming exactly
    the length field.  The proof splits only where the code does (6-bit / 14-bit / 32-bit form), so
    63/64 and 16383/16384 are ordinary points. -/
theorem decLen_encLen (n : Nat) (h : n < 2 ^ 32) (rest : Bytes) :
    readLen (encLen n ++ rest) = .ok n rest [] :=
  readLen_encLen n h rest

/-- `len as u32`: from 2^32 on the writer stores the length modulo 2^32 — a 4 GiB value or a
    collection of 2^32 elements is silently mis-declared (same for every `n > 16383`, stated in full). -/
theorem decLen_encLen_truncates (n : Nat) (h : 16383 < n) (rest : Bytes) :
    readLen (encLen n ++ rest) = .ok (n % 2 ^ 32) rest [] :=
  readLen_encLen_mod n rest

/-- witness: the bound in `decLen_encLen` is sharp — 2^32 reads back as 0. -/
theorem decLen_encLen_fails_at_two32 :
    readLen (encLen 4294967296) = .ok 0 [] [] ∧ readLen (encLen 4294967296) ≠ .ok 4294967296 [] [] := by
  constructor <;> decide

/-- `read_string (write_string s) = s` for every byte string shorter than 2^32 (arbitrary bytes,
    including the stream marker and bytes that look like opcodes), leaving what followed. -/
theorem decString_encString (s : Bytes) (h : s.length < 2 ^ 32) (rest : Bytes) :
    readString (encString s ++ rest) = .ok s rest [s.length] :=
  readString_encString s h rest

/-- From 2^32 bytes on, only the first `|s| mod 2^32` bytes are read back as the string and the
    remainder of `s` is left in the stream to be parsed as opcodes (stated for every `|s| > 16383`). -/
theorem decString_encString_truncates (s : Bytes) (h : 16383 < s.length) (rest : Bytes) :
    readString (encString s ++ rest) =
      .ok (s.take (s.length % 2 ^ 32)) (s.drop (s.length % 2 ^ 32) ++ rest) [s.length % 2 ^ 32] :=
  readString_encString_mod s rest

/-- `read_key_value_with_type ∘ write_key_value = id` with the repaired writer and loader, for EVERY
    value of every type an engine can hold (strings, lists — also those whose first element is the
    stream marker or the escape string —, sets, hashes, sorted sets with arbitrary 64-bit score
    patterns incl. ±inf/±0/subnormals/NaN payloads, streams incl. the empty stream) with arbitrary
    byte contents and every written size below 2^32: the key comes back with exactly this value and
    deadline, exactly the pair is consumed, the allocations are the string lengths.  No exclusion
    (`dlOk`: the deadline fits signed 64-bit unix milliseconds — the engine refuses any other,
    `StorageEngine::check_ttl`, so no key ever has one: `engine_refuses_unrepresentable_deadline`). -/
theorem decValue_encValue (db : Db) (k : Bytes) (v : Value) (dl : Option Nat) (hd : dlOk dl = true)
    (hk : strOk k = true) (hv : valueWF (escValue true v) = true)
    (hf : k ∉ keys db) (rest : Bytes) :
    loadTyped Fix.fixed true db (typeByte v) dl (encString k ++ (saveValue true v ++ rest)) =
      .ok (k, db ++ [⟨k, v, dl⟩]) rest (k.length :: valueAllocs (escValue true v)) :=
  loadTyped_encKV Fix.fixed db k v dl hd hk hv (Or.inr rfl) (Or.inr rfl) hf rest

/-- The excluded deadlines: the engine call that would set a deadline beyond `i64::MAX` unix milliseconds
    (`set_string_ex` for a string, `expire` for every other type) is refused before anything is stored
    (`StorageEngine::check_ttl`), whatever the database and the key: no reachable dataset holds such a
    deadline, and a (corrupted) file that carries one is refused by the loader. -/
theorem engine_refuses_unrepresentable_deadline (valid : Bool) (db : Db) (k : Bytes) (v : Value) (d : Nat)
    (hd : i64max < d) :
    setValue valid db ⟨k, v, some d⟩ = .error .badExpire ∧ expireOpt valid db k (some d) = .error .badExpire := by
  have h : dlOk (some d) = false := by simp only [dlOk, decide_eq_false_iff_not]; omega
  simp [setValue, expireOpt, expire, h]

/-- The same for writer and loader of the pinned tree (no escape rule: `saveValue false v = encValue v`),
    outside its deviations: a list headed by the marker string, an empty stream. -/
theorem decValue_encValue_partial (db : Db) (k : Bytes) (v : Value) (dl : Option Nat) (hd : dlOk dl = true)
    (hk : strOk k = true) (hv : valueWF v = true) (hm : startsWithMarker v = false)
    (hs : isEmptyStream v = false) (hf : k ∉ keys db) (rest : Bytes) :
    loadTyped Fix.code true db (typeByte v) dl (encString k ++ (encValue v ++ rest)) =
      .ok (k, db ++ [⟨k, v, dl⟩]) rest (k.length :: valueAllocs v) := by
  have h := loadTyped_encKV Fix.code db k v dl hd hk (by simpa using hv) (Or.inl hm) (Or.inl hs) hf rest
  simpa [saveValue] using h

/-- The escape rule alone: ANY loader that knows it (`listEscape`), whatever its other switches,
    reads back EVERY well-formed list written by a writer that applies it. -/
theorem decList_encList (fix : Fix) (hfix : fix.listEscape = true) (db : Db) (k : Bytes) (xs : List Bytes)
    (dl : Option Nat) (hd : dlOk dl = true) (hk : strOk k = true) (hv : valueWF (escValue true (.list xs)) = true)
    (hf : k ∉ keys db) (rest : Bytes) :
    loadTyped fix true db 1 dl (encString k ++ (saveValue true (.list xs) ++ rest)) =
      .ok (k, db ++ [⟨k, .list xs, dl⟩]) rest (k.length :: valueAllocs (escValue true (.list xs))) := by
  have h := loadTyped_list fix db k xs dl hd hk (by rw [hfix]; exact hv) (Or.inr hfix) hf rest
  rwa [hfix] at h

/-- witness (writer WITHOUT the escape rule, every loader): the well-formed LIST
    `[marker, "1-0", "1", "f", "v"]` under key `k` is read back as a STREAM with the entry `1-0 {f: v}`. -/
theorem decValue_fails_marker_list :
    valueWF (.list [marker, [49, 45, 48], [49], [102], [118]]) = true ∧
    ∀ fix : Fix, loadTyped fix true [] 1 none
        (encString [107] ++ encValue (.list [marker, [49, 45, 48], [49], [102], [118]])) =
      .ok ([107], [⟨[107], .stream [⟨1, 0, [([102], [118])]⟩], none⟩]) [] [1, 25, 3, 1, 1, 1] := by
  refine ⟨by decide, ?_⟩
  intro fix
  obtain ⟨a, b, c⟩ := fix
  cases a <;> cases b <;> cases c <;> decide

/-- witness (writer WITHOUT the escape rule): the one-element LIST `[marker]` is lost by the pinned
    loader (no key at all) and comes back as an empty STREAM with a loader that keeps empty streams. -/
theorem decValue_fails_marker_only_list :
    valueWF (.list [marker]) = true ∧
    loadTyped Fix.code true [] 1 none (encString [107] ++ encValue (.list [marker])) = .ok ([107], []) [] [1, 25] ∧
    loadTyped Fix.fixed true [] 1 none (encString [107] ++ encValue (.list [marker])) =
      .ok ([107], [⟨[107], .stream [], none⟩]) [] [1, 25] := by
  refine ⟨by decide, by decide, by decide⟩

/-- witness: an EMPTY stream (what `XADD` + `XDEL` leaves) is lost by the pinned loader — the key
    does not exist after the restart; `decValue_encValue` shows the repaired loader keeps it. -/
theorem decValue_fails_empty_stream :
    valueWF (.stream []) = true ∧ isEmptyStream (.stream []) = true ∧
    loadTyped Fix.code true [] (typeByte (.stream [])) none (encString [107] ++ encValue (.stream [])) =
      .ok ([107], []) [] [1, 25, 26, 1, 3, 0] := by
  refine ⟨by decide, by decide, by decide⟩

/-- What the loader (any switch setting) yields from the output of the writer that agrees with it
    on the escape rule, for EVERY valid dataset (all 16 databases, all six types, arbitrary bytes,
    every written size below 2^32), every save instant `t` and load instant `t'`: `loadedDataset`,
    i.e. key by key — not written if its deadline was before `t`; unchanged (value and deadline) if
    its deadline is after `t'` or it has none; otherwise dropped (`dropExpired`) or kept WITHOUT a
    deadline (pinned tree).  Nothing is left unread, and the checksum/EOF/aux/resize fields are
    consumed.  Marker-headed lists are excluded only without the escape rule, empty streams only
    for a loader that does not keep them. -/
theorem snapshot_load (fix : Fix) (ver : Bytes) (d : Dataset) (t t' : Nat)
    (hver : ver.length < 2 ^ 32) (ht : t < 2 ^ 64) (hwf : datasetWF (escDataset fix.listEscape d) = true)
    (hm : anyEntry (fun e => startsWithMarker e.val) d = false ∨ fix.listEscape = true)
    (hs : anyEntry (fun e => isEmptyStream e.val) d = false ∨ fix.keepEmptyStream = true) :
    decSnapshot fix (saveSnapshot fix.listEscape ver d t) t' = .ok (loadedDataset fix t t' d) :=
  decSnapshot_encSnapshot fix ver d t t' hver ht
    (datasetOk_of_wf fix d hwf hm hs)

/-- THE PROPERTY (repaired writer and loader): SAVE at `t`, restart at `t' ≥ t` yields exactly the
    keys whose deadline has not passed at `t'`, each with the same value (list order — whatever the
    first element —, set members, hash fields, member scores, stream entries with IDs and fields)
    and the same deadline; keys whose deadline passed while the server was down are absent.
    For EVERY dataset that is well-formed as written; no exclusion. -/
theorem snapshot_roundtrip (ver : Bytes) (d : Dataset) (t t' : Nat) (htt : t ≤ t')
    (hver : ver.length < 2 ^ 32) (ht : t < 2 ^ 64) (hwf : datasetWF (escDataset true d) = true) :
    decSnapshot Fix.fixed (saveSnapshot true ver d t) t' = .ok (live t' d) := by
  have h := snapshot_load Fix.fixed ver d t t' hver ht hwf (Or.inr rfl) (Or.inr rfl)
  rw [loadedDataset_eq_live Fix.fixed t t' d htt (Or.inl rfl)] at h
  exact h

/-- The pinned tree (no escape rule: its writer is `encSnapshot`): the same, provided no list is
    headed by the marker string, no key's deadline falls into `[t, t']` and there is no empty stream
    (decidable exclusions `startsWithMarker`, `expiresInDowntime`, `isEmptyStream`). -/
theorem snapshot_roundtrip_partial (ver : Bytes) (d : Dataset) (t t' : Nat) (htt : t ≤ t')
    (hver : ver.length < 2 ^ 32) (ht : t < 2 ^ 64) (hwf : datasetWF d = true)
    (hm : anyEntry (fun e => startsWithMarker e.val) d = false)
    (hs : anyEntry (fun e => isEmptyStream e.val) d = false)
    (hx : anyEntry (expiresInDowntime t t') d = false) :
    decSnapshot Fix.code (encSnapshot ver d t) t' = .ok (live t' d) := by
  have h := snapshot_load Fix.code ver d t t' hver ht (by simpa using hwf) (Or.inl hm) (Or.inl hs)
  rw [loadedDataset_eq_live Fix.code t t' d htt (Or.inr hx)] at h
  simpa using h

/-- The escape rule changes no byte of a dump that holds no list headed by the marker or the escape
    string (`reservedHead`): the files of a writer with and without the rule are equal. -/
theorem snapshot_bytes_unchanged (esc : Bool) (ver : Bytes) (d : Dataset) (t : Nat)
    (h : anyEntry (fun e => reservedHead e.val) d = false) :
    saveSnapshot esc ver d t = encSnapshot ver d t := by
  unfold saveSnapshot
  rw [escDataset_of_no_reserved esc d h]

/-- Hence mixed versions agree on every such dataset: a dump written WITHOUT the rule (an old
    server's `dump.rdb`) is loaded by a loader that knows the rule exactly as before, and a dump
    written WITH the rule is loaded by an old loader exactly as before — for every pair of switch
    settings `esc` (writer) and `fix` (loader). -/
theorem snapshot_load_across_versions (esc : Bool) (fix : Fix) (ver : Bytes) (d : Dataset) (t t' : Nat)
    (hver : ver.length < 2 ^ 32) (ht : t < 2 ^ 64) (hwf : datasetWF d = true)
    (hr : anyEntry (fun e => reservedHead e.val) d = false)
    (hs : anyEntry (fun e => isEmptyStream e.val) d = false ∨ fix.keepEmptyStream = true) :
    decSnapshot fix (saveSnapshot esc ver d t) t' = .ok (loadedDataset fix t t' d) := by
  rw [snapshot_bytes_unchanged esc ver d t hr, ← snapshot_bytes_unchanged fix.listEscape ver d t hr]
  refine snapshot_load fix ver d t t' hver ht ?_ (Or.inl ?_) hs
  · rw [escDataset_of_no_reserved _ d hr]; exact hwf
  · exact anyEntry_eq_false.mpr fun q hq e he =>
      startsWithMarker_le_reservedHead e.val (anyEntry_eq_false.mp hr q hq e he)

/-- witness: `SET k v PX 500` at 1000, SAVE at 1000, restart at 2000.  The property prescribes an
    empty dataset; the pinned loader yields the key WITHOUT a deadline (it never expires). -/
theorem snapshot_roundtrip_fails_expired :
    datasetWF [(0, [⟨[107], .str [118], some 1500⟩])] = true ∧
    live 2000 [(0, [⟨[107], .str [118], some 1500⟩])] = [] ∧
    decSnapshot Fix.code (encSnapshot [48, 46, 49, 46, 48] [(0, [⟨[107], .str [118], some 1500⟩])] 1000) 2000 =
      .ok [(0, [⟨[107], .str [118], none⟩])] := by
  refine ⟨by decide, by decide, ?_⟩
  have h := snapshot_load Fix.code [48, 46, 49, 46, 48] [(0, [⟨[107], .str [118], some 1500⟩])] 1000 2000
    (by decide) (by decide) (by decide) (Or.inl (by decide)) (Or.inl (by decide))
  simp only [Fix.code_listEscape, saveSnapshot_false] at h
  rw [h]
  exact congrArg Except.ok (by decide)

/-- In general (pinned tree): EVERY key whose deadline lies in `[t, t']` comes back immortal. -/
theorem snapshot_expired_becomes_immortal (t t' : Nat) (e : Entry) (d : Nat)
    (hd : e.deadline = some d) (h1 : t ≤ d) (h2 : d ≤ t') :
    loadedEntry Fix.code t t' e = [{ e with deadline := none }] ∧ alive t' e = false := by
  have a : ¬ d < t := by omega
  have b : ¬ t' < d := by omega
  simp [loadedEntry, alive, hd, a, b, Fix.code]

/-- witness: an empty stream in the dataset is missing after the restart (pinned tree). -/
theorem snapshot_roundtrip_fails_empty_stream :
    datasetWF [(3, [⟨[115], .stream [], none⟩])] = true ∧
    live 2000 [(3, [⟨[115], .stream [], none⟩])] = [(3, [⟨[115], .stream [], none⟩])] ∧
    decSnapshot Fix.code (encSnapshot [48, 46, 49, 46, 48] [(3, [⟨[115], .stream [], none⟩])] 1000) 2000 = .ok [] := by
  exact ⟨by decide, by decide, decSnapshot_of_ok (r := []) (al := [9, 5, 5, 1, 1, 25, 26, 1, 3, 0]) (by decide)⟩

/-- witness (writer WITHOUT the escape rule, every loader): the LIST `[marker, "a"]` makes the WHOLE dump unloadable — the entry loop
    breaks at once, leaves `"a"` unread, and the opcode loop then takes its length byte for a type
    byte: the restart restores nothing after that point (here: a 8448-byte string is demanded). -/
theorem snapshot_fails_marker_list_unloadable :
    datasetWF [(0, [⟨[110], .list [marker, [97]], none⟩, ⟨[111], .str [118], none⟩])] = true ∧
    ∀ fix : Fix, decSnapshot fix
        (encSnapshot [48, 46, 49, 46, 48] [(0, [⟨[110], .list [marker, [97]], none⟩, ⟨[111], .str [118], none⟩])] 1000) 2000 =
      .error (.shortString 8448 13) := by
  refine ⟨by decide, fun fix => decSnapshot_of_err (al := [9, 5, 5, 1, 1, 25]) ?_⟩
  obtain ⟨a, b, c⟩ := fix
  cases a <;> cases b <;> cases c <;> decide

/-- witness (mixed versions): the dump of a writer WITH the rule read by the pinned loader — the list
    `[marker, "a"]` comes back as `[escape, marker, "a"]`: one odd extra element in exactly the lists
    the rule touches, the rest of the dump is unharmed (compare `snapshot_fails_marker_list_unloadable`);
    and an escape-headed list written WITHOUT the rule loses that element in a loader that knows it. -/
theorem snapshot_mixed_versions_one_extra_element :
    decSnapshot Fix.code
        (saveSnapshot true [48, 46, 49, 46, 48] [(0, [⟨[110], .list [marker, [97]], none⟩, ⟨[111], .str [118], none⟩])] 1000) 2000 =
      .ok [(0, [⟨[110], .list [escape, marker, [97]], none⟩, ⟨[111], .str [118], none⟩])] ∧
    decSnapshot Fix.fixed
        (saveSnapshot false [48, 46, 49, 46, 48] [(0, [⟨[110], .list [escape, [97]], none⟩, ⟨[111], .str [118], none⟩])] 1000) 2000 =
      .ok [(0, [⟨[110], .list [[97]], none⟩, ⟨[111], .str [118], none⟩])] := by
  constructor
  · -- the dump written with the rule is the plain dump of the escaped dataset, which the pinned loader reads as it stands
    have h := snapshot_load Fix.code [48, 46, 49, 46, 48]
      [(0, [⟨[110], .list [escape, marker, [97]], none⟩, ⟨[111], .str [118], none⟩])] 1000 2000
      (by decide) (by decide) (by decide) (Or.inl (by decide)) (Or.inl (by decide))
    exact h.trans (congrArg Except.ok (by decide))
  · exact decSnapshot_of_ok (r := []) (al := [9, 5, 5, 1, 1, 23, 1, 1, 1]) (by decide)

/-- The loader model is total for the right reason: on EVERY byte string (not only on files the
    writer produced) `decSnapshot` answers with a dataset or with one of the loader's own errors —
    the recursion budgets of the model (`input length + 1`) are never what stops it. -/
theorem decSnapshot_total (fix : Fix) (bs : Bytes) (now : Nat) :
    (∃ d, decSnapshot fix bs now = .ok d) ∨ (∃ e, decSnapshot fix bs now = .error e ∧ e ≠ .fuel) :=
  decSnapshot_never_fuel fix bs now

/-- For C10: on a valid file the loader's allocations are exactly the string lengths, in file
    order — in particular each is bounded by the bytes that follow its length field. -/
theorem snapshot_allocs (fix : Fix) (ver : Bytes) (d : Dataset) (t t' : Nat)
    (hver : ver.length < 2 ^ 32) (ht : t < 2 ^ 64) (hwf : datasetWF (escDataset fix.listEscape d) = true)
    (hm : anyEntry (fun e => startsWithMarker e.val) d = false ∨ fix.listEscape = true)
    (hs : anyEntry (fun e => isEmptyStream e.val) d = false ∨ fix.keepEmptyStream = true) :
    allocTrace fix (saveSnapshot fix.listEscape ver d t) t' = snapshotAllocs ver (escDataset fix.listEscape d) t := by
  unfold allocTrace
  rw [decSnapshotT_encSnapshot fix ver d t t' hver ht
    (datasetOk_of_wf fix d hwf hm hs)]
  rfl

/-- witness for C10: a length field is turned into an allocation before any byte of the string is
    read — 15 bytes make the loader allocate 4 294 967 295 bytes. -/
theorem alloc_from_length_field_unbounded :
    decSnapshotT Fix.code (header ++ [250, 128, 255, 255, 255, 255]) 0 = .err (.shortString 4294967295 0) [] ∧
    allocTrace Fix.code (header ++ [250, 128, 255, 255, 255, 255]) 0 = [4294967295] := by decide

/-! ### Non-vacuity: a dataset with all six types, two databases, TTLs on both sides of the downtime -/

def sample : Dataset :=
  [ (0, [ ⟨[107, 49], .str [1, 2, 255, 0], none⟩,
          ⟨[107, 50], .list [[97], [], marker], some 5000⟩,
          ⟨[107, 51], .set [[97], [98], []], none⟩,
          ⟨[107, 52], .hash [([102], [118]), ([103], [])], some 1500⟩,
          ⟨[107, 53], .zset [([109], 0x7FF0000000000000), ([110], 0xFFF0000000000000), ([], 0x8000000000000000)], none⟩,
          ⟨[107, 54], .stream [⟨5, 7, [([102], [118])]⟩, ⟨9, 0, [([97], [98]), ([99], [100])]⟩], some 2001⟩ ]),
    (15, [ ⟨[], .str marker, some 900⟩, ⟨marker, .set [marker], none⟩ ]) ]

example : datasetWF sample = true := by decide
example : anyEntry (fun e => startsWithMarker e.val) sample = false := by decide
example : anyEntry (fun e => isEmptyStream e.val) sample = false := by decide
/-- the downtime [1000, 2000] contains the deadline 1500 of `k4`: the exclusion of `_partial` is
    violated by `sample`, satisfied for the downtime [1000, 1400] -/
example : anyEntry (expiresInDowntime 1000 2000) sample = true := by decide
example : anyEntry (expiresInDowntime 1000 1400) sample = false := by decide
/-- `live` drops `k4` (1500 ≤ 2000) and the key saved with deadline 900; database 15 keeps one key -/
example : (live 2000 sample).map (fun p => (p.1, p.2.map (·.key))) =
    [(0, [[107, 49], [107, 50], [107, 51], [107, 53], [107, 54]]), (15, [marker])] := by decide
/-- the hypotheses of the value theorems: a 3-element list, stored next to another key -/
example : strOk [107] = true ∧ valueWF (.list [[97], [], marker]) = true ∧ valueWF (escValue true (.list [[97], [], marker])) = true ∧
    startsWithMarker (.list [[97], [], marker]) = false ∧ [107] ∉ keys [⟨[108], .str [], none⟩] := by decide

/-- the lists the escape rule is about — headed by the marker, by the escape, by both, alone or with
    a tail that looks like a stream entry —, in two databases, with TTLs, next to a real stream with
    the same contents, the empty stream and an expired key -/
def reserved : Dataset :=
  [ (0, [ ⟨[97], .list [marker], none⟩,
          ⟨[98], .list [marker, [97]], some 5000⟩,
          ⟨[99], .list [marker, [49, 45, 48], [49], [102], [118]], none⟩,
          ⟨[100], .stream [⟨1, 0, [([102], [118])]⟩], some 5000⟩,
          ⟨[101], .stream [], none⟩,
          ⟨[102], .list [escape], some 1500⟩ ]),
    (7, [ ⟨[97], .list [escape, marker], some 5000⟩,
          ⟨[98], .list [escape, escape, marker, [97]], none⟩,
          ⟨[99], .list [marker, escape], none⟩,
          ⟨marker, .list [[97], marker, escape], none⟩,
          ⟨escape, .set [escape, marker], none⟩ ]) ]

example : datasetWF (escDataset true reserved) = true := by decide
example : anyEntry (fun e => startsWithMarker e.val) reserved = true ∧ anyEntry (fun e => reservedHead e.val) reserved = true := by decide
/-- what the writer with the rule puts under the LIST opcode -/
example : (escDataset true reserved).map (fun p => p.2.map fun e => e.val) =
    [ [ .list [escape, marker], .list [escape, marker, [97]], .list [escape, marker, [49, 45, 48], [49], [102], [118]],
        .stream [⟨1, 0, [([102], [118])]⟩], .stream [], .list [escape, escape] ],
      [ .list [escape, escape, marker], .list [escape, escape, escape, marker, [97]], .list [escape, marker, escape],
        .list [[97], marker, escape], .set [escape, marker] ] ] := by decide
/-- the full statement applies to it: everything comes back but the key whose deadline (1500) passed -/
example : decSnapshot Fix.fixed (saveSnapshot true [48, 46, 49, 46, 48] reserved 1000) 2000 = .ok (live 2000 reserved) :=
  snapshot_roundtrip _ reserved 1000 2000 (by decide) (by decide) (by decide) (by decide)
example : (live 2000 reserved).map (fun p => (p.1, p.2.length)) = [(0, 5), (7, 5)] := by decide
/-- one value: `[marker]`, which the pinned tree loses (`decValue_fails_marker_only_list`) -/
example : loadTyped Fix.fixed true [] 1 none (encString [107] ++ (saveValue true (.list [marker]) ++ [255])) =
    .ok ([107], [⟨[107], .list [marker], none⟩]) [255] [1, 23, 25] :=
  decValue_encValue [] [107] (.list [marker]) none rfl (by decide) (by decide) (by decide) [255]
/-- `sample` holds no such list: its dump is the same with and without the rule, for every loader -/
example : anyEntry (fun e => reservedHead e.val) sample = false := by decide
/-- the boundary lengths are instances of the general length theorem -/
example : readLen (encLen 63 ++ [9]) = .ok 63 [9] [] := decLen_encLen 63 (by decide) [9]
example : readLen (encLen 64 ++ [9]) = .ok 64 [9] [] := decLen_encLen 64 (by decide) [9]
example : readLen (encLen 16383 ++ [9]) = .ok 16383 [9] [] := decLen_encLen 16383 (by decide) [9]
example : readLen (encLen 16384 ++ [9]) = .ok 16384 [9] [] := decLen_encLen 16384 (by decide) [9]
example : encLen 63 = [63] ∧ encLen 64 = [64, 64] ∧ encLen 16383 = [127, 255] ∧ encLen 16384 = [128, 0, 0, 64, 0] := by decide
/-- what else `read_length` accepts: non-minimal forms, any low six bits in the 32-bit form; `0xC0…` is refused -/
example : readLen [64, 5] = .ok 5 [] [] ∧ readLen [191, 0, 0, 0, 5] = .ok 5 [] [] ∧ readLen [192] = .err .badLength [] := by decide

end Ferrous.C09
