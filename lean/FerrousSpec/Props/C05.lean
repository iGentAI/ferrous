/-
  C05 — every request gets exactly one reply, in order, and errors are replies.

  Model: Model/Conn.lean (the three-phase connection loop of Server::process_connection over the
  incremental parser of Model/Resp.lean; command handlers are a parameter).  Property theorems only.
-/
import FerrousSpec.Proofs.ConnLoop
import FerrousSpec.Proofs.WriteBuf
import FerrousSpec.Props.C20
namespace Ferrous.C05
open Ferrous Ferrous.Conn

variable {σ : Type}

theorem whole_stream_events (cmds : List Frame) (hc : ∀ f ∈ cmds, isCmd f = true) :
    runWhole true (serList cmds) = cmds.map Ev.frame := by
  rw [← List.append_nil (serList cmds), runWhole_cmds cmds hc [] rfl]
  exact List.append_nil _

/-- (1) **Exactly one reply per request, in order, however the bytes are segmented.**
    For every pipeline of command frames, every handler `h`, every start state and EVERY way of
    cutting the request bytes into reads (`cs.flatten = serList cmds`: one byte at a time, many
    commands per read, cuts inside CRLF …), the connection loop emits exactly the replies of
    executing the commands one after another — same number, same order, same content —, ends in
    the same state, and keeps the connection open. -/
theorem one_reply_per_request (h : σ → Frame → σ × Frame) (s : σ) (cmds : List Frame)
    (hc : ∀ f ∈ cmds, isCmd f = true) (cs : List Bytes) (hcs : cs.flatten = serList cmds) :
    (connRun h s [] cs).replies = (execAll h s cmds).2 ∧
    (connRun h s [] cs).replies.length = cmds.length ∧
    (connRun h s [] cs).state = (execAll h s cmds).1 ∧
    (connRun h s [] cs).closed = false := by
  have hev : runChunks true [] cs = cmds.map Ev.frame ++ [] := by
    rw [C20.chunking_independent cs, hcs, whole_stream_events cmds hc, List.append_nil]
  rw [connRun_frames_then h s [] cs cmds [] hev]
  refine ⟨List.append_nil _, ?_, rfl, rfl⟩
  rw [List.length_append, execAll_length]
  rfl

/-- (2) **A frame that violates the protocol is answered with an error instead of silence**, after the
    replies to the commands that preceded it, and the connection is closed — for every segmentation.
    `bad` is any byte string on which the parser reports an error at once (e.g. an invalid type byte). -/
theorem protocol_error_answered (h : σ → Frame → σ × Frame) (s : σ) (cmds : List Frame)
    (hc : ∀ f ∈ cmds, isCmd f = true) (bad : Bytes)
    (hbad : (drain true bad).1 = [Ev.err]) (hnl : bad.dropWhile isNl = bad)
    (cs : List Bytes) (hcs : cs.flatten = serList cmds ++ bad) :
    (connRun h s [] cs).replies = (execAll h s cmds).2 ++ [protoErr] ∧
    (connRun h s [] cs).closed = true := by
  have hev : runChunks true [] cs = cmds.map Ev.frame ++ [Ev.err] := by
    rw [C20.chunking_independent cs, hcs, runWhole_cmds cmds hc bad hnl]
    exact congrArg _ hbad
  rw [connRun_frames_then h s [] cs cmds [Ev.err] hev]
  exact ⟨rfl, rfl⟩

/-- (3) **Request content cannot change the framing of replies.**  An error reply (or a simple
    string) frames correctly whatever bytes its text carries — e.g. a command name with CR/LF echoed
    in "unknown command '…'": the client parses exactly one frame and then exactly what follows. -/
theorem error_reply_frames (text rest : Bytes) :
    parseBytes (ser (.error text) ++ rest) = .ok (.error (sanitizeLine text)) rest ∧
    parseBytes (ser (.simple text) ++ rest) = .ok (.simple (sanitizeLine text)) rest :=
  C20.line_replies_always_frame text rest

/-- Bulk replies carry arbitrary bytes (CR/LF, NUL …) and frame by length. -/
theorem bulk_reply_frames (b rest : Bytes) (hlen : b.length ≤ 9223372036854775807) :
    parseBytes (ser (.bulk b) ++ rest) = .ok (.bulk b) rest :=
  C20.roundtrip (.bulk b) (by simp [wf, hlen]) (by simp [Frame.depth]) rest

/-- A whole reply stream of well-formed frames parses back, under any segmentation on the client
    side, to exactly those frames: `n` requests ⇒ the client reads `n` replies. -/
theorem reply_stream_parses_back (replies : List Frame) (hw : ∀ f ∈ replies, isCmd f = true) (cs : List Bytes)
    (hcs : cs.flatten = serList replies) :
    runChunks true [] cs = replies.map Ev.frame := by
  rw [C20.chunking_independent cs, hcs, whole_stream_events replies hw]

/-- (4) **Every reply byte goes out exactly once, in order, however the socket accepts them.**  For EVERY
    history of replies appended to the connection's write buffer and `write` calls in which the socket
    takes any number of bytes (none when it would block, a part, everything), starting from an empty
    buffer: the bytes put on the wire followed by those still pending are exactly the bytes of all replies
    in order — nothing lost, nothing sent twice, nothing out of order; and `has_pending_writes` is false
    exactly when everything has gone out.  (`Connection::flush`, `send_frame`, `send_raw`.) -/
theorem write_path_delivers_exactly (evs : List WBuf.Ev) :
    (WBuf.run true {} evs).2 ++ WBuf.pending (WBuf.run true {} evs).1 = WBuf.sent evs :=
  (WBuf.run_conserves evs {} (Nat.le_refl 0)).1

/-- … in particular once nothing is pending the client has received every reply byte. -/
theorem write_path_complete_when_drained (evs : List WBuf.Ev) (h : WBuf.pending (WBuf.run true {} evs).1 = []) :
    (WBuf.run true {} evs).2 = WBuf.sent evs := by
  have := write_path_delivers_exactly evs
  rw [h, List.append_nil] at this
  exact this

/-- TIE: the bookkeeping of `Connection::flush` as the translator reads it from connection.rs on this run is the
    modelled one (the unsent suffix is handed to the socket, the offset ADVANCES by what was accepted, the buffer
    is cleared only when everything went out, replies are appended), and a socket that takes no more right now
    (`WouldBlock`, the model's `write 0`) is not a failure: the rest stays pending (since 679ef7c; before, the
    connection was closed after 100 ms and the replies were lost). -/
theorem tree_write_path : Gen.writeOffsetAdvances = true ∧ Gen.wouldBlockKeepsPending = true := by decide

/-- Why the `+=` matters: with the offset ASSIGNED (`write_offset = n`) a reply that needs three partial writes
    repeats bytes on the wire — the client would read garbage after a large reply. -/
theorem write_path_fails_if_offset_assigned :
    (WBuf.run false {} [.send [1, 2, 3, 4], .write 1, .write 1, .write 1]).2 = [1, 2, 2] ∧
    WBuf.sent [.send [1, 2, 3, 4], .write 1, .write 1, .write 1] = [1, 2, 3, 4] := by decide

/-! ### Non-vacuity -/
example : (WBuf.run true {} [.send [1, 2, 3], .write 0, .write 2, .send [4], .write 1, .write 5]).2 = [1, 2, 3, 4] ∧
    WBuf.pending (WBuf.run true {} [.send [1, 2, 3], .write 0, .write 2, .send [4], .write 1, .write 5]).1 = [] := by decide
example : isCmd (.array [.bulk [71, 69, 84], .bulk [107, 13, 10]]) = true := by decide
example : (drain true [63, 13, 10]).1 = [Ev.err] ∧ ([63, 13, 10] : Bytes).dropWhile isNl = [63, 13, 10] := by
  constructor <;> rfl
example : (connRun (fun (n : Nat) _ => (n + 1, Frame.int n)) 0 []
    [[42, 49, 13], [10, 36, 49, 13, 10, 97, 13, 10, 42, 49, 13, 10, 36, 49, 13, 10], [98, 13, 10]]).replies
    = [.int 0, .int 1] := by rfl

end Ferrous.C05
