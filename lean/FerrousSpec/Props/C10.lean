/-
  C10 — the dump on disk is always complete, loadable and per-key consistent.

  Property theorems only; helper lemmas live in FerrousSpec/Proofs/RdbSave*.lean and Rdb*.lean.
  Model: FerrousSpec/Model/RdbSave.lean on top of Model/Rdb.lean (the codec of C09):
    (i)   `cSnapshot` = the `write_raw` calls of one save, `Sys`/`run` = two file names, inodes, save
          runs that open/write/rename, the `bgsave_in_progress` flag; switch `exclusive` (SAVE refuses
          during a background save); `SysL`/`runL` = the same files with the save lock that every saver
          (SAVE, BGSAVE, auto-save, SHUTDOWN) waits for;
    (ii)  `krun` = the save loop seen from one key, read step by read step, interleaved with client
          commands; switch `atomic` (value, TTL and sorted-set members read under one lock);
    (iii) `loaderAllocs` = the loader's allocations; switch `bounded` (`read_string` reads in chunks).
  Tie to the code: lib/c10.py reads the switches off rdb.rs / server.rs and drives the real server
  over TCP with the `VERIF` hooks (fail the n-th write for every n, park BGSAVE between its reads,
  SAVE during a parked BGSAVE) and the real loader in-process on every prefix / corruption, against
  these models.
-/
import FerrousSpec.Proofs.RdbSaveCodec
import FerrousSpec.Proofs.RdbSaveFs
import FerrousSpec.Proofs.RdbSaveKey
import FerrousSpec.Proofs.RdbSnapshot
import FerrousSpec.Proofs.RdbTotal
namespace Ferrous.C10
open Ferrous Ferrous.Rdb Ferrous.RdbSave

/-! ### (1) a save is a sequence of write calls; a failure at any of them -/

/-- The `write_raw` calls of a complete save concatenate to exactly the snapshot of C09, so a
    completed run leaves a file for which every C09 theorem (loadable, round trip) holds. -/
theorem save_calls_are_the_snapshot (ver : Bytes) (d : Dataset) (t : Nat) :
    (cSnapshot ver d t).flatten = encSnapshot ver d t :=
  cSnapshot_flatten ver d t

/-- A save (SAVE: `bg = false`, BGSAVE/auto-save: `bg = true`) that fails at its `n`-th write call —
    for EVERY sequence of calls, EVERY `n`, EVERY previous content of the two files: the dump name
    still holds exactly what it held (or is still absent), the tmp file holds the bytes of the
    calls before the failing one, no save is running, the flag is clear; and ANY following save
    that is not made to fail leaves exactly its own bytes under the dump name. -/
theorem failed_save_keeps_old_dump (x bg : Bool) (s : Sys) (hidle : s.procs = []) (hflag : s.flag = false)
    (hn : NamesOK s.fs) (chunks : List Bytes) (n : Nat) (h1 : 1 ≤ n) (h2 : n ≤ chunks.length) :
    let s1 := run x s (startEv bg ⟨chunks, some n⟩ :: soloEvents chunks.length)
    dumpContent s1.fs = dumpContent s.fs ∧
    tmpContent s1.fs = some (chunks.take (n - 1)).flatten ∧
    s1.procs = [] ∧ s1.flag = false ∧ s1.log = .failed :: s.log ∧
    ∀ (bg' : Bool) (chunks' : List Bytes),
      dumpContent (run x s1 (startEv bg' ⟨chunks', none⟩ :: soloEvents chunks'.length)).fs = some chunks'.flatten := by
  intro s1
  rw [show s1 = _ from saveRun_fail x bg s hidle hflag chunks n h1 h2]
  refine ⟨hn.dumpContent_tmpfile _, tmpContent_set (opened_tmp s.fs) _, rfl, rfl, rfl, fun bg' chunks' => ?_⟩
  rw [saveRun_ok x bg' _ rfl rfl chunks']
  exact congrArg some (set_data_same ..)

/-- … in particular the save after a failure writes the complete snapshot of the dataset it sees,
    and that file loads back (C09) — for every well-formed dataset.  (`escDataset`: the dataset as the
    writer sees it under C09's escape rule for lists headed by the stream marker; the identity without
    the rule, and then such lists are excluded as in C09.) -/
theorem save_after_failure_is_loadable (x bg bg' : Bool) (old : Option Bytes) (chunks : List Bytes) (n : Nat)
    (h1 : 1 ≤ n) (h2 : n ≤ chunks.length) (fix : Fix) (ver : Bytes) (d : Dataset) (t t' : Nat)
    (hver : ver.length < 2 ^ 32) (ht : t < 2 ^ 64) (hwf : datasetWF (escDataset fix.listEscape d) = true)
    (hm : anyEntry (fun e => startsWithMarker e.val) d = false ∨ fix.listEscape = true)
    (hs : anyEntry (fun e => isEmptyStream e.val) d = false ∨ fix.keepEmptyStream = true) :
    let w := escDataset fix.listEscape d
    let s1 := run x (initSys old) (startEv bg ⟨chunks, some n⟩ :: soloEvents chunks.length)
    let s2 := run x s1 (startEv bg' ⟨cSnapshot ver w t, none⟩ :: soloEvents (cSnapshot ver w t).length)
    dumpContent s1.fs = old ∧
    dumpContent s2.fs = some (saveSnapshot fix.listEscape ver d t) ∧
    decSnapshot fix (saveSnapshot fix.listEscape ver d t) t' = .ok (loadedDataset fix t t' d) := by
  intro w s1 s2
  have hinit : (initSys old).procs = [] ∧ (initSys old).flag = false := by cases old <;> exact ⟨rfl, rfl⟩
  have h := failed_save_keeps_old_dump x bg (initSys old) hinit.1 hinit.2 (namesOK_init old) chunks n h1 h2
  refine ⟨h.1.trans (dumpContent_init old), ?_, ?_⟩
  · exact (h.2.2.2.2.2 bg' (cSnapshot ver w t)).trans (congrArg some (cSnapshot_flatten ver w t))
  · exact decSnapshot_encSnapshot fix ver d t t' hver ht (datasetOk_of_wf fix d hwf hm hs)

set_option linter.unusedVariables false in
/-- The in-progress flag is cleared on BOTH outcomes of a background save (a panic inside the thread
    is outside the model), it is set while the run is under way, and a second BGSAVE is refused
    while it is set. -/
theorem bgsave_flag_cleared (x : Bool) (s : Sys) (hidle : s.procs = []) (hflag : s.flag = false) (hn : NamesOK s.fs)
    (chunks : List Bytes) :
    (run x s (.startBgsave ⟨chunks, none⟩ :: soloEvents chunks.length)).flag = false ∧
    (∀ n, 1 ≤ n → n ≤ chunks.length →
      (run x s (.startBgsave ⟨chunks, some n⟩ :: soloEvents chunks.length)).flag = false) ∧
    (∀ fa, (run x s [.startBgsave ⟨chunks, fa⟩, .step 0]).flag = true) ∧
    (∀ fa j, (run x s [.startBgsave ⟨chunks, fa⟩, .startBgsave j]).log = .refused :: s.log ∧
             (run x s [.startBgsave ⟨chunks, fa⟩, .startBgsave j]).procs.length = 1) := by
  refine ⟨congrArg Sys.flag (saveRun_ok x true s hidle hflag chunks), fun n h1 h2 => ?_, fun fa => ?_, fun fa j => ?_⟩
  · exact congrArg Sys.flag (saveRun_fail x true s hidle hflag chunks n h1 h2)
  · exact congrArg Sys.flag (start_open x s true ⟨chunks, fa⟩ hidle hflag)
  · simp [run, step, hidle, hflag, mkProc]

/-- THE INVARIANT: whatever saves (SAVE, BGSAVE, auto-save) are started, whichever of their writes
    fail, however their file operations are scheduled — at EVERY instant the dump name is absent or
    holds a file that some completed save wrote in full (or the initial one).  `Good` is any
    predicate satisfied by the initial dump and by the complete output of every save in the
    schedule, e.g. "is `encSnapshot` of some dataset".  Server with the repair (`exclusive`). -/
theorem dump_always_complete_or_absent (Good : Bytes → Prop) (old : Option Bytes) (evs : List Ev)
    (hold : ∀ b, old = some b → Good b) (hjobs : jobsGood Good evs) :
    ∀ b, dumpContent (run true (initSys old) evs).fs = some b → Good b :=
  (inv_run evs (initSys old) (inv_init Good old hold) hjobs).dumpContent_good

/-- The same for the server before 8728a37 (SAVE does not test the flag), provided no SAVE is issued
    while the in-progress flag is set (decidable on the schedule). -/
theorem dump_always_complete_or_absent_partial (Good : Bytes → Prop) (old : Option Bytes) (evs : List Ev)
    (hold : ∀ b, old = some b → Good b) (hjobs : jobsGood Good evs)
    (hx : noSaveDuringBgsave false (initSys old) evs = true) :
    ∀ b, dumpContent (run false (initSys old) evs).fs = some b → Good b := by
  rw [run_eq_exclusive false evs _ hx]
  exact dump_always_complete_or_absent Good old evs hold hjobs

/-- witness (the server before 8728a37): BGSAVE opens the tmp file, SAVE opens the SAME
    file (truncating it), writes, renames it over the dump and answers OK; then the background run
    writes its own bytes at its own offset into what is now the dump, and its rename fails.
    The dump ends up as a mix (`[1,2,3,9,9]`) that neither save wrote.  With the repair the SAVE is
    refused and the dump is the background save's complete file. -/
theorem concurrent_save_safe_fails :
    let evs : List Ev := [.startBgsave ⟨[[1, 2, 3]], none⟩, .step 0, .startSave ⟨[[9, 9, 9, 9, 9]], none⟩,
      .step 1, .step 1, .step 1, .step 0, .step 0]
    dumpContent (run false (initSys none) evs).fs = some [1, 2, 3, 9, 9] ∧
    (run false (initSys none) evs).log = [.failed, .saved] ∧
    noSaveDuringBgsave false (initSys none) evs = false ∧
    dumpContent (run true (initSys none) evs).fs = some [1, 2, 3] ∧
    (run true (initSys none) evs).log = [.saved, .refused] := by
  refine ⟨by decide, by decide, by decide, by decide, by decide⟩

/-- THE INVARIANT for EVERY saver the server has, with the save lock of b09a77b: SAVE, BGSAVE, the
    auto-save thread calling `bgsave` at any moment (also in the middle of a SAVE, which the flag does
    not prevent), and SHUTDOWN's save (which looks at no flag at all).  Savers wait for the lock in any
    number and get the lock in any order; whichever of their writes fail — at EVERY instant the dump
    name is absent or holds a file that some completed save wrote in full (or the initial one).
    No hypothesis on the schedule. -/
theorem dump_always_complete_or_absent_locked (Good : Bytes → Prop) (old : Option Bytes) (evs : List EvL)
    (hold : ∀ b, old = some b → Good b) (hjobs : jobsGoodL Good evs) :
    ∀ b, dumpContent (runL (initSysL old) evs).core.fs = some b → Good b :=
  (invL_run evs (initSysL old) (invL_init Good old hold) hjobs).core.dumpContent_good

/-- non-vacuity, and the schedule of `concurrent_save_safe_fails` with the lock: a background save has
    opened the temporary file; SHUTDOWN's save is started, cannot get the lock while the lock is held
    (`grant` changes nothing), the background save completes, then the second save runs alone: both
    succeed and the dump is the second one's complete file. -/
example :
    let evs : List EvL := [.bgsave ⟨[[1, 2, 3]], none⟩, .grant 0, .step, .shutdown ⟨[[9, 9, 9, 9, 9]], none⟩,
      .grant 0, .step, .step, .grant 0, .step, .step, .step]
    dumpContent (runL (initSysL none) evs).core.fs = some [9, 9, 9, 9, 9] ∧
    (runL (initSysL none) evs).core.log = [.saved, .saved] ∧ (runL (initSysL none) evs).flag = false ∧
    dumpContent (runL (initSysL none) (evs.take 7)).core.fs = some [1, 2, 3] := by
  refine ⟨by decide, by decide, by decide, by decide⟩

/-! ### (2) a snapshot taken while clients keep writing -/

/-- `per_key_consistent`, with value, TTL and sorted-set members read under one lock: for EVERY
    initial state of the key and EVERY interleaving of the saver's step with client commands
    (grow, shrink, delete, expire, replace, PERSIST, in-place sorted-set changes …), what the saver
    wrote for the key — value, declared length, deadline — is the key's state at ONE instant of
    the save. -/
theorem per_key_consistent (itemsFirst : Bool) (st : KeyState) (evs : List KEv) (r : Rec)
    (h : (krun true itemsFirst (kinit st) evs).phase = .done (some r)) :
    r.consistent (krun true itemsFirst (kinit st) evs).hist :=
  consistent_of_undisturbed true itemsFirst st evs r h (undisturbed_of_atomic itemsFirst st evs)

/-- The save loop before 72caded (four separate reads): the same, for EVERY interleaving in which no
    command on the key runs between the saver's first and last read of it (decidable: `disturbed`). -/
theorem per_key_consistent_partial (itemsFirst : Bool) (st : KeyState) (evs : List KEv) (r : Rec)
    (h : (krun false itemsFirst (kinit st) evs).phase = .done (some r))
    (hq : (krun false itemsFirst (kinit st) evs).disturbed = false) :
    r.consistent (krun false itemsFirst (kinit st) evs).hist :=
  consistent_of_undisturbed false itemsFirst st evs r h hq

/-- With the sorted-set items materialised before their number is written (the smaller repair), for
    EVERY interleaving the declared length equals the number of items written: the length/items
    mismatch that makes a dump unloadable cannot occur (the value/TTL mismatch still can). -/
theorem zset_length_matches_items (atomic : Bool) (st : KeyState) (evs : List KEv) (r : Rec)
    (h : (krun atomic true (kinit st) evs).phase = .done (some r)) :
    r.zlen = (if isZset r.val then some (zitems r.val).length else none) :=
  (lenOK_run atomic st evs).done h

/-- A consistent record is written as exactly the pair C09's writer emits for that state, so a dump
    holding it is `encSnapshot` of a dataset (and loads back, C09). -/
theorem consistent_record_is_a_snapshot (ver : Bytes) (t db : Nat) (k : Bytes) (r : Rec) (hist : List KeyState)
    (hc : r.consistent hist) (ht : ∀ d, r.ttl = some d → t ≤ d) :
    fileOf ver t db (recBytes t k r) = encSnapshot ver [(db, [⟨k, r.val, r.ttl⟩])] t := by
  rw [recBytes_eq_encEntry t k r hc.2 ht, fileOf_eq_encSnapshot]

/-- witness: `SET k v1 PX …` (deadline 5000); the saver reads the value; a client runs `SET k v2`
    (no TTL); the saver reads the TTL.  Written: `(v1, no TTL)` — a state the key never had. -/
theorem per_key_consistent_fails_ttl :
    let m := krun false false (kinit (some (.str [118, 49], some 5000)))
      [.saver, .cmd (.set (.str [118, 50]) none), .saver]
    m.phase = .done (some ⟨.str [118, 49], none, none⟩) ∧
    m.hist = [some (.str [118, 50], none), some (.str [118, 49], some 5000)] ∧
    ¬ (⟨.str [118, 49], none, none⟩ : Rec).consistent m.hist ∧ m.disturbed = true := by
  refine ⟨by decide, by decide, by decide, by decide⟩

/-- witness: sorted set `{a, b, c}`; the saver writes the length 3; a client runs `ZREM z c`; the
    saver gets 2 items.  The record declares 3 members and holds 2 — and the resulting file is
    UNLOADABLE: the loader takes the EOF opcode for the third member's length byte
    (`0xFF >> 6 = 3`: invalid length encoding). -/
theorem per_key_consistent_fails_zset_unloadable :
    let m := krun false false (kinit (some (.zset [([97], 1), ([98], 2), ([99], 3)], none)))
      [.saver, .saver, .saver, .cmd (.zmutate [([97], 1), ([98], 2)]), .saver]
    m.phase = .done (some ⟨.zset [([97], 1), ([98], 2)], some 3, none⟩) ∧
    ¬ (⟨.zset [([97], 1), ([98], 2)], some 3, none⟩ : Rec).consistent m.hist ∧
    ∀ fix : Fix, decSnapshot fix
      (fileOf [48, 46, 49, 46, 48] 1000 0 (recBytes 1000 [122] ⟨.zset [([97], 1), ([98], 2)], some 3, none⟩)) 2000 =
        .error .badLength := by
  refine ⟨by decide, by decide, fun fix => decSnapshot_of_err (al := [9, 5, 5, 1, 1, 1, 1]) ?_⟩
  obtain ⟨a, b, c⟩ := fix
  cases a <;> cases b <;> cases c <;> decide

/-- witness: the saver writes the length 2 of `{a, b}`; a client adds `0` (rank 0); the saver gets the
    first two members by rank, `{0, a}` — loadable, but a set the key never held. -/
theorem per_key_consistent_fails_zset_grow :
    let m := krun false false (kinit (some (.zset [([97], 1), ([98], 2)], none)))
      [.saver, .saver, .saver, .cmd (.zmutate [([48], 0), ([97], 1), ([98], 2)]), .saver]
    m.phase = .done (some ⟨.zset [([48], 0), ([97], 1)], some 2, none⟩) ∧
    ¬ (⟨.zset [([48], 0), ([97], 1)], some 2, none⟩ : Rec).consistent m.hist := by
  refine ⟨by decide, by decide⟩

/-! ### (3) loading arbitrary bytes -/

/-- `loader_total`: on EVERY byte string the loader model answers with a dataset or with one of the
    loader's own errors (never because of the model's recursion budget), … -/
theorem loader_total (fix : Fix) (bs : Bytes) (now : Nat) :
    (∃ d, decSnapshot fix bs now = .ok d) ∨ (∃ e, decSnapshot fix bs now = .error e ∧ e ≠ .fuel) :=
  decSnapshot_never_fuel fix bs now

/-- … and never reads past the end of the file. -/
theorem loader_consumes_at_most_input (fix : Fix) (bs : Bytes) (now : Nat) (s : Store) (r : Bytes) (al : List Nat)
    (h : decSnapshotT fix bs now = .ok s r al) : r.length ≤ bs.length :=
  decSnapshotT_rest_le fix bs now s r al h

/-- `loader_alloc_bounded`, with `read_string` reading in bounded chunks: for EVERY byte string,
    every buffer the loader obtains for a length field is at most as large as the file. -/
theorem loader_alloc_bounded (fix : Fix) (bs : Bytes) (now : Nat) :
    ∀ a ∈ loaderAllocs true fix bs now, a ≤ bs.length := by
  intro a ha
  exact (loaderAllocs_le true fix bs now a ha).elim id fun h => nomatch h.1

/-- For the loader before d4d929f (`vec![0u8; len]`) every allocation that is followed by a successful read
    is bounded by the file; only the failing one is not. -/
theorem loader_alloc_bounded_partial (fix : Fix) (bs : Bytes) (now : Nat)
    (h : ∀ w v al, decSnapshotT fix bs now ≠ .err (.shortString w v) al) :
    ∀ a ∈ loaderAllocs false fix bs now, a ≤ bs.length := by
  intro a ha
  exact (loaderAllocs_le false fix bs now a ha).elim id fun ⟨_, v, al, hr⟩ => absurd hr (h a v al)

/-- witness: 15 bytes make the loader before d4d929f allocate 4 294 967 295 bytes; with the bounded read
    the same file costs nothing. -/
theorem loader_alloc_bounded_fails :
    loaderAllocs false Fix.code (header ++ [250, 128, 255, 255, 255, 255]) 0 = [4294967295] ∧
    (header ++ [250, 128, 255, 255, 255, 255]).length = 15 ∧
    loaderAllocs true Fix.code (header ++ [250, 128, 255, 255, 255, 255]) 0 = [0] := by
  refine ⟨by decide, by decide, by decide⟩

/-! ### Non-vacuity -/

/-- a save of 26 calls (one string key with a TTL) — the number `VERIF RDBWRITES` reports -/
example : (cSnapshot [48, 46, 49, 46, 48] [(0, [⟨[107], .str [118, 49], some 100000⟩])] 1000).length = 26 := by decide
/-- the hypotheses of `failed_save_keeps_old_dump`: an idle server with an old dump; failure at call 5 of 26 -/
example : (initSys (some [1, 2, 3])).procs = [] ∧ (initSys (some [1, 2, 3])).flag = false := by decide
example : tmpContent (run false (initSys (some [1, 2, 3]))
    (startEv false ⟨cSnapshot [48, 46, 49, 46, 48] [(0, [⟨[107], .str [118, 49], none⟩])] 1000, some 5⟩ :: soloEvents 24)).fs =
    some [82, 69, 68, 73, 83, 48, 48, 48, 57, 250, 9] := by decide
/-- a schedule satisfying the exclusion of `dump_always_complete_or_absent_partial`: a failing BGSAVE, then a SAVE -/
example : noSaveDuringBgsave false (initSys none)
    [.startBgsave ⟨[[1], [2]], some 2⟩, .step 0, .step 0, .step 0, .startSave ⟨[[3]], none⟩, .step 0, .step 0, .step 0] = true := by
  decide
/-- an undisturbed interleaving: commands before and after the saver's reads of the key -/
example : (krun false false (kinit (some (.zset [([97], 1)], some 9)))
    [.cmd (.ttl none), .saver, .saver, .saver, .saver, .cmd .del]).disturbed = false ∧
    (krun false false (kinit (some (.zset [([97], 1)], some 9)))
    [.cmd (.ttl none), .saver, .saver, .saver, .saver, .cmd .del]).phase = .done (some ⟨.zset [([97], 1)], some 1, none⟩) := by
  decide

end Ferrous.C10
