/-
  C04 — a sorted set always holds each member once with its latest score, ordered by score and
  then by member bytes; every query answers consistently with that order; NaN is never stored;
  a refused multi-member ZADD adds nothing; removing the last member removes the key.

  Property theorems only; helper lemmas live in FerrousSpec/Proofs/ZSet*.lean.
  Model: FerrousSpec/Model/ZSet.lean — `Code.*` transliterates src/storage/skiplist.rs (the tower
  height of every new node is an argument: all statements quantify over it) and the zset functions
  of src/storage/engine.rs / the ZADD, ZINCRBY, ZPOP* handlers of src/network/server.rs;
  `Spec.*` is the sorted list of `(score, member)`.
  Tie to the code: lib/c04.py drives the real `SkipList<Vec<u8>, f64>` (level dump after every
  operation), the real `StorageEngine` z-functions and the real server over TCP with the same
  operation lines as the Lean driver `drv_zset`.

  `fixed = true` is the prescribed behaviour, which is the current tree's (every repair applied, DESIGN.md §6);
  `fixed = false` is the tree as first analysed.
-/
import FerrousSpec.Proofs.ZSetEngine
import FerrousSpec.Gen.Expiry
namespace Ferrous.C04
open Ferrous Ferrous.ZSet Ferrous.ZSet.Code

/-! ## 1. The skip list keeps its structure for every operation sequence and every tower height -/

/-- Every state reachable from the empty skip list by inserts (any tower height `h`, any non-NaN
    score, colliding or not) and removes satisfies: level 0 is strictly sorted by (score, member);
    every level is a sublist of the one below; the key index is exactly level 0 read as a map
    (and is a map: one entry per key); `length` is the number of nodes; no member occurs twice. -/
theorem skiplist_inv (ops : List Op) :
    (level0 (run ops)).Pairwise (fun a b => centLt a b = true) ∧
    SubChain (run ops).levels ∧
    (∀ m s, (m, s) ∈ (run ops).keyIndex ↔ (s, m) ∈ level0 (run ops)) ∧
    (run ops).keyIndex.Pairwise (fun a b => bytesLt a.1 b.1 = true) ∧
    (run ops).length = (level0 (run ops)).length ∧
    ((level0 (run ops)).map Prod.snd).Nodup := by
  have h : Inv (run ops) := inv_run_from ops _ inv_empty
  refine ⟨h.sorted0, h.chain, h.idxMap, h.idxSorted, h.len, ?_⟩
  have hw := (abs_wf h).2
  rw [level0_eq_lift_abs h, List.map_map]
  exact hw

/-- One step: `insert` with ANY height preserves the invariant (non-NaN score). -/
theorem skiplist_inv_insert (sl : SkipList) (h : Inv sl) (height : Nat) (m : Bytes) (s : Score) :
    Inv (Code.insert height m (.num s) sl).1 :=
  inv_insert h height m s

/-- One step: `remove` preserves the invariant. -/
theorem skiplist_inv_remove (sl : SkipList) (h : Inv sl) (m : Bytes) : Inv (remove m sl).1 :=
  inv_remove h m

/-- The executable invariant check `invB` accepts the empty list.  `invB` is the Boolean the driver prints with each
    skip-list dump of the correspondence run; `skiplist_inv` is about the proposition `Inv`. -/
theorem invB_empty : invB Code.empty = true := by decide

/-! ## 2. Level 0 is the prescribed sorted set -/

/-- `insert` on the skip list = "member once, with the latest score, in order" on the sorted list,
    and it reports the previous score. -/
theorem abs_refines_insert (sl : SkipList) (h : Inv sl) (height : Nat) (m : Bytes) (s : Score) :
    abs (Code.insert height m (.num s) sl).1 = Spec.zadd m s (abs sl) ∧
    (Code.insert height m (.num s) sl).2 = (Spec.zscore m (abs sl)).map CScore.num := by
  refine ⟨abs_insert h height m s, ?_⟩
  rw [(insert_eq h height m s).2, remove_old, getScore_refines h]

/-- `remove` on the skip list = removal of the member from the sorted list. -/
theorem abs_refines_remove (sl : SkipList) (h : Inv sl) (m : Bytes) :
    abs (remove m sl).1 = Spec.zrem m (abs sl) ∧
    (remove m sl).2 = (Spec.zscore m (abs sl)).map CScore.num := by
  refine ⟨abs_remove h m, ?_⟩
  rw [remove_old, getScore_refines h]

/-- The tower heights are unobservable: two well-formed lists that agree on level 0, index and
    length still agree after the same insert with different heights / the same remove. -/
theorem height_irrelevant (sl sl' : SkipList) (h : Inv sl) (h' : Inv sl') (e : obs sl = obs sl')
    (a b : Nat) (m : Bytes) (s : Score) :
    obs (Code.insert a m (.num s) sl).1 = obs (Code.insert b m (.num s) sl').1 ∧
    obs (remove m sl).1 = obs (remove m sl').1 :=
  ⟨(obs_insert h h' e a b m s).1, (obs_remove h h' e m).1⟩

/-- The Spec operations keep "strictly sorted, each member once", and ZADD leaves the member with
    exactly the new score while touching no other member. -/
theorem spec_wellformed (z : Spec.ZSet) (h : Spec.WF z) (m : Bytes) (s : Score) :
    Spec.WF (Spec.zadd m s z) ∧ Spec.WF (Spec.zrem m z) ∧
    Spec.zscore m (Spec.zadd m s z) = some s ∧
    (∀ m', m' ≠ m → Spec.zscore m' (Spec.zadd m s z) = Spec.zscore m' z) ∧
    Spec.zscore m (Spec.zrem m z) = none :=
  ⟨Spec.wf_zadd h m s, Spec.wf_zrem h m, Spec.zscore_zadd_self h m s,
   fun _ hne => Spec.zscore_zadd_of_ne h hne s, Spec.zscore_zrem_self m z⟩

/-- How the two zeros are ordered: -0.0 and +0.0 COMPARE EQUAL (as in Redis and as Rust's
    `partial_cmp` says), so between two members they are ordered by member bytes, in either
    assignment, exactly like any other pair of equal scores — and the code's comparator
    (`compare_nodes == Less`) is that order. -/
theorem zeros_compare_equal (a b : Bytes) (h : a ≠ b) :
    entLt (.fin 0, a) (.nzero, b) = bytesLt a b ∧ entLt (.nzero, a) (.fin 0, b) = bytesLt a b ∧
    ccmpLt (.num (.fin 0), a) (.num .nzero, b) = bytesLt a b ∧
    ccmpLt (.num .nzero, a) (.num (.fin 0), b) = bytesLt a b := by
  refine ⟨?_, ?_, ?_, ?_⟩ <;> simp [entLt, ccmpLt, CScore.lt, CScore.eqv, Score.lt, Score.eqv, Score.cls, Score.mag, h]

/-- …but they are different VALUES, and the set holds the latest one: re-scoring a member from +0.0
    to -0.0 (or back) replaces the stored score in the node and in the key index, for every tower
    height, although the two scores compare equal (no "unchanged" shortcut is sound here). -/
theorem zero_sign_is_latest_score (sl : SkipList) (h : Inv sl) (h1 h2 : Nat) (m : Bytes) :
    let s1 := (Code.insert h1 m (.num (.fin 0)) sl).1
    let s2 := (Code.insert h2 m (.num .nzero) s1).1
    let s3 := (Code.insert h1 m (.num (.fin 0)) s2).1
    getScore m s2 = some (.num .nzero) ∧ (CScore.num .nzero, m) ∈ level0 s2 ∧ (CScore.num (.fin 0), m) ∉ level0 s2 ∧
    getScore m s3 = some (.num (.fin 0)) ∧ (CScore.num (.fin 0), m) ∈ level0 s3 ∧ (CScore.num .nzero, m) ∉ level0 s3 := by
  intro s1 s2 s3
  have i1 : Inv s1 := inv_insert h h1 m _
  have i2 : Inv s2 := inv_insert i1 h2 m _
  have k2 := insert_stores i1 h2 m .nzero
  have k3 := insert_stores i2 h1 m (.fin 0)
  exact ⟨k2.1, k2.2.1, k2.2.2 _ (by simp), k3.1, k3.2.1, k3.2.2 _ (by simp)⟩

/-! ## 3. Any sequence of commands on a key -/

/-- After ANY sequence of ZADD / ZINCRBY / ZREM / ZPOPMIN / ZPOPMAX (any tower heights, any
    non-NaN scores and sums) the key holds a well-formed NON-EMPTY skip list or is absent, and what
    it holds is exactly the Spec set after the same commands — for the tree as first analysed and for
    the repaired (current) one alike. -/
theorem engine_refines (fixed : Bool) (cs : List Cmd) :
    KeyInv (runCmds fixed cs) ∧ absKey (runCmds fixed cs) = Spec.runCmds cs ∧
    Spec.WF (Spec.runCmds cs) := by
  have h := runCmds_refines_from fixed cs none keyInv_none
  have hw := wf_absKey h.1
  rw [h.2] at hw
  exact ⟨h.1, h.2, hw⟩

/-- Removing the last member removes the key: after ZREM the key is absent exactly when the
    prescribed set is empty (and an existing key is never empty). -/
theorem last_removed_deletes_key (k : ZKey) (hk : KeyInv k) (m : Bytes) :
    ((Code.zrem m k).1 = none ↔ Spec.zrem m (absKey k) = []) ∧
    (Code.zrem m k).2 = (Spec.zscore m (absKey k)).isSome := by
  have h := zrem_refines hk m
  exact ⟨by rw [← h.2.1, keyInv_absKey_nil h.1], h.2.2⟩

/-- ZADD of one pair / ZINCRBY with the sum `s`: the stored set is the Spec's, the reply of ZADD
    is "was it new". -/
theorem zadd_zincrby_refine (k : ZKey) (hk : KeyInv k) (height : Nat) (m : Bytes) (s : Score) :
    absKey (Code.zadd height m (.num s) k).1 = Spec.zadd m s (absKey k) ∧
    (Code.zadd height m (.num s) k).2 = (Spec.zscore m (absKey k)).isNone ∧
    absKey (Code.zincrby height m (.num s) k).1 = Spec.zincrby m s (absKey k) ∧
    (Code.zincrby height m (.num s) k).2 = .num s :=
  ⟨(zadd_refines hk height m s).2.1, (zadd_refines hk height m s).2.2, (zadd_refines hk height m s).2.1, rfl⟩

/-! ## 4. Queries answer consistently with the order -/

/-- ZSCORE / ZCARD read the stored set. -/
theorem zscore_zcard_agree (k : ZKey) (hk : KeyInv k) (m : Bytes) :
    Code.zscore m k = (Spec.zscore m (absKey k)).map CScore.num ∧
    Code.zcard k = Spec.zcard (absKey k) := by
  cases k with
  | none => exact ⟨rfl, rfl⟩
  | some sl =>
    have h := (hk sl rfl).1
    exact ⟨getScore_refines h m, (abs_length h).symm⟩

/-- ZRANK = number of entries below the member = its index in `ZRANGE 0 -1`;
    ZREVRANK = n - 1 - ZRANK. -/
theorem zrank_eq_index_in_zrange_all (z : Spec.ZSet) (h : Spec.WF z) (m : Bytes) (r : Nat)
    (hr : Spec.zrank m z = some r) :
    (∃ s, (Spec.zrange z 0 (-1))[r]? = some (s, m) ∧ Spec.zscore m z = some s) ∧
    Spec.zrevrank m z = some (z.length - 1 - r) := by
  rw [Spec.zrange_all, Spec.zrevrank_eq h, hr]
  exact ⟨Spec.getElem?_zrank h hr, rfl⟩

/-- Conversely the member found at index `r` of the full range has rank `r`. -/
theorem zrank_of_index (z : Spec.ZSet) (h : Spec.WF z) (m : Bytes) (s : Score) (r : Nat)
    (hi : z[r]? = some (s, m)) : Spec.zrank m z = some r :=
  Spec.zrank_of_getElem? h hi

/-- The skip list's rank walk and the engine's ZRANK / ZREVRANK compute exactly that. -/
theorem zrank_refines (k : ZKey) (hk : KeyInv k) (m : Bytes) :
    Code.zrank m false k = Spec.zrank m (absKey k) ∧
    Code.zrank m true k = Spec.zrevrank m (absKey k) := by
  cases k with
  | none => exact ⟨rfl, rfl⟩
  | some sl =>
    have h := (hk sl rfl).1
    simp only [Code.zrank, absKey, getRank_refines h m, Bool.false_eq_true, if_false, if_true]
    exact ⟨by simp, by rw [Spec.zrevrank_eq (abs_wf h), abs_length h]⟩

/-- ZRANGEBYSCORE is the filter `lo ≤ score ≤ hi` of the ordered set (the skip-list walk
    "skip while < lo, take while ≤ hi" computes it), ZREVRANGEBYSCORE its reverse, ZCOUNT its length. -/
theorem zrangebyscore_eq_filter (k : ZKey) (hk : KeyInv k) (lo hi : Score) :
    Code.zrangebyscore (.num lo) (.num hi) false k = (Spec.zrangebyscore (absKey k) lo hi).map lift ∧
    Code.zrangebyscore (.num lo) (.num hi) true k = (Spec.zrevrangebyscore (absKey k) lo hi).map lift ∧
    Code.zcount (.num lo) (.num hi) k = Spec.zcount (absKey k) lo hi ∧
    Spec.zcount (absKey k) lo hi = (Spec.zrangebyscore (absKey k) lo hi).length := by
  have h := zrangebyscore_refines hk lo hi
  refine ⟨h false, h true, ?_, Spec.zcount_eq _ lo hi⟩
  rw [Code.zcount, h false, Spec.zcount_eq]
  simp

/-- ZREVRANGE is the reverse slice of the forward order, and `ZREVRANGE 0 -1` is the whole set reversed. -/
theorem zrevrange_eq_reverse_slice (z : Spec.ZSet) (start stop : Int) :
    Spec.zrevrange z start stop =
      (match Spec.rangeIdx z.length start stop with
       | none => []
       | some (a, b) => (slice z (z.length - 1 - b) (z.length - 1 - a)).reverse) ∧
    Spec.zrevrange z 0 (-1) = z.reverse :=
  ⟨Spec.zrevrange_eq z start stop, Spec.zrevrange_all z⟩

/-- ZPOPMIN pops the head of the order, ZPOPMAX its last entry; what remains is the set without
    that member; they are what `ZRANGE 0 0` / `ZRANGE -1 -1` show. -/
theorem zpopmin_is_head (z : Spec.ZSet) (h : Spec.WF z) (e : Entry) (r : Spec.ZSet)
    (hp : Spec.zpopmin z = some (e, r)) :
    (∀ x ∈ r, entLt e x = true) ∧ r = Spec.zrem e.2 z ∧ Spec.zrange z 0 0 = [e] :=
  Spec.zpop_spec (max := false) h hp

theorem zpopmax_is_last (z : Spec.ZSet) (h : Spec.WF z) (e : Entry) (r : Spec.ZSet)
    (hp : Spec.zpopmax z = some (e, r)) :
    (∀ x ∈ r, entLt x e = true) ∧ r = Spec.zrem e.2 z ∧ Spec.zrange z (-1) (-1) = [e] :=
  Spec.zpop_spec (max := true) h hp

/-- The pop loops of `handle_zpopmin` / `handle_zpopmax` do exactly that, step by step. -/
theorem zpop_refines (k : ZKey) (hk : KeyInv k) (fixed : Bool) :
    (match Spec.zpopmin (absKey k) with
     | none => Code.zpop fixed false k = (k, none)
     | some (e, r) => (Code.zpop fixed false k).2 = some (lift e) ∧ absKey (Code.zpop fixed false k).1 = r) ∧
    (match Spec.zpopmax (absKey k) with
     | none => Code.zpop fixed true k = (k, none)
     | some (e, r) => (Code.zpop fixed true k).2 = some (lift e) ∧ absKey (Code.zpop fixed true k).1 = r) := by
  have h1 := ZSet.zpop_refines hk fixed false
  have h2 := ZSet.zpop_refines hk fixed true
  simp only [Bool.false_eq_true, if_false] at h1
  simp only [if_true] at h2
  constructor
  · cases hz : Spec.zpopmin (absKey k) with
    | none => rw [hz] at h1; exact h1
    | some p => rw [hz] at h1; exact ⟨h1.1, h1.2.1⟩
  · cases hz : Spec.zpopmax (absKey k) with
    | none => rw [hz] at h2; exact h2
    | some p => rw [hz] at h2; exact ⟨h2.1, h2.2.1⟩

/-! ## 5. Rank-range index arithmetic, for all `len > 0`, `start`, `stop : Int` -/

/-- FULL statement (repaired arithmetic): what `StorageEngine::zrange` passes to `range_by_rank`
    selects exactly Redis' index interval, forward and (mirrored) reverse. -/
theorem zrangeIdx_refines (len : Nat) (hl : 0 < len) (start stop : Int) :
    normIv len (zrangeIdx true false len start stop) = Spec.rangeIdx len start stop ∧
    normIv len (zrangeIdx true true len start stop) = (Spec.rangeIdx len start stop).map (flipIv len) :=
  ⟨(zrangeIdx_iff len hl true false start stop).mpr (Or.inl rfl),
   (zrangeIdx_iff len hl true true start stop).mpr (Or.inl rfl)⟩

/-- The arithmetic OF THE TREE AS FIRST ANALYSED (`fixed = false`) agrees with Redis' rule exactly on the arguments outside `zrangeDev`
    (an iff: the exclusion predicate is exact). -/
theorem zrangeIdx_refines_partial (len : Nat) (hl : 0 < len) (start stop : Int) :
    (normIv len (zrangeIdx false false len start stop) = Spec.rangeIdx len start stop ↔
      zrangeDev false len start stop = false) ∧
    (normIv len (zrangeIdx false true len start stop) = (Spec.rangeIdx len start stop).map (flipIv len) ↔
      zrangeDev true len start stop = false) :=
  ⟨(zrangeIdx_iff len hl false false start stop).trans (or_iff_right Bool.false_ne_true),
   (zrangeIdx_iff len hl false true start stop).trans (or_iff_right Bool.false_ne_true)⟩

/-- Replies: ZRANGE / ZREVRANGE of the engine = the Spec's on the stored set — always for the
    repaired arithmetic (the current tree), and outside `zrangeDev` for the tree as first analysed. -/
theorem zrange_refines (k : ZKey) (hk : KeyInv k) (fixed rev : Bool) (start stop : Int)
    (hd : fixed = true ∨ zrangeDev rev (Code.zcard k) start stop = false) :
    Code.zrange fixed start stop rev k =
      (if rev then Spec.zrevrange (absKey k) start stop else Spec.zrange (absKey k) start stop).map lift :=
  ZSet.zrange_refines hk fixed rev start stop hd

/-- A three-member set `a:1 b:2 c:3` built by real operations. -/
def abc : List Cmd := [.zadd 0 [97] (.fin 1), .zadd 1 [98] (.fin 2), .zadd 0 [99] (.fin 3)]

/-- WITNESS (defect 16): on the tree as first analysed, `ZRANGE k 0 -100` on three members returns one
    member where the empty reply is prescribed. -/
theorem zrange_fwd_fails :
    Code.zrange false 0 (-100) false (runCmds false abc) = [(.num (.fin 1), [97])] ∧
    Spec.zrange (Spec.runCmds abc) 0 (-100) = [] ∧
    zrangeDev false 3 0 (-100) = true := by decide

/-- WITNESS (defect 16): `ZREVRANGE k 5 10` on three members returns one member (the lowest),
    `ZREVRANGE k 0 -100` the highest; both must be empty. -/
theorem zrange_rev_fails :
    Code.zrange false 5 10 true (runCmds false abc) = [(.num (.fin 1), [97])] ∧
    Spec.zrevrange (Spec.runCmds abc) 5 10 = [] ∧
    Code.zrange false 0 (-100) true (runCmds false abc) = [(.num (.fin 3), [99])] ∧
    Spec.zrevrange (Spec.runCmds abc) 0 (-100) = [] ∧
    zrangeDev true 3 5 10 = true ∧ zrangeDev true 3 0 (-100) = true := by decide

/-! ## 6. NaN is never stored; a refused ZADD adds nothing -/

/-- FULL statement (repaired handlers): a ZADD carrying an unparsable or NaN score anywhere is
    refused with the key untouched, and a ZINCRBY whose sum is NaN likewise. -/
theorem refused_zadd_adds_nothing (ps : List (Option CScore × Bytes)) (hs : List Nat) (k : ZKey)
    (hne : ps ≠ []) (hv : Spec.validPairs ps = none) :
    Code.zaddCmd true hs ps k 0 = (k, none) ∧ Spec.zaddCmd ps (absKey k) = (absKey k, false) := by
  refine ⟨zaddCmd_fixed_refuses ps hs k 0 hne hv, ?_⟩
  simp [Spec.zaddCmd, hv]

theorem nan_never_stored (height : Nat) (m : Bytes) (k : ZKey) :
    Code.zincrbyCmd true height m .nan k = (k, none) ∧
    Code.zaddCmd true [height] [(some .nan, m)] k 0 = (k, none) := by
  constructor
  · simp [Code.zincrbyCmd]
  · simp [Code.zaddCmd]

/-- PARTIAL statement for the handler as first analysed (and the full one for the repaired handler): when
    every score of the command is a number, all pairs are applied in order — the stored set is the
    Spec's, nothing is NaN, and the reply is the number of members that were new. -/
theorem zadd_cmd_partial (fixed : Bool) (ps : List (Option CScore × Bytes)) (vs : List (Score × Bytes))
    (hs : List Nat) (k : ZKey) (hk : KeyInv k) (hv : Spec.validPairs ps = some vs) :
    KeyInv (Code.zaddCmd fixed hs ps k 0).1 ∧
    absKey (Code.zaddCmd fixed hs ps k 0).1 = (Spec.zaddCmd ps (absKey k)).1 ∧
    (Code.zaddCmd fixed hs ps k 0).2 = some ((Spec.zaddCmd ps (absKey k)).1.length - (absKey k).length) := by
  have h := zaddMany_refines vs hs k 0 hk
  rw [zaddCmd_eq_zaddMany fixed ps vs hs k 0 hv]
  simp only [Spec.zaddCmd, hv]
  exact ⟨h.1, h.2.1, congrArg some (Nat.eq_sub_of_add_eq (h.2.2.trans (Nat.zero_add _)))⟩

/-- WITNESS (defect 18a): on the tree as first analysed `ZADD z 1 a nope b` answers an error but has added `a`. -/
theorem refused_zadd_fails :
    (Code.zaddCmd false [0] [(some (.num (.fin 1)), [97]), (none, [98])] none 0).2 = none ∧
    absKey (Code.zaddCmd false [0] [(some (.num (.fin 1)), [97]), (none, [98])] none 0).1 = [(.fin 1, [97])] ∧
    Spec.zaddCmd [(some (.num (.fin 1)), [97]), (none, [98])] [] = ([], false) := by decide

/-- WITNESS (defect 18b): `ZADD z nan n` stores a NaN node.  Re-scoring the member then leaves TWO
    nodes for one member (the NaN node cannot be unlinked because `NaN == NaN` is false), and after
    ZREM the key index is empty while the chain still holds the NaN node: the member can never be
    removed and the key never disappears — `skiplist_inv` fails without the non-NaN hypothesis. -/
theorem nan_stored_fails :
    let s1 := (Code.insert 0 [110] .nan Code.empty).1
    let s2 := (Code.insert 0 [110] (.num (.fin 1)) s1).1
    let s3 := (remove [110] s2).1
    level0 s1 = [(.nan, [110])] ∧
    level0 s2 = [(.num (.fin 1), [110]), (.nan, [110])] ∧ s2.keyIndex = [([110], .num (.fin 1))] ∧ s2.length = 2 ∧
    level0 s3 = [(.nan, [110])] ∧ s3.keyIndex = [] ∧ s3.length = 1 ∧
    invB s1 = false ∧ invB s2 = false ∧ invB s3 = false ∧
    (Code.zrem [110] (some s3)).1 = some s3 := by decide

/-- WITNESS (defect 18c): ZINCRBY whose sum is NaN (`+inf` then `-inf`) is stored by the tree as first analysed. -/
theorem zincrby_nan_fails :
    absKey (Code.zincrbyCmd false 0 [110] .nan none).1 = [] ∧
    (Code.zincrbyCmd false 0 [110] .nan none).1 ≠ none ∧
    (Spec.zincrbyCmd .nan [110] []).2 = none := by decide

/-! ## 7. One command is ONE step of the sorted-set machine (one storage call, one lock scope, one deadline test) -/

/-- Tie to the code: the translator reads that handle_zadd / handle_zrem / handle_zpopmin / handle_zpopmax and the
    script executor each make exactly one storage call (`zadd_many`, `zrem_many`, `zpop`) and no per-member
    `storage.zadd(` / `storage.zrem(` call (translator/expiry_tables.py, regenerated on every run).  That each of
    these functions reaches the shard once and holds its write lock to the end is read off their bodies by
    lib/c04.py (`source_switches`: one `get_shard(`, one `.write()`, both in front of the loop). -/
theorem tree_zset_one_call : Gen.zsetOneCall = true := by decide

/-- An accepted multi-member `ZADD k pairs` (tree since db4c992): whatever the environment does — the key's
    deadline passing before the call (`deadAt = some 0`), during it or after it (`some (i+1)`, `none`) — the stored
    set is the fold of the single inserts over the state at ONE instant (the live set, or the empty set when the key
    was dead at that instant), the reply is the number of members that were new at that instant, and there is NO
    intermediate state another reader (a BGSAVE copy, another connection) could observe between two pairs. -/
theorem zadd_is_one_step (hs : List Nat) (vs : List (Score × Bytes)) (deadAt : Option Nat) (k : ZKey) (hk : KeyInv k) :
    KeyInv (zaddSched true hs vs deadAt k).1 ∧
    absKey (zaddSched true hs vs deadAt k).1 = Spec.zaddAll vs (if deadAt = some 0 then [] else absKey k) ∧
    (zaddSched true hs vs deadAt k).2.1 =
      (Spec.zaddAll vs (if deadAt = some 0 then [] else absKey k)).length - (if deadAt = some 0 then [] else absKey k).length ∧
    (zaddSched true hs vs deadAt k).2.2 = [] := by
  have hk0 : KeyInv (if deadAt = some 0 then none else k) := by
    split
    · exact keyInv_none
    · exact hk
  have h := zaddMany_refines vs hs _ 0 hk0
  rw [show absKey (if deadAt = some 0 then none else k) = if deadAt = some 0 then [] else absKey k by
    split <;> rfl] at h
  exact ⟨h.1, h.2.1, Nat.eq_sub_of_add_eq (h.2.2.trans (Nat.zero_add _)), rfl⟩

/-- WITNESS (hunt d1/d2, the loop before db4c992): with one storage call per pair, the deadline falling between
    the two pairs of `ZADD z 0 a 1 b` on `{seed:-1}` leaves `{b}` (without the old key's TTL) although the reply says 2
    — neither all pairs on the live key nor all pairs on a fresh one — and a reader between the calls sees the
    half-applied `{seed, a}`. -/
theorem zadd_per_pair_not_one_step :
    let k := runCmds false [.zadd 0 [115] (.fin (-1))]
    let r := zaddSched false [0, 0] [(.fin 0, [97]), (.fin 1, [98])] (some 1) k
    absKey r.1 = [(.fin 1, [98])] ∧ r.2.1 = 2 ∧
    r.2.2.map absKey = [[(.fin (-1), [115]), (.fin 0, [97])]] ∧
    absKey r.1 ≠ Spec.zaddAll [(.fin 0, [97]), (.fin 1, [98])] (absKey k) ∧
    absKey r.1 ≠ Spec.zaddAll [(.fin 0, [97]), (.fin 1, [98])] [] := by decide

/-- `ZREM k members` and `ZPOPMIN/ZPOPMAX k count` are single steps too: the storage calls `zrem_many` / `zpop`
    compute, on the one state they lock, exactly the prescribed result and reply. -/
theorem zrem_zpop_one_step (k : ZKey) (hk : KeyInv k) (ms : List Bytes) (max : Bool) (count : Nat) :
    (KeyInv (zremMany ms k 0).1 ∧ absKey (zremMany ms k 0).1 = Spec.zremAll ms (absKey k) ∧
      (zremMany ms k 0).2 = (absKey k).length - (Spec.zremAll ms (absKey k)).length) ∧
    (KeyInv (zpopMany max count k []).1 ∧ absKey (zpopMany max count k []).1 = (Spec.zpopN max count (absKey k)).1 ∧
      (zpopMany max count k []).2 = ((Spec.zpopN max count (absKey k)).2).map lift) := by
  have h1 := zremMany_refines ms k 0 hk
  have h2 := zpopMany_refines max count k [] hk
  exact ⟨⟨h1.1, h1.2.1, Nat.eq_sub_of_add_eq (h1.2.2.trans (Nat.zero_add _))⟩, ⟨h2.1, h2.2.1, by rw [h2.2.2]; simp⟩⟩

/-! ## 8. Argument validation of the range commands; the empty pop reply -/

/-- FULL (repaired handlers/parsers): after the bounds only WITHSCORES is accepted, anything else is a syntax
    error; a NaN score bound is refused, any other pair of bounds is passed on unchanged; a pop that pops nothing
    answers the empty array. -/
theorem range_arguments_checked (opt : Option Bool) (lo hi : CScore) :
    Code.rangeOption true opt = Spec.rangeOption opt ∧
    Code.scoreBounds true lo hi = (Spec.scoreBounds lo hi).map (fun p => (CScore.num p.1, CScore.num p.2)) ∧
    zpopEmptyIsNull true = false := by
  refine ⟨?_, ?_, rfl⟩
  · cases opt with
    | none => rfl
    | some b => cases b <;> rfl
  · cases lo <;> cases hi <;> simp [Code.scoreBounds, Spec.scoreBounds]

/-- PARTIAL (handlers as first analysed, `fixed = false`): WITHSCORES or nothing after the bounds, and numeric bounds, are treated as prescribed. -/
theorem range_arguments_partial (opt : Option Bool) (ho : opt ≠ some false) (lo hi : Score) :
    Code.rangeOption false opt = Spec.rangeOption opt ∧
    Code.scoreBounds false (.num lo) (.num hi) = (Spec.scoreBounds (.num lo) (.num hi)).map (fun p => (CScore.num p.1, CScore.num p.2)) := by
  constructor
  · cases opt with
    | none => rfl
    | some b => cases b with
      | true => rfl
      | false => exact absurd rfl ho
  · simp [Code.scoreBounds, Spec.scoreBounds]

/-- WITNESS (hunt d3): as first analysed the handlers answer `ZRANGE z 0 -1 REV` / `… WITHSCORE` / `ZRANGEBYSCORE z 1 3 LIMIT`
    as the plain command, and a NaN bound reaches `range_by_score`: on `a:1 b:2 c:3`, `ZCOUNT z nan 2` counts 2
    (a NaN minimum acts like -inf) and `ZCOUNT z 1 nan` counts 0 where "min or max is not a float" is prescribed. -/
theorem range_arguments_fail :
    Code.rangeOption false (some false) = some false ∧ Spec.rangeOption (some false) = none ∧
    Code.scoreBounds false .nan (.num (.fin 2)) = some (.nan, .num (.fin 2)) ∧ Spec.scoreBounds .nan (.num (.fin 2)) = none ∧
    Code.zcount .nan (.num (.fin 2)) (runCmds false abc) = 2 ∧
    Code.zcount (.num (.fin 1)) .nan (runCmds false abc) = 0 ∧
    Code.zrangebyscore .nan .nan false (runCmds false abc) = [] := by decide

/-- WITNESS (hunt d4): as first analysed ZPOPMIN / ZPOPMAX answer the null array when nothing is popped. -/
theorem zpop_empty_reply_fails : zpopEmptyIsNull false = true ∧ (zpopMany false 5 none []).2 = [] ∧
    (zpopMany true 0 (runCmds false abc) []).2 = [] := by decide

/-! ## Non-vacuity: concrete non-trivial instances of the hypotheses -/

/-- a reachable three-level state with colliding scores, ±inf, a re-score across a neighbour and a removal -/
def demoOps : List Op :=
  [.ins 2 [98] (.fin 5), .ins 0 [97] (.fin 5), .ins 1 [99] .ninf, .ins 0 [100] .pinf,
   .ins 3 [97] (.fin 7), .rem [99], .ins 0 [101] (.fin 0)]

example : level0 (run demoOps) =
    [(.num (.fin 0), [101]), (.num (.fin 5), [98]), (.num (.fin 7), [97]), (.num .pinf, [100])] := by decide
example : (run demoOps).levels.length = 4 ∧ invB (run demoOps) = true := by decide
example : Inv (run demoOps) := inv_run_from demoOps _ inv_empty
example : KeyInv (runCmds false abc) ∧ absKey (runCmds false abc) = [(.fin 1, [97]), (.fin 2, [98]), (.fin 3, [99])] :=
  ⟨(engine_refines false abc).1, by decide⟩
example : Spec.WF [(.ninf, [1]), (.fin (-3), [9]), (.fin 0, []), (.fin 0, [0]), (.fin 0, [0, 0]), (.pinf, [7])] := by
  refine ⟨by decide, by decide⟩
example : Spec.validPairs [(some (.num (.fin 1)), [97]), (some (.num .pinf), [98])] = some [(.fin 1, [97]), (.pinf, [98])] := by decide
example : Spec.validPairs [(some (.num (.fin 1)), [97]), (some .nan, [98])] = none := by decide
example : zrangeDev false 3 1 (-100) = false ∧ zrangeDev true 3 2 10 = false := by decide
example : absKey (runCmds false [.zadd 0 [97] (.fin 0), .zadd 2 [98] .nzero, .zadd 1 [97] .nzero, .zincrby 0 [98] (.fin 0)]) =
    [(.nzero, [97]), (.fin 0, [98])] := by decide
example : Spec.zrank [98] (Spec.runCmds abc) = some 1 ∧ Spec.zrevrank [98] (Spec.runCmds abc) = some 1 := by decide

end Ferrous.C04
