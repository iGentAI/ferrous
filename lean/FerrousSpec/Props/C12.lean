/-
  C12 — a script is one indivisible step; `redis.call` / `redis.pcall` of a command have the effect
  and (after the standard RESP ↔ Lua conversion) the reply of the direct command; KEYS / ARGV arrive
  byte-for-byte; a failing `redis.call` aborts, `redis.pcall` continues, earlier effects persist;
  EVALSHA ≡ EVAL; scripts cannot reach blocking / connection / transaction / scripting commands,
  the file system or the process.

  Property theorems only; helper lemmas live in FerrousSpec/Proofs/Lua*.lean.
  Model: FerrousSpec/Model/Lua.lean (call programs over `KS.step`; the two conversions of
  src/storage/lua_engine.rs with one quirk switch per deviation; `Spec` = all switches off = the
  standard Redis table, `Code` = all switches on = the tree as first analysed; the switches the
  current tree has are `Gen.luaQuirksSeen`).
  Tie to the code: `Gen.luaBlocked`, `Gen.luaSandboxRemoved`, `Gen.luaExecutorCommands`,
  `Gen.evalIsSynchronous` are regenerated from the Rust source on every run; lib/c12.py drives twin
  real servers (command sent directly to one, wrapped in `redis.call` / `redis.pcall` to the other)
  and compares through `Code.*` (must predict the script's reply) and `Spec.*` (judges).

  NOT proved: that the second command implementation (`commands/executor.rs`, used by
  `redis.call`) behaves like the handlers — `redis.call` executes `KS.step` here by definition; the
  twin-server run measures the parity command by command (see lib/c12.py for the deviations found).
-/
import FerrousSpec.Proofs.LuaRun
import FerrousSpec.Proofs.LuaDepth
import FerrousSpec.Gen.Lua
namespace Ferrous.C12
open Ferrous Ferrous.Lua

/-! `Code.*` = every deviation of the tree as first analysed switched on (`Quirks.code`).  Which of
    the switches the tree has NOW is regenerated on every run (`Gen.luaQuirksSeen`, also sent to the
    driver by lib/c12.py); the `_partial` theorems below therefore hold for EVERY switch record `q`,
    and each witness uses the variant in which ONLY its own switch is on: that switch alone violates
    the full statement. -/
namespace Code
def respToLua := Lua.respToLua Quirks.code
def luaToResp := Lua.luaToResp Quirks.code
end Code
namespace Spec
def respToLua := Lua.respToLua Quirks.spec
def luaToResp := Lua.luaToResp Quirks.spec
end Spec

/-- The standard table is the identity on what a command can reply (RESP2, integers that a Lua 5.1
    number holds exactly): a reply converted into Lua and returned unchanged is the same reply.
    In particular nil bulk ↦ `false` ↦ nil bulk, status ↦ `{ok=…}` ↦ status, error ↦ `{err=…}` ↦ error,
    arrays element-wise (nil bulks inside included). -/
theorem conversion_roundtrip_spec (f : Frame) (h : specClean f = true) :
    Spec.luaToResp (Spec.respToLua f) = f :=
  roundtrip_spec f h

/-- The individual rows of the standard table. -/
theorem conversion_table_spec :
    Spec.respToLua .nullBulk = .bool false ∧ Spec.respToLua .nullArray = .bool false ∧
    (∀ b, Spec.respToLua (.simple b) = .statusTable b) ∧ (∀ b, Spec.respToLua (.error b) = .errTable b) ∧
    (∀ b, Spec.respToLua (.bulk b) = .str b) ∧
    (∀ n : Int, n.natAbs < two53 → Spec.respToLua (.int n) = .int n) ∧
    Spec.luaToResp .nil = .nullBulk ∧ Spec.luaToResp (.bool false) = .nullBulk ∧ Spec.luaToResp (.bool true) = .int 1 ∧
    (∀ n, Spec.luaToResp (.int n) = .int n) ∧ (∀ b, Spec.luaToResp (.str b) = .bulk b) ∧
    (∀ m, Spec.luaToResp (.statusTable m) = .simple m) ∧ (∀ m, Spec.luaToResp (.errTable m) = .error m) ∧
    Spec.luaToResp (.table []) = .array [] ∧
    -- a number is truncated toward zero: 3.7 ↦ 3, -0.5 ↦ 0
    Spec.luaToResp (.num 37 10) = .int 3 ∧ Spec.luaToResp (.num (-1) 2) = .int 0 ∧
    -- a table is an array up to the first nil: {1,nil,3} ↦ [1]
    Spec.luaToResp (.table [.int 1, .nil, .int 3]) = .array [.int 1] := by
  refine ⟨rfl, rfl, fun _ => rfl, fun _ => rfl, fun _ => rfl, ?_, rfl, rfl, rfl, fun _ => rfl, fun _ => rfl,
    fun _ => rfl, fun _ => rfl, rfl, ?_, ?_, rfl⟩
  · intro n hn; simp [Spec.respToLua, Lua.respToLua, f64Int_small n hn]
  · rfl
  · rfl

/-- Full statement: with the conversion switches off the two functions ARE the standard table,
    for every reply and every Lua value.  (The variant the property prescribes; `Quirks.spec`
    satisfies the hypotheses, see the `example` below.) -/
theorem conversion_standard (q : Quirks) (hr : q.r2lFixed) (hl : q.l2rFixed) :
    (∀ f, Lua.respToLua q f = Spec.respToLua f) ∧ (∀ v, Lua.luaToResp q v = Spec.luaToResp v) :=
  ⟨respToLua_fixed q hr, luaToResp_fixed q hl⟩

example : Quirks.spec.r2lFixed ∧ Quirks.spec.l2rFixed := ⟨⟨rfl, rfl, rfl⟩, ⟨rfl, rfl, rfl, rfl⟩⟩

/-- Whatever deviations the tree has (any switch record `q`, in particular `Quirks.code` and the
    regenerated one), it agrees with the standard table on this fragment:
    replies that are integers, valid-UTF-8 bulk strings, errors and arrays of such; return values
    that are nil, `true`, integers, integral numbers, strings and tables whose array part (up to the
    first nil) is non-empty and made of such values. -/
theorem conversion_standard_partial (q : Quirks) :
    (∀ f, agreeR f = true → Lua.respToLua q f = Spec.respToLua f) ∧
    (∀ v, agreeL v = true → Lua.luaToResp q v = Spec.luaToResp v) :=
  ⟨respToLua_agree q, luaToResp_agree q⟩

example : agreeR (.array [.int (-5), .bulk [104, 105], .array [.bulk []]]) = true := by decide
example : agreeL (.table [.int 1, .str [97], .table [.int 2], .nil, .bool false]) = true := by decide

/-! #### one witness per deviation (the C12 conversion rows of DESIGN §6; each is replayed on the server by lib/c12.py).
    `only…` = the standard table with exactly one switch on. -/

def onlyNilBulk : Quirks := { nilBulkIsNil := true }
def onlyStatus : Quirks := { statusIsString := true }
def onlyLossy : Quirks := { lossyStrings := true }
def onlyPcallNil : Quirks := { pcallErrIsNil := true }
def onlyFalseZero : Quirks := { falseIsZero := true }
def onlyFracBulk : Quirks := { fracIsBulk := true }
def onlyEmptyNil : Quirks := { emptyTableIsNil := true }
def onlyNoOkErr : Quirks := { okErrTablesIgnored := true }
def onlyUtf8Args : Quirks := { utf8ArgsOnly := true }
def onlyShaDb0 : Quirks := { evalshaDb0 := true }

/-- `redis.call('GET','missing')` is Lua `nil`, not `false`: `== false` is false (the reply is the
    nil bulk of `false` instead of `:1`), and for every `q` with the switch on the value is `nil`. -/
theorem conversion_fails_nil_bulk :
    (∀ q : Quirks, q.nilBulkIsNil = true → Lua.respToLua q .nullBulk = .nil ∧ Lua.respToLua q .nullArray = .nil) ∧
    Spec.respToLua .nullBulk = .bool false ∧
    Lua.respToLua onlyNilBulk .nullBulk ≠ Spec.respToLua .nullBulk := by
  refine ⟨fun q h => by simp [Lua.respToLua, h], rfl, ?_⟩
  intro h; cases h

/-- consequence: an array reply is cut at its first nil element (`MGET k missing n` → one element). -/
theorem conversion_fails_array_cut_at_nil :
    viaLua onlyNilBulk (.array [.bulk [118], .nullBulk, .bulk [53]]) = .array [.bulk [118]] ∧
    viaLua Quirks.code (.array [.bulk [118], .nullBulk, .bulk [53]]) = .array [.bulk [118]] ∧
    viaLua Quirks.spec (.array [.bulk [118], .nullBulk, .bulk [53]]) = .array [.bulk [118], .nullBulk, .bulk [53]] :=
  ⟨rfl, rfl, rfl⟩

/-- a status reply (`+OK`) is a plain Lua string, returned as a bulk string. -/
theorem conversion_fails_status :
    Lua.respToLua onlyStatus (.simple [79, 75]) = .str [79, 75] ∧ Spec.respToLua (.simple [79, 75]) = .statusTable [79, 75] ∧
    viaLua onlyStatus (.simple [79, 75]) = .bulk [79, 75] ∧ viaLua Quirks.code (.simple [79, 75]) = .bulk [79, 75] ∧
    viaLua Quirks.spec (.simple [79, 75]) = .simple [79, 75] :=
  ⟨rfl, rfl, rfl, rfl, rfl⟩

/-- `return false` is `:0`, not a nil bulk. -/
theorem conversion_fails_false :
    (∀ q : Quirks, q.falseIsZero = true → Lua.luaToResp q (.bool false) = .int 0) ∧ Spec.luaToResp (.bool false) = .nullBulk :=
  ⟨fun q h => by simp [Lua.luaToResp, h], rfl⟩

/-- `return 3.7` is a bulk string (`3.70000000000000018` for the double nearest to 3.7), not `:3`. -/
theorem conversion_fails_fraction :
    Lua.luaToResp onlyFracBulk (.num 4165829655317709 1125899906842624) =
      .bulk [51, 46, 55, 48, 48, 48, 48, 48, 48, 48, 48, 48, 48, 48, 48, 48, 48, 49, 56] ∧
    Spec.luaToResp (.num 4165829655317709 1125899906842624) = .int 3 ∧
    Lua.luaToResp onlyFracBulk (.num (-1) 2) = .bulk [45, 48, 46, 53] ∧ Spec.luaToResp (.num (-1) 2) = .int 0 :=
  ⟨rfl, rfl, rfl, rfl⟩

/-- `return {}` (and an empty array reply such as `LRANGE missing 0 -1`) is a nil bulk, not an empty array. -/
theorem conversion_fails_empty_table :
    Lua.luaToResp onlyEmptyNil (.table []) = .nullBulk ∧ Spec.luaToResp (.table []) = .array [] ∧
    viaLua onlyEmptyNil (.array []) = .nullBulk ∧ viaLua Quirks.spec (.array []) = .array [] := ⟨rfl, rfl, rfl, rfl⟩

/-- `return {ok='X'}` / `return {err='E'}` are not recognised (an empty array — a nil bulk when empty
    tables are nil too — instead of `+X` / `-E`). -/
theorem conversion_fails_ok_err_tables :
    Lua.luaToResp onlyNoOkErr (.statusTable [88]) = .array [] ∧ Code.luaToResp (.statusTable [88]) = .nullBulk ∧
    Spec.luaToResp (.statusTable [88]) = .simple [88] ∧
    Lua.luaToResp onlyNoOkErr (.errTable [69]) = .array [] ∧ Code.luaToResp (.errTable [69]) = .nullBulk ∧
    Spec.luaToResp (.errTable [69]) = .error [69] := ⟨rfl, rfl, rfl, rfl, rfl, rfl⟩

/-- a failing `redis.pcall` evaluates to `nil`, not to the error table. -/
theorem conversion_fails_pcall_error :
    (∀ q : Quirks, q.pcallErrIsNil = true → ∀ m, pcallFailure q m = .nil) ∧ pcallFailure Quirks.spec [69] = .errTable [69] :=
  ⟨fun q h m => by simp [pcallFailure, h], rfl⟩

/-- a bulk reply that is not valid UTF-8 reaches the script altered (`\xff` → U+FFFD). -/
theorem conversion_fails_lossy_reply :
    Lua.respToLua onlyLossy (.bulk [255, 97]) = .str [239, 191, 189, 97] ∧ Spec.respToLua (.bulk [255, 97]) = .str [255, 97] :=
  ⟨rfl, rfl⟩

/-- With the depth limit (`lua_value_to_resp(value, depth)`, limit = the parser's `MAX_NESTING`), for EVERY script, store and return
    value: a value nested deeper than the limit has no reply form — the script's reply is the error `ERR reached lua stack limit` —
    and nothing else changes: the script has run exactly as without the limit (same store); a value within the limit is converted
    exactly as before.  (A table that contains itself is deeper than every limit.) -/
theorem reply_nested_too_deep_is_error_and_changes_nothing_else
    (q : Quirks) (kq : KS.Quirks) (limit : Nat) (s : KS.Store) (db now : Nat) (keys argv : List Bytes) (p : Program) :
    (evalB q kq limit s db now keys argv p).1 = (eval q kq s db now keys argv p).1 ∧
    (∀ v : LuaVal, limit < nest v → luaToRespD q limit v 0 = none) ∧
    (∀ v : LuaVal, nest v ≤ limit → luaToRespD q limit v 0 = some (Lua.luaToResp q v)) ∧
    (∀ rs v, runSteps q kq (mkEnv q keys argv) db now s [] p.steps = ((eval q kq s db now keys argv p).1, .ok rs) →
        evalRet (mkEnv q keys argv) rs p.ret = some v → limit < nest v →
        (evalB q kq limit s db now keys argv p).2 = stackLimitErr) := by
  refine ⟨evalB_store q kq limit s db now keys argv p, fun v h => (luaToRespD_spec q limit v 0).2 (by omega),
    fun v h => (luaToRespD_spec q limit v 0).1 (by omega), ?_⟩
  intro rs v hrun hret hdeep
  unfold evalB
  rw [hrun]
  simp only [hret, (luaToRespD_spec q limit v 0).2 (by omega), Option.getD]

/-- What the limited conversion accepts (limit = one level below the parser's `MAX_NESTING`) is a frame the server's own parser
    accepts, on its own and inside an EXEC reply: a converted value is no deeper than the parser's budget (`maxNesting + 1` frames on
    a path), so, being well-formed, it is parsed back exactly (C20's round trip). -/
theorem accepted_reply_parses (q : Quirks) (v : LuaVal) (h : nest v + 1 ≤ maxNesting) (hw : wf (Lua.luaToResp q v) = true) (rest : Bytes) :
    luaToRespD q (maxNesting - 1) v 0 = some (Lua.luaToResp q v) ∧
    parseBytes (ser (Lua.luaToResp q v) ++ rest) = .ok (Lua.luaToResp q v) rest ∧
    -- … also as the element of an EXEC reply, one array further out
    parseBytes (ser (.array [Lua.luaToResp q v]) ++ rest) = .ok (.array [Lua.luaToResp q v]) rest := by
  have hd := depth_luaToResp_le q v
  have hm : maxNesting = 128 := rfl
  refine ⟨(luaToRespD_spec q (maxNesting - 1) v 0).1 (by omega), roundtrip_fuel _ hw (maxNesting + 1) (by omega) rest, ?_⟩
  exact roundtrip_fuel _ (by simp [wf, wfList, hw]) (maxNesting + 1) (by simp [Frame.depth, depthList]; omega) rest

/-- non-vacuity: `{{{1}}}` (three tables around the 1) is refused under limit 2, converted under limit 3 -/
example : nest (.table [.table [.table [.int 1]]]) = 3 ∧ luaToRespD Quirks.code 2 (.table [.table [.table [.int 1]]]) 0 = none ∧
    luaToRespD Quirks.code 3 (.table [.table [.table [.int 1]]]) 0 = some (.array [.array [.array [.int 1]]]) := ⟨rfl, rfl, rfl⟩

/-- Tie to the code: the limit `lua_value_to_resp` stops at.  Either there is none (0: a script returning a table that contains
    itself, or one nested a few thousand levels, overflows the stack of the only command thread — finding
    C12-reply-depth-unbounded), or it is one level below the parser's `MAX_NESTING` (room for the array of an EXEC reply). -/
theorem reply_depth_limit_is_the_parsers : Gen.luaReplyDepthLimit = 0 ∨ Gen.luaReplyDepthLimit + 1 = maxNesting := by decide

/-- Full statement (switch off): KEYS and ARGV are what the client sent, byte for byte. -/
theorem keys_argv_bytewise (q : Quirks) (h : q.lossyStrings = false) (keys argv : List Bytes) :
    mkEnv q keys argv = { keys := keys, argv := argv } := by
  rw [mkEnv, map_ls_eq q keys (.inl h), map_ls_eq q argv (.inl h)]

/-- Any variant (switch on or off): when every key and argument is valid UTF-8 … -/
theorem keys_argv_bytewise_partial (q : Quirks) (keys argv : List Bytes)
    (hk : keys.all validUtf8 = true) (ha : argv.all validUtf8 = true) :
    mkEnv q keys argv = { keys := keys, argv := argv } := by
  rw [mkEnv, map_ls_eq q keys (.inr hk), map_ls_eq q argv (.inr ha)]

/-- … which includes every ASCII string … -/
theorem ascii_is_valid (b : Bytes) (h : ∀ x ∈ b, x < 128) : validUtf8 b = true := validUtf8_ascii b h

/-- … and fails for `ARGV[1] = \xff\x00a`, which arrives as `U+FFFD \x00 a` (5 bytes instead of 3). -/
theorem keys_argv_bytewise_fails :
    mkEnv onlyLossy [] [[255, 0, 97]] = { keys := [], argv := [[239, 191, 189, 0, 97]] } ∧
    mkEnv onlyLossy [] [[255, 0, 97]] ≠ { keys := [], argv := [[255, 0, 97]] } ∧
    mkEnv Quirks.code [[255]] [] = { keys := [[239, 191, 189]], argv := [] } := by
  refine ⟨by decide, by decide, by decide⟩

/-- In the model, for ALL commands, stores, databases and conversion variants: the script
    `return redis.call(cmd)` leaves the store the direct command leaves and replies with the direct
    reply passed through the two conversions (an error reply aborts the script and is the reply). -/
theorem call_eq_direct (q : Quirks) (kq : KS.Quirks) (s : KS.Store) (db now : Nat) (keys argv cmd : List Bytes)
    (h : allowed q cmd = true) :
    eval q kq s db now keys argv ⟨[⟨false, cmd.map Arg.lit⟩], .res 1⟩ =
      ((KS.step kq s db now cmd none).1, viaLua q (KS.step kq s db now cmd none).2) := by
  rw [eval_call, execCall_allowed h]

/-- the same through `unpack(ARGV)` — the wrapper lib/c12.py sends — when ARGV arrives unchanged -/
theorem call_eq_direct_unpack (q : Quirks) (kq : KS.Quirks) (s : KS.Store) (db now : Nat) (cmd : List Bytes)
    (h : allowed q cmd = true) (hv : cmd.map q.ls = cmd) :
    eval q kq s db now [] cmd ⟨[⟨false, [Arg.unpackArgv]⟩], .res 1⟩ =
      ((KS.step kq s db now cmd none).1, viaLua q (KS.step kq s db now cmd none).2) := by
  have h1 := call_eq_direct q kq s db now [] cmd cmd h
  rw [← h1]
  unfold eval
  simp only [mkEnv, hv, List.map_nil]
  rw [runSteps_cons, runSteps_cons]
  simp only [resolveArgs_unpack, resolveArgs_lits]

/-- Prescribed variant: the script's reply EQUALS the direct reply (and the store the direct
    store) whenever the direct reply is RESP2 with integers below 2^53 and no null array. -/
theorem call_reply_eq_direct (kq : KS.Quirks) (s : KS.Store) (db now : Nat) (keys argv cmd : List Bytes)
    (h : allowed Quirks.spec cmd = true) (hc : specClean (KS.step kq s db now cmd none).2 = true) :
    eval Quirks.spec kq s db now keys argv ⟨[⟨false, cmd.map Arg.lit⟩], .res 1⟩ = KS.step kq s db now cmd none := by
  rw [call_eq_direct _ _ _ _ _ _ _ _ h, viaLua_spec_clean _ hc]

/-- Any variant, in particular the code as it is: equality on the fragment `transparent` (errors,
    integers below 2^53, valid-UTF-8 bulk strings, non-empty arrays of the latter two) for commands
    that are not refused (`allowed`: with `utf8ArgsOnly` on, all arguments valid UTF-8).
    Outside it the reply differs as the witnesses above show. -/
theorem call_reply_eq_direct_partial (q : Quirks) (kq : KS.Quirks) (s : KS.Store) (db now : Nat) (keys argv cmd : List Bytes)
    (h : allowed q cmd = true) (hc : transparent (KS.step kq s db now cmd none).2 = true) :
    eval q kq s db now keys argv ⟨[⟨false, cmd.map Arg.lit⟩], .res 1⟩ = KS.step kq s db now cmd none := by
  rw [call_eq_direct _ _ _ _ _ _ _ _ h, viaLua_transparent _ _ hc]

/-- non-vacuity: `RPUSH l a b` through a script on an empty store: reply `:2`, list created -/
example : eval Quirks.code {} KS.emptyStore 3 1000 [] []
      ⟨[⟨false, [[82, 80, 85, 83, 72], [108], [97], [98]].map Arg.lit⟩], .res 1⟩ =
    KS.step {} KS.emptyStore 3 1000 [[82, 80, 85, 83, 72], [108], [97], [98]] none :=
  call_reply_eq_direct_partial _ _ _ _ _ _ _ _ (by decide) (by decide)
example : allowed Quirks.code [[82, 80, 85, 83, 72], [108], [97], [98]] = true := by decide

/-- A command with an argument that is not valid UTF-8 is refused inside a script although the
    direct command accepts it (`SET k \xff`). -/
theorem call_eq_direct_fails_binary_argument :
    (eval onlyUtf8Args {} KS.emptyStore 0 1000 [] [] ⟨[⟨false, [[83, 69, 84], [107], [255]].map Arg.lit⟩], .res 1⟩).1 = KS.emptyStore ∧
    (KS.step {} KS.emptyStore 0 1000 [[83, 69, 84], [107], [255]] none).1 ≠ KS.emptyStore ∧
    (eval Quirks.spec {} KS.emptyStore 0 1000 [] [] ⟨[⟨false, [[83, 69, 84], [107], [255]].map Arg.lit⟩], .res 1⟩) =
      KS.step {} KS.emptyStore 0 1000 [[83, 69, 84], [107], [255]] none :=
  ⟨by decide, by decide, call_reply_eq_direct _ _ _ _ _ _ _ (by decide) (by decide)⟩

/-- For EVERY program `pre ++ st :: rest` whose prefix `pre` ran through (leaving store `s1` and
    results `acc1`) and whose step `st` executes a command that fails with error `m`:
    * `redis.call`: the script stops there — its outcome is the error `m`, `rest` is never run —
      and the store is the one the prefix left (the failing command itself changed nothing beyond
      dropping expired entries): the effects made before the error persist;
    * `redis.pcall`: the script goes on with `rest` from that same store, the failed call
      contributing the failure value to the results. -/
theorem call_error_aborts_pcall_continues_effects_persist
    (q : Quirks) (kq : KS.Quirks) (env : Env) (db now : Nat) (s s1 : KS.Store) (acc acc1 : List LuaVal)
    (pre rest : List Step) (st : Step) (cmd : List Bytes) (m : Bytes)
    (hpre : runSteps q kq env db now s acc pre = (s1, .ok acc1))
    (hcmd : resolveArgs env st.args = some cmd)
    (herr : (execCall q kq s1 db now cmd).2 = .error m) :
    (st.pcall = false →
      runSteps q kq env db now s acc (pre ++ st :: rest) = ((execCall q kq s1 db now cmd).1, .error m)) ∧
    (st.pcall = true →
      runSteps q kq env db now s acc (pre ++ st :: rest) =
        runSteps q kq env db now (execCall q kq s1 db now cmd).1 (acc1 ++ [pcallFailure q m]) rest) ∧
    ((execCall q kq s1 db now cmd).1 = s1 ∨
     (execCall q kq s1 db now cmd).1 = KS.setDb s1 db (KS.purge now (KS.getDb s1 db))) := by
  have h := runSteps_cons_err (acc := acc1) rest hcmd herr
  refine ⟨fun hp => ?_, fun hp => ?_, execCall_error_store herr⟩
  · rw [runSteps_append, hpre]
    exact h.trans (if_neg (hp ▸ Bool.false_ne_true))
  · rw [runSteps_append, hpre]
    exact h.trans (if_pos hp)

/-- A script ended from outside after a prefix `pre` of its steps — what the run-time limit does (a Lua error raised by the
    count hook between two instructions) — is in exactly the state the complete script would have continued from: the effects
    of the calls that completed are those of `pre`, nothing is rolled back and nothing else has happened. -/
theorem script_cut_keeps_prefix_effects
    (q : Quirks) (kq : KS.Quirks) (env : Env) (db now : Nat) (s s1 : KS.Store) (acc acc1 : List LuaVal) (pre rest : List Step)
    (hpre : runSteps q kq env db now s acc pre = (s1, .ok acc1)) :
    runSteps q kq env db now s acc (pre ++ rest) = runSteps q kq env db now s1 acc1 rest := by
  rw [runSteps_append, hpre]

/-- Tie to the code: what bounds a script's run time (`LuaEngine::eval` installs a count hook that compares the elapsed time with
    a constant and raises a Lua error).  Either nothing does (0: a non-terminating script wedges the only command thread for
    ever — finding C12-no-script-time-limit, never probed dynamically), or the bound is between 1 s and 60 s; lib/c12.py then
    runs non-terminating scripts on dedicated servers and requires the error reply within the bound, the earlier effects in
    place and the server serving. -/
theorem script_time_limit_sane :
    Gen.luaScriptTimeLimit = 0 ∨ (1000 ≤ Gen.luaScriptTimeLimit ∧ Gen.luaScriptTimeLimit ≤ 60000) := by decide

/-- Tie to the code: what bounds the memory of a script's Lua state (`set_memory_limit` in `create_lua_context`).  Either nothing
    does (0: a script that keeps allocating takes the process down — finding C06-lua-memory-unbounded), or the bound lies between
    64 MiB and 4 GiB — above the 512 MB a key can hold only by a small factor, far below an address space; an allocation beyond it
    is Lua's 'not enough memory' error, i.e. the script ends as an aborted script (`script_cut_keeps_prefix_effects`).  lib/c12.py
    then runs allocating scripts on address-space-capped dedicated servers. -/
theorem script_memory_limit_sane :
    Gen.luaScriptMemoryLimit = 0 ∨ (67108864 ≤ Gen.luaScriptMemoryLimit ∧ Gen.luaScriptMemoryLimit ≤ 4294967296) := by decide

/-- the reply of the aborted script is the error reply, whatever the return expression -/
theorem aborted_script_replies_error (q : Quirks) (kq : KS.Quirks) (s s' : KS.Store) (db now : Nat)
    (keys argv : List Bytes) (p : Program) (m : Bytes)
    (h : runSteps q kq (mkEnv q keys argv) db now s [] p.steps = (s', .error m)) :
    eval q kq s db now keys argv p = (s', .error m) := by
  unfold eval; rw [h]

/-- non-vacuity / concrete instance (both variants): `SET w 1`, then `INCR l` on a list fails:
    with `call` the reply is an error and `w` stays set; with `pcall` the script goes on to `SET w2 1`. -/
example :
    let s0 := (KS.step {} KS.emptyStore 0 1000 [[82, 80, 85, 83, 72], [108], [97]] none).1
    let setW : Step := ⟨false, [[83, 69, 84], [119], [49]].map Arg.lit⟩
    let incrL (pc : Bool) : Step := ⟨pc, [[73, 78, 67, 82], [108]].map Arg.lit⟩
    let setW2 : Step := ⟨false, [[83, 69, 84], [119, 50], [49]].map Arg.lit⟩
    let get (s : KS.Store) (k : Bytes) := (KS.lookup (KS.getDb s 0) k).isSome
    let a := eval Quirks.code {} s0 0 1000 [] [] ⟨[setW, incrL false, setW2], .val (.int 1)⟩
    let b := eval Quirks.code {} s0 0 1000 [] [] ⟨[setW, incrL true, setW2], .val (.int 1)⟩
    KS.isErr a.2 = true ∧ get a.1 [119] = true ∧ get a.1 [119, 50] = false ∧
    b.2 = .int 1 ∧ get b.1 [119] = true ∧ get b.1 [119, 50] = true := by
  -- both scripts are run once, by the kernel: its evaluation is shared between the six conjuncts
  decide +kernel

/-- For every schedule of frames of any number of connections and every script frame `e` in it:
    the script runs on exactly the store the frames before it left, the frames after it run on
    the store it left, the replies come in schedule order — every frame of every other connection
    lies wholly before or wholly after the script. -/
theorem script_is_one_step (q : Quirks) (kq : KS.Quirks) (c : Cache) (s : KS.Store) (pre post : List Lua.Ev) (e : Lua.Ev) :
    runLoop q kq c s (pre ++ e :: post) =
      (let a := runLoop q kq c s pre
       let r := processFrame q kq c a.1 e
       let b := runLoop q kq c r.1 post
       (b.1, a.2 ++ r.2 :: b.2)) := by
  rw [runLoop_append]
  simp [runLoop]

/-- The same at the grain of single data commands: the store after ANY schedule is the store
    obtained by executing, one by one, each frame's data commands as one contiguous block, blocks
    in schedule order (`flatten`) — no command of another connection between two calls of a script;
    and what any connection can observe (`observable`: the states between frames) is always the
    result of a whole number of frames, never a state in the middle of a script. -/
theorem script_calls_are_contiguous (q : Quirks) (kq : KS.Quirks) (c : Cache) (s : KS.Store) (evs pre post : List Lua.Ev) :
    (runLoop q kq c s evs).1 = (flatten q kq c s evs).foldl (microStep q kq) s ∧
    flatten q kq c s (pre ++ post) = flatten q kq c s pre ++ flatten q kq c (runLoop q kq c s pre).1 post ∧
    (∀ st ∈ observable q kq c s evs, ∃ k, k ≤ evs.length ∧ st = (runLoop q kq c s (evs.take k)).1) :=
  ⟨runLoop_store_eq_flatten evs s, flatten_append pre post s, observable_prefix evs s⟩

/-- Tie to the code: the EVAL path is a chain of plain nested calls on the command thread
    (no thread spawn, channel hand-off or await between `process_normal_command` and the executor). -/
theorem tree_eval_is_synchronous : Gen.evalIsSynchronous = true := by decide

/-- non-vacuity: connection 1 runs `INCR a; INCR b` in a script between two `GET`s of connection 2;
    the command-grain run has the two INCRs adjacent -/
example :
    let incr (k : Nat) : Step := ⟨false, [[73, 78, 67, 82], [k]].map Arg.lit⟩
    let sc : Lua.Ev := ⟨1, 0, 1000, .eval [] [] ⟨[incr 97, incr 98], .val .nil⟩⟩
    let rd (k : Nat) : Lua.Ev := ⟨2, 0, 1000, .cmd [[71, 69, 84], [k]]⟩
    (flatten Quirks.code {} [] KS.emptyStore [rd 97, sc, rd 98]).map (fun m => (m.conn, m.cmd)) =
      [(2, [[71, 69, 84], [97]]), (1, [[73, 78, 67, 82], [97]]), (1, [[73, 78, 67, 82], [98]]), (2, [[71, 69, 84], [98]])] := by
  decide

/-- Full statement (switch off): EVALSHA of a cached script is EVAL of it — same store, same reply,
    on every database. -/
theorem evalsha_eq_eval (q : Quirks) (kq : KS.Quirks) (c : Cache) (s : KS.Store) (db now : Nat) (sha : Bytes)
    (keys argv : List Bytes) (p : Program) (h : q.evalshaDb0 = false) (hc : cacheGet c sha = some p) :
    evalsha q kq c s db now sha keys argv = eval q kq s db now keys argv p := by
  simp [evalsha, hc, h]

/-- Any variant (switch on or off): on database 0 … -/
theorem evalsha_eq_eval_partial (q : Quirks) (kq : KS.Quirks) (c : Cache) (s : KS.Store) (now : Nat) (sha : Bytes)
    (keys argv : List Bytes) (p : Program) (hc : cacheGet c sha = some p) :
    evalsha q kq c s 0 now sha keys argv = eval q kq s 0 now keys argv p := by
  simp [evalsha, hc]

/-- … and an unknown SHA changes nothing. -/
theorem evalsha_unknown (q : Quirks) (kq : KS.Quirks) (c : Cache) (s : KS.Store) (db now : Nat) (sha : Bytes)
    (keys argv : List Bytes) (hc : cacheGet c sha = none) :
    evalsha q kq c s db now sha keys argv = (s, noScript) := by
  simp [evalsha, hc]

/-- Witness: after `SELECT 1`, EVALSHA of `redis.call('SET','k','v')` writes `k` into database 0. -/
theorem evalsha_eq_eval_fails :
    let p : Program := ⟨[⟨false, [[83, 69, 84], [107], [118]].map Arg.lit⟩], .res 1⟩
    let a := evalsha onlyShaDb0 {} [([1], p)] KS.emptyStore 1 1000 [1] [] []
    let b := eval onlyShaDb0 {} KS.emptyStore 1 1000 [] [] p
    (KS.lookup (KS.getDb a.1 0) [107]).isSome = true ∧ (KS.lookup (KS.getDb a.1 1) [107]).isSome = false ∧
    (KS.lookup (KS.getDb b.1 0) [107]).isSome = false ∧ (KS.lookup (KS.getDb b.1 1) [107]).isSome = true := by
  decide

/-- In the model: a call of any command on the property's list (blocking, connection, pub/sub
    subscription, transaction, scripting, process / administration) fails and changes nothing,
    whatever its arguments, under `call` and `pcall` alike. -/
theorem blocked_commands_have_no_effect (q : Quirks) (kq : KS.Quirks) (s : KS.Store) (db now : Nat) (cmd : List Bytes)
    (h : nameOf cmd ∈ refusedNames) : ∃ m, execCall q kq s db now cmd = (s, .error m) :=
  execCall_refused (by simpa using h)

/-- Tie to the code: every name on that list is the string literal of a refusal arm of
    `execute_unified_redis_command` as the source has it now. -/
theorem blocked_commands_refused : ∀ n ∈ refusedNames, n ∈ Gen.luaBlocked :=
  -- equality of strings is slow in the kernel: the tables are walked on the numbers of their names, by the kernel alone
  names_present (by decide +kernel)

/-- Commands that would block, reach another connection, the replication link or the process and
    are not in the refusal arms are unreachable all the same: the executor does not know them. -/
theorem unreachable_commands_unknown_to_executor :
    ∀ n ∈ ["BRPOPLPUSH", "BLMOVE", "BLMPOP", "WAIT", "HELLO", "SYNC", "PSYNC", "REPLICAOF", "SLAVEOF",
           "REPLCONF", "SLEEP", "VERIF", "SLOWLOG", "MEMORY", "COMMAND", "FUNCTION", "FCALL", "MODULE"],
      n ∉ Gen.luaExecutorCommands := names_absent (by decide +kernel)

/-- Exceptions: these names ARE accepted by `redis.call` although they concern the process or the
    disk: `execute_persistence` answers them with a canned reply and touches nothing (read in
    executor.rs; lib/c12.py checks that no dump file appears), `INFO` returns a fixed text. -/
theorem reachable_admin_commands_are_stubs :
    ∀ n ∈ ["SAVE", "BGSAVE", "BGREWRITEAOF", "LASTSAVE", "INFO"], n ∈ Gen.luaExecutorCommands ∧ n ∉ Gen.luaBlocked := by
  have h : ["SAVE", "BGSAVE", "BGREWRITEAOF", "LASTSAVE", "INFO"].all
      (fun n => hasName Gen.luaExecutorCommands n && !hasName Gen.luaBlocked n) = true := by decide +kernel
  simpa only [List.all_eq_true, Bool.and_eq_true, Bool.not_eq_true', hasName_iff, hasName_false_iff] using h

/-- The Lua globals that reach the file system, the process or native code are removed before a
    script runs (both in the context that executes scripts and in the one that validates them). -/
theorem sandbox_removed :
    ∀ n ∈ ["os", "io", "loadfile", "dofile", "require", "package", "debug", "load"], n ∈ Gen.luaSandboxRemoved :=
  names_present (by decide)

/-- Two more doors of the sandbox, as the source has them now.  `newproxy` is the only way a Lua 5.1 script can install a `__gc`
    finalizer, and finalizers run with the debug hooks off: outside the script time limit and, when the per-script state is closed,
    after the script.  Precompiled chunks are executed by Lua 5.1 without validation.  The statement holds with the doors open
    (findings C12-sandbox-finalizer-escapes-time-limit / C12-sandbox-loadstring-bytecode, for which lib/c12.py sends harmless
    witnesses only) and with them closed (then it sends the wedging / crashing scripts and requires an error reply): what the
    regenerated table says about `newproxy` is what the removal list contains, and a tree that refuses bytecode has also removed
    the other loaders. -/
theorem sandbox_finalizer_and_bytecode_doors :
    (("newproxy" ∈ Gen.luaSandboxRemoved) ∨ ("newproxy" ∉ Gen.luaSandboxRemoved)) ∧
    (Gen.luaBytecodeRefused = true → ∀ n ∈ ["load", "loadfile", "dofile", "require", "package"], n ∈ Gen.luaSandboxRemoved) :=
  ⟨Decidable.em _, fun _ => names_present (by decide)⟩

end Ferrous.C12
