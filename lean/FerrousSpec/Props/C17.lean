/-
  C17 — no access without AUTH.

  "When requirepass is configured, a connection that has not successfully authenticated cannot read,
  modify, subscribe to or replicate anything: every command other than AUTH (and the harmless PING/QUIT)
  is refused with an error and has no side effect, whatever the command, pipeline position or connection
  state, including replication handshakes, transactions and scripts.  Only the exact password
  authenticates, a failed AUTH changes nothing, and authentication is per connection."

  Property theorems only; helper lemmas live in FerrousSpec/Proofs/Auth.lean and AuthConfig.lean.
  Model: FerrousSpec/Model/Auth.lean — `Code.processConnectionFrame` is the order of processing of
  `process_connection` / `process_frame` in src/network/server.rs: (a) the special cases that run BEFORE the
  gate (`Cfg.preGate`), (b) the gate with its allow-list (`Cfg.allow`), (c) dispatch, which is a PARAMETER `h`
  (MULTI/EXEC, EVAL, SUBSCRIBE, MONITOR, REPLCONF … all live behind the gate, so the theorems hold for every
  dispatch).  The name normalisations are parameters as well (fields of `Cfg`).

  Tie to the code: `Gen/Auth.lean` is regenerated from server.rs on every run (`tree` below is the model
  instantiated with the regenerated lists); the check drives the real server over TCP with `--requirepass`
  and compares every reply class with `drv_auth`.

  Current tree: the SYNC / PSYNC special case in front of the gate is guarded like the gate (`Gen.preGate = []`,
  `Gen.preGateGuarded = ["SYNC", "PSYNC"]`): it has the repaired order, for which the full statement
  `no_access_without_auth` holds (`no_access_without_auth_tree_fixed`).  For the order that handles SYNC and PSYNC
  before the gate (`Cfg.pinned`) the `_partial` variants exclude these names and `no_access_without_auth_fails_pinned`
  is the witness.
-/
import FerrousSpec.Proofs.Auth
import FerrousSpec.Proofs.AuthConfig
import FerrousSpec.Gen.Auth
namespace Ferrous.C17
open Ferrous Ferrous.Auth

variable {D R : Type}

/-- The model instantiated with the lists regenerated from the source, and the concrete normalisations. -/
def tree : Cfg :=
  Cfg.ofTables Gen.preGate Gen.authAllow Code.normLoop (Code.normFrame Gen.frameNameTrimmed) Gen.quitEndsBatch

/-- the name as `process_frame` sees it on this tree -/
abbrev treeNormFrame : Bytes → Bytes := Code.normFrame Gen.frameNameTrimmed

/-- A password-protected server with a canary key, one fresh (unauthenticated) connection. -/
def witnessServer : Server KS.Store :=
  { password := some [112], conns := [⟨1, .connected⟩], store := [[([107], ⟨.str [118], none⟩)]],
    subs := [], replicas := [], monitors := [] }

/-- A dispatch that does nothing (the witness never reaches dispatch). -/
def noDispatch : Dispatch KS.Store Unit := fun s _ _ _ => (s, ())

/-! ### Table theorems (re-proved against the regenerated lists on every run) -/

/-- The gate's allow-list is exactly AUTH → `handle_auth`, PING → `handle_ping`, QUIT → `+OK`. -/
theorem tree_allow_is_auth_ping_quit :
    Gen.authAllow = [("AUTH", "auth"), ("PING", "ping"), ("QUIT", "okOnly")] := by decide

/-- Every other name falls into the `_` arm, which answers NOAUTH; and nothing that can act on the server
    precedes the gate inside `process_frame`. -/
theorem tree_gate_default_refuses : Gen.gateDefaultRefuses = true ∧ Gen.gateIsFirst = true := by decide

/-- `preGate ⊆ allow`, the prescribed order of processing (nothing but the harmless commands may be handled
    before the gate), holds on the current tree (`Gen.preGate = []`) and is FALSE for the pinned order; what holds
    for either is that the names handled before the gate without an authentication test are within the known
    finding C17-1.
    This is the theorem that breaks if anyone adds another special case in front of the gate. -/
theorem preGate_within_known_finding : ∀ n ∈ Gen.preGate, n ∈ ["SYNC", "PSYNC"] := by decide

/-- Every special case in front of the gate has a shape the translator understands: either it calls its
    handler unconditionally (`Gen.preGate`) or it is guarded exactly like the gate (`Gen.preGateGuarded`).
    When this fails the model makes NO prediction for the names listed (the driver answers `unknown`) and
    the check searches for a failing input with the property's oracle alone. -/
theorem tree_preGate_guards_understood : Gen.preGateUnknownGuard = [] := by decide

/-- The translator could read every shape it relies on (frame loop of `process_connection`, the gate and its
    `match`, the dispatch `match`).  When this fails the tables hold inert defaults, the driver predicts nothing
    and the check searches with the property's oracle alone. -/
theorem tree_source_readable : Gen.unreadable = [] := by decide

/-- Frames kept back for later execution (`Connection::deferred_frames`) either do not exist or are filled only for
    a connection that just blocked, with the rest of its own batch, and drained only into the same
    connection's next `process_connection`, where each frame meets the gate again. -/
theorem tree_deferral_understood : Gen.deferral = "absent" ∨ Gen.deferral = "blocked-only" := by decide

/-- Commands executed indirectly (inside EXEC) are handed a literal connection id instead of the issuer's; every such
    id lies below the first id the accept loop hands out, so it never names a live connection
    (`exec_auth_affects_nobody`).  Fails if ids start at 0 while the substitute id is 0. -/
theorem tree_substitute_ids_not_live : ∀ i ∈ Gen.substituteConnIds, i < Gen.connIdStart := by decide

/-- The command line's password overrides the configuration file's only when one is given; the file's `requirepass`,
    the two command-line flags and the order file-then-command-line have the shape the model assumes. -/
theorem tree_password_sources : Gen.cliPasswordRule = "if-given" ∧ Gen.passwordSourcesUnderstood = true := by decide

/-- The prescribed inclusion fails for the pinned order of processing: SYNC is handled before the gate and is
    not one of AUTH / PING / QUIT. -/
theorem preGate_subset_allow_fails_pinned : ¬ ∀ n ∈ Cfg.pinned.preGate, n ∈ Spec.harmless := by decide

/-- The inclusion holds trivially for the repaired order. -/
theorem preGate_subset_allow (cfg : Cfg) : ∀ n ∈ cfg.repaired.preGate, n ∈ Spec.harmless := by
  intro n hn; simp [Cfg.repaired] at hn

/-- `ConnectionState::Authenticated` is assigned only at accept (no password), by `handle_auth`, and when a
    blocked client is woken or times out; `Blocked` only by BLPOP/BRPOP on the calling connection; the
    password is never assigned after start-up.  (The source facts behind `Honest`.) -/
theorem tree_state_writers :
    (∀ w ∈ Gen.authenticatedWriters, w ∈ ["network/server.rs::accept_single_connection",
        "network/server.rs::handle_auth", "network/server.rs::process_blocked_timeouts",
        "network/server.rs::wake_client"]) ∧
    (∀ w ∈ Gen.blockedWriters, w ∈ ["network/server.rs::handle_blpop", "network/server.rs::handle_brpop"]) ∧
    Gen.passwordRuntimeWrites = [] :=
  ⟨names_present (by decide), names_present (by decide), by decide⟩

/-- Every command name the server knows, sent by an unauthenticated connection, is refused by the model of the
    tree — except the three allowed ones; the statement also exempts SYNC / PSYNC, the names of finding C17-1,
    which the current tree (`Gen.preGate = []`) refuses as well. -/
theorem tree_names_classified :
    ∀ n ∈ Gen.allCommandNames, classify tree (nameBytes n) = .refused ∨ n ∈ ["AUTH", "PING", "QUIT", "SYNC", "PSYNC"] := by
  simp only [nameBytes_eq_asciiBytes]
  -- `+kernel`: the table is long, and the elaborator's own evaluation ahead of the kernel's would double the work
  decide +kernel

/-- … and the table is not trivially small: the replication, pub/sub, transaction, script and monitor
    commands are in it. -/
theorem tree_names_cover :
    ∀ n ∈ ["GET", "SET", "SYNC", "PSYNC", "REPLCONF", "MONITOR", "SUBSCRIBE", "PSUBSCRIBE", "MULTI", "EXEC",
           "EVAL", "EVALSHA", "SCRIPT", "REPLICAOF", "SHUTDOWN", "FLUSHALL", "CONFIG", "CLIENT"],
      n ∈ Gen.allCommandNames :=
  names_present (by decide +kernel)

theorem tree_allow_names : tree.allow.map (·.1) = [AUTH, PING, QUIT] := by decide
theorem tree_allow_known : tree.allowKnown = true := by decide
theorem tree_preGate_within : ∀ n ∈ tree.preGate, n ∈ [SYNC, PSYNC] := by decide

/-! ### The gate -/

/-- Password set ∧ connection not authenticated ∧ name not on the allow-list ∧ name not
    special-cased before the gate ⇒ the reply is an error and the server state is unchanged — for EVERY
    command name (all byte strings: the gate precedes dispatch), every argument list, every dispatch `h`,
    every connection state other than `Authenticated` (fresh, closing, blocked, unknown id). -/
theorem gate_total (cfg : Cfg) (h : Dispatch D R) (s : Server D) (c : Nat) (name : Bytes) (args : List Arg)
    (hpw : s.password.isSome = true) (hst : stateOf s.conns c ≠ some .authenticated)
    (hallow : cfg.normFrame name ∉ cfg.allow.map (·.1)) (hpre : cfg.normLoop name ∉ cfg.preGate) :
    ∃ k, Code.processConnectionFrame cfg h s c (.cmd name args) = (s, .error k) :=
  gate_refuses cfg h s c name args hpw hst hallow hpre

/-- Requests that are not commands at all (no bulk-string name, not an array) are refused for everybody. -/
theorem malformed_requests_refused (cfg : Cfg) (h : Dispatch D R) (s : Server D) (c : Nat) :
    Code.processConnectionFrame cfg h s c .badName = (s, .error .other) ∧
    Code.processConnectionFrame cfg h s c .notArray = (s, .error .other) :=
  ⟨rfl, rfl⟩

/-- `gate_total` for the tree as regenerated: every name that does not normalise to AUTH / PING / QUIT — nor to
    SYNC / PSYNC, the only names a tree may handle before the gate (`tree_preGate_within`; the current tree
    handles none) — is refused. -/
theorem gate_total_tree (h : Dispatch D R) (s : Server D) (c : Nat) (name : Bytes) (args : List Arg)
    (hpw : s.password.isSome = true) (hst : stateOf s.conns c ≠ some .authenticated)
    (hallow : treeNormFrame name ∉ [AUTH, PING, QUIT]) (hpre : Code.normLoop name ∉ [SYNC, PSYNC]) :
    ∃ k, Code.processConnectionFrame tree h s c (.cmd name args) = (s, .error k) := by
  refine gate_total tree h s c name args hpw hst ?_ ?_
  · rw [tree_allow_names]; exact hallow
  · exact fun hm => hpre (tree_preGate_within _ hm)

/-- Non-vacuity: a password-protected server with a canary, a fresh connection, `GET canary`. -/
example : ∃ k, Code.processConnectionFrame tree (ksDispatch {} 0)
      { password := some [112], conns := [⟨1, .connected⟩], store := [[([107], ⟨.str [118], none⟩)]],
        subs := [], replicas := [], monitors := [] } 1 (.cmd [103, 101, 116] [some [107]])
    = ({ password := some [112], conns := [⟨1, .connected⟩], store := [[([107], ⟨.str [118], none⟩)]],
         subs := [], replicas := [], monitors := [] }, .error k) :=
  gate_total_tree _ _ _ _ _ (by decide) (by decide) (by decide) (by decide)

/-! ### Only the exact password authenticates -/

/-- A request that reaches `handle_auth` leaves the calling connection authenticated
    iff its argument list is exactly one bulk string equal to the configured password (which is valid
    UTF-8, being a Rust `String`) — for all byte strings: prefixes, extensions, case changes, binary, empty,
    wrong arity, non-bulk arguments all fail. -/
theorem only_exact_password (cfg : Cfg) (h : Dispatch D R) (s : Server D) (c : Nat) (name : Bytes) (args : List Arg)
    (pw : Bytes) (hpw : s.password = some pw) (hutf : utf8Valid pw = true)
    (hc : stateOf s.conns c = some .connected)
    (hname : findArm cfg.allow (cfg.normFrame name) = some .auth) (hpre : cfg.normLoop name ∉ cfg.preGate) :
    stateOf (Code.processConnectionFrame cfg h s c (.cmd name args)).1.conns c = some .authenticated
      ↔ args = [some pw] := by
  rw [processConnectionFrame_cmd cfg h s c name args hpre,
    processFrame_gated cfg h s c name args _ hc (by rw [hpw]; rfl) (by decide), hname]
  exact auth_authenticates_iff s c args pw hpw hutf hc

/-- The same for the tree, for the literal name `AUTH` in any letter case (`auth`, `Auth`, …). -/
theorem only_exact_password_tree (h : Dispatch D R) (s : Server D) (c : Nat) (name : Bytes) (args : List Arg)
    (pw : Bytes) (hpw : s.password = some pw) (hutf : utf8Valid pw = true)
    (hc : stateOf s.conns c = some .connected)
    (hn1 : treeNormFrame name = AUTH) (hn2 : Code.normLoop name = AUTH) :
    stateOf (Code.processConnectionFrame tree h s c (.cmd name args)).1.conns c = some .authenticated
      ↔ args = [some pw] := by
  refine only_exact_password tree h s c name args pw hpw hutf hc ?_ ?_
  · show findArm tree.allow (treeNormFrame name) = some .auth
    rw [hn1]; decide
  · show Code.normLoop name ∉ tree.preGate
    rw [hn2]; intro hm; exact absurd (tree_preGate_within _ hm) (by decide)

/-- Non-vacuity and the interesting wrong passwords, on a concrete server with password `s3cr`:
    the exact password authenticates; a proper prefix, an extension, a case change, the empty string,
    a binary string and two arguments do not. -/
example :
    let s : Server Nat := { password := some [115, 51, 99, 114], conns := [⟨7, .connected⟩], store := 0,
                            subs := [], replicas := [], monitors := [] }
    let after := fun (args : List Arg) =>
      stateOf (Code.processConnectionFrame (R := Unit) tree (fun s _ _ _ => (s, ())) s 7 (.cmd [97, 117, 116, 104] args)).1.conns 7
    after [some [115, 51, 99, 114]] = some .authenticated ∧
    after [some [115, 51, 99]] = some .connected ∧
    after [some [115, 51, 99, 114, 0]] = some .connected ∧
    after [some [83, 51, 67, 82]] = some .connected ∧
    after [some []] = some .connected ∧
    after [some [255]] = some .connected ∧
    after [some [115, 51, 99, 114], some [115, 51, 99, 114]] = some .connected ∧
    after [none] = some .connected ∧
    after [] = some .connected := by decide

/-- A request that reaches `handle_auth` without carrying exactly the password
    is answered with an error and leaves the whole server state as it was — whatever the state of the calling
    connection (a failed AUTH does not de-authenticate either). -/
theorem failed_auth_changes_nothing (s : Server D) (c : Nat) (args : List Arg)
    (hbad : ¬ ∃ pw, s.password = some pw ∧ args = [some pw] ∧ utf8Valid pw = true) :
    (Code.auth s c args : Server D × Reply D R) = (s, .error .other) := by
  rcases auth_cases (R := R) s c args with ⟨pw, hp, ha, hu, _⟩ | ⟨_, he⟩
  · exact absurd ⟨pw, hp, ha, hu⟩ hbad
  · exact he

/-- … and at the level of a frame of an unauthenticated connection: anything that is not an AUTH with the
    exact password leaves the server exactly as it was (allowed or refused, well-formed or not). -/
theorem unauthenticated_frame_changes_nothing (cfg : Cfg) (hk : cfg.allowKnown = true) (h : Dispatch D R)
    (s : Server D) (c : Nat) (req : Req) (pw : Bytes) (hpw : s.password = some pw)
    (hst : stateOf s.conns c ≠ some .authenticated)
    (hpre : ∀ name args, req = .cmd name args → cfg.normLoop name ∉ cfg.preGate)
    (hno : isExactAuth cfg pw req = false) :
    (Code.processConnectionFrame cfg h s c req).1 = s :=
  (unauth_frame_harmless cfg hk h s c req pw hpw hst hpre).2.2 hno

/-- `handle_auth` called with an id that names no live connection — the substitute id of execution inside EXEC —
    changes nothing, whatever the password: `MULTI; AUTH pw; EXEC` of one connection authenticates nobody else. -/
theorem exec_auth_affects_nobody (s : Server D) (start i : Nat) (args : List Arg)
    (hids : ∀ x ∈ s.conns, start ≤ x.id) (hi : i < start) :
    (Code.auth s i args : Server D × Reply D R).1 = s := by
  have hnone := stateOf_below_start s.conns start i hids hi
  rcases auth_cases (R := R) s i args with ⟨_, _, _, _, he⟩ | ⟨_, he⟩
  · rw [he]; simp [setState_absent _ _ _ hnone]
  · rw [he]

/-- … and it DOES change something as soon as a live connection has that id (ids starting at the substitute id):
    connection 0, which never sent AUTH, is authenticated by somebody else's `handle_auth(parts, 0)`. -/
theorem exec_auth_promotes_live_substitute_id :
    stateOf (Code.auth (R := Unit) ({ witnessServer with conns := [⟨0, .connected⟩, ⟨1, .authenticated⟩] }) 0 [some [112]]).1.conns 0
      = some .authenticated := by decide

/-! ### The password is in force however it was configured -/

/-- A server given a password by ANY supported means — command line (`--requirepass` / `--password`), configuration
    file (`requirepass` line), or both — runs with one: the command line's last value if there is one, else the
    file's last.  (With the password in force, everything above applies.) -/
theorem password_configured_by_any_means (cli file : List Bytes) :
    Code.effectivePassword .ifGiven cli file = Spec.configuredPassword cli file ∧
    ((cli ≠ [] ∨ file ≠ []) → (Code.effectivePassword .ifGiven cli file).isSome = true) := by
  refine ⟨rfl, fun h => ?_⟩
  unfold Code.effectivePassword
  cases hc : cli.getLast? with
  | some p => rfl
  | none => exact List.getLast?_isSome.2 (h.resolve_left fun hne => hne (List.getLast?_eq_none_iff.1 hc))

/-- The configuration file passes a password through UNCHANGED, whatever characters it contains — `#`, `;`, `=`, quotes,
    inner blanks and tabs, backslashes, text that looks like a directive: for every value `v` that the grammar can
    express at all (no white space at either end, as `str::trim` sees it — the two hypotheses), the line
    `requirepass v` yields exactly `v`.  Nothing is cut, unquoted or unescaped. -/
theorem requirepass_line_passes_value_unchanged (v : Bytes)
    (h1 : trim (REQUIREPASS ++ 32 :: v) = REQUIREPASS ++ 32 :: v) (h2 : trim v = v) :
    Code.parseConfigLine false (REQUIREPASS ++ 32 :: v) = some (REQUIREPASS, v) := by
  have hs : splitFirstBlank (REQUIREPASS ++ 32 :: v) = some (REQUIREPASS, v) :=
    splitFirstBlank_word REQUIREPASS (by decide) v
  have ht : (trim REQUIREPASS).map (fun b => if 65 ≤ b ∧ b ≤ 90 then b + 32 else b) = REQUIREPASS := by decide
  unfold Code.parseConfigLine
  simp only [h1]
  rw [if_neg (by simp [REQUIREPASS])]
  simp only [Bool.false_eq_true, if_false, hs, ht, h2]

/-- Non-vacuity, on the values the check writes into files: the hypotheses hold and the value comes through. -/
example :
    ∀ v ∈ [nameBytes "Tr0ub4dor#3x", nameBytes "#lead", nameBytes "a;b", nameBytes "k=v", nameBytes "\"quoted\"", nameBytes "in ner  blanks",
           nameBytes "back\\slash", nameBytes "port 1", nameBytes "requirepass other", [116, 9, 105]],
      trim (REQUIREPASS ++ 32 :: v) = REQUIREPASS ++ 32 :: v ∧ trim v = v ∧
      Code.filePasswords false [REQUIREPASS ++ 32 :: v] = [v] := by
  simp only [nameBytes_eq_asciiBytes]
  decide +kernel

/-- … and a value with a blank at an end is not expressible: the file gives the trimmed value. -/
example : Code.filePasswords false [REQUIREPASS ++ 32 :: nameBytes " pw "] = [nameBytes "pw"] := by
  simp only [nameBytes_eq_asciiBytes]
  decide

/-- Witness: a grammar that drops "trailing comments" truncates a password containing `#` — the server then runs with a
    proper prefix of the password it was given, which authenticates, while the exact password is refused. -/
theorem hash_cutting_grammar_truncates_password :
    Code.filePasswords true [REQUIREPASS ++ 32 :: nameBytes "Tr0ub4dor#3x"] = [nameBytes "Tr0ub4dor"] ∧
    Code.filePasswords false [REQUIREPASS ++ 32 :: nameBytes "Tr0ub4dor#3x"] = [nameBytes "Tr0ub4dor#3x"] := by
  simp only [nameBytes_eq_asciiBytes]
  decide

/-- The tree's configuration-file grammar is one of the two modelled ones: the pinned one (directive cut at the first blank, value
    verbatim) or the repaired one (byte-order mark dropped, directive cut at the first white space of any kind; `requirepass` takes
    exactly one argument in redis.conf syntax).  Anything else: the driver predicts nothing for file-configured servers. -/
theorem tree_config_line_grammar :
    (Gen.configLineGrammar = "rest-of-line-trimmed" ∨ Gen.configLineGrammar = "first-whitespace-bom") ∧
    (Gen.requirepassValue = "verbatim" ∨ Gen.requirepassValue = "one-sdssplitargs-argument") := by decide

/-! #### The prescribed grammar (`Grammar.spec`: Redis's reading of a redis.conf line) -/

/-- Under the prescribed grammar, for EVERY configuration text: if any of its lines reads as a `requirepass`
    directive — after an optional byte-order mark and surrounding white space its first word, delimited by white space of any
    kind, is `requirepass` in any letter case — then the server either does not start or runs WITH a password.  No such line, however
    ill-formed (no value, several values, unbalanced quotes, a trailing remark, a TAB as separator, invalid UTF-8 …), and nothing
    that follows it, yields a running open server. -/
theorem config_never_open (pre : List Bytes) (l : Bytes) (post : List Bytes)
    (h : looksLikeRequirepass pre.isEmpty l = true) :
    Code.loadConfig Grammar.spec (pre ++ l :: post) ≠ .running none :=
  loadFrom_never_open Grammar.spec rfl rfl post l pre true none (by simpa using h)

/-- Every password can be written into the file, and what the server then runs with is
    exactly that password: for every byte string `p` (valid UTF-8), the line `requirepass`, a blank or a TAB, and `p` between double
    quotes with everything but printable ASCII escaped as `\xHH` yields the password `p` — the quotes and escapes are not part of it.
    (`h1`, `h2`: the line and the quoted value carry no white space at their ends, as `str::trim` sees it.) -/
theorem config_password_is_the_unquoted_value (p : Bytes) (hp : ∀ b ∈ p, b < 256) (hu : utf8Valid p = true)
    (sep : Nat) (hsep : sep = 32 ∨ sep = 9) (first : Bool)
    (h1 : trim (REQUIREPASS ++ sep :: quoteArg p) = REQUIREPASS ++ sep :: quoteArg p) (h2 : trim (quoteArg p) = quoteArg p) :
    Code.parseLine Grammar.spec first (REQUIREPASS ++ sep :: quoteArg p) = .requirepass p :=
  parseLine_requirepass Grammar.spec first sep (hsep.imp_right fun h => ⟨rfl, h⟩) (quoteArg p) p h1 h2
    (fun _ => ⟨splitArgs_quoteArg p hp, hu⟩) (fun h => nomatch h)

/-- Non-vacuity on the hunter's values: the hypotheses hold and the whole file loads with exactly the password. -/
example :
    ∀ p ∈ [nameBytes "open sesame", nameBytes "s3cret", nameBytes "with \"quotes\" and \\", [195, 169, 9, 1], []],
      trim (REQUIREPASS ++ 9 :: quoteArg p) = REQUIREPASS ++ 9 :: quoteArg p ∧ trim (quoteArg p) = quoteArg p ∧
      Code.loadConfig Grammar.spec [nameBytes "# a comment", REQUIREPASS ++ 9 :: quoteArg p] = .running (some p) := by
  simp only [nameBytes_eq_asciiBytes]
  decide +kernel

/-- The prescribed reading of the hunter's lines: TAB separator (with and without later blanks), byte-order mark, double and single
    quotes, blanks inside quotes, escapes → the unquoted value; unbalanced quotes, a trailing remark, no value → no start. -/
example :
    Code.loadConfig Grammar.spec [nameBytes "requirepass\t\"open sesame\""] = .running (some (nameBytes "open sesame")) ∧
    Code.loadConfig Grammar.spec [nameBytes "requirepass\tsecret"] = .running (some (nameBytes "secret")) ∧
    Code.loadConfig Grammar.spec [BOM ++ nameBytes "requirepass open-sesame"] = .running (some (nameBytes "open-sesame")) ∧
    Code.loadConfig Grammar.spec [nameBytes "requirepass \"s3cret\""] = .running (some (nameBytes "s3cret")) ∧
    Code.loadConfig Grammar.spec [nameBytes "REQUIREPASS 's3cret'"] = .running (some (nameBytes "s3cret")) ∧
    Code.loadConfig Grammar.spec [nameBytes "requirepass \"a\\x41\\n\\\"b\""] = .running (some [97, 65, 10, 34, 98]) ∧
    Code.loadConfig Grammar.spec [nameBytes "requirepass \"unterminated"] = .startError ∧
    Code.loadConfig Grammar.spec [nameBytes "requirepass pw # remark"] = .startError ∧
    Code.loadConfig Grammar.spec [nameBytes "requirepass"] = .startError := by
  simp only [nameBytes_eq_asciiBytes]
  decide +kernel

/-! #### The pinned grammar (`Grammar.pinned`, the tree before C17_2 / C17_3) -/

/-- `config_never_open` FAILS for the pinned grammar (finding C17-config-directive-cut-at-blank): a `requirepass` line whose separator
    is a TAB and that has a blank further right (inside the quoted password, before a remark), and a first line behind a byte-order
    mark, are cut into an unknown directive, skipped with a warning — and the server runs OPEN.  The same TAB line without any blank
    does not start: the asymmetry is the defect. -/
theorem config_never_open_fails_pinned :
    looksLikeRequirepass true (nameBytes "requirepass\t\"open sesame\"") = true ∧
    Code.loadConfig Grammar.pinned [nameBytes "requirepass\t\"open sesame\""] = .running none ∧
    looksLikeRequirepass true (BOM ++ nameBytes "requirepass open-sesame") = true ∧
    Code.loadConfig Grammar.pinned [BOM ++ nameBytes "requirepass open-sesame"] = .running none ∧
    Code.loadConfig Grammar.pinned [nameBytes "requirepass\tsecret # remark"] = .running none ∧
    Code.loadConfig Grammar.pinned [nameBytes "requirepass\tsecret"] = .startError := by
  simp only [nameBytes_eq_asciiBytes]
  decide

/-- … and it holds again with the two switches of C17_2 alone (directive cut at any white space, byte-order mark dropped), whatever
    the third: for every configuration text, as above. -/
theorem config_never_open_with_anyWs_bom (unquote : Bool) (pre : List Bytes) (l : Bytes) (post : List Bytes)
    (h : looksLikeRequirepass pre.isEmpty l = true) :
    Code.loadConfig ⟨true, true, unquote⟩ (pre ++ l :: post) ≠ .running none :=
  loadFrom_never_open ⟨true, true, unquote⟩ rfl rfl post l pre true none (by simpa using h)

/-- `config_password_is_the_unquoted_value` FAILS for the pinned grammar (finding C17-config-quotes-in-password): the quotes around the
    value stay in the password, so the exact password `s3cret` is refused and the 8-byte string with the quotes authenticates. -/
theorem config_quotes_stay_in_password_pinned :
    Code.loadConfig Grammar.pinned [nameBytes "requirepass \"s3cret\""] = .running (some (nameBytes "\"s3cret\"")) ∧
    Code.loadConfig Grammar.spec [nameBytes "requirepass \"s3cret\""] = .running (some (nameBytes "s3cret")) ∧
    Code.loadConfig Grammar.pinned [nameBytes "requirepass 'two words'"] = .running (some (nameBytes "'two words'")) := by
  simp only [nameBytes_eq_asciiBytes]
  decide

/-- `_partial`: where the pinned grammar already agrees with the prescribed one — a blank as separator and a plain word as value (one
    `sdssplitargs` argument that is the text itself: no quotes, no backslash-escapes, no white space), not on a first line with a
    byte-order mark. -/
theorem config_pinned_agrees_on_plain_values (v : Bytes) (first : Bool)
    (h1 : trim (REQUIREPASS ++ 32 :: v) = REQUIREPASS ++ 32 :: v) (h2 : trim v = v)
    (h3 : splitArgs v = some [v]) (hu : utf8Valid v = true) :
    Code.parseLine Grammar.pinned first (REQUIREPASS ++ 32 :: v) = .requirepass v ∧
    Code.parseLine Grammar.spec first (REQUIREPASS ++ 32 :: v) = .requirepass v :=
  ⟨parseLine_requirepass Grammar.pinned first 32 (.inl rfl) v v h1 h2 (fun h => nomatch h) (fun _ => rfl),
   parseLine_requirepass Grammar.spec first 32 (.inl rfl) v v h1 h2 (fun _ => ⟨h3, hu⟩) (fun h => nomatch h)⟩

/-- Witness: assigning the command line's `Option` unconditionally wipes a password that only the file gives. -/
theorem cli_always_rule_wipes_file_password :
    Code.effectivePassword .always [] [[112]] = none ∧ Spec.configuredPassword [] [[112]] = some [112] := by decide

/-! ### Allowed commands are harmless -/

/-- Whatever an unauthenticated connection sends — PING, QUIT, a failed or a
    successful AUTH, anything refused — the dataset, the subscription table, the replica table, the monitor
    table and the password are untouched and every OTHER connection keeps its state.  (Outside the pre-gate
    special cases; the only thing that can change is the caller's own connection state.) -/
theorem allowed_are_harmless (cfg : Cfg) (hk : cfg.allowKnown = true) (h : Dispatch D R)
    (s : Server D) (c : Nat) (req : Req) (pw : Bytes) (hpw : s.password = some pw)
    (hst : stateOf s.conns c ≠ some .authenticated)
    (hpre : ∀ name args, req = .cmd name args → cfg.normLoop name ∉ cfg.preGate) :
    sameData s (Code.processConnectionFrame cfg h s c req).1 ∧
    ∀ b, b ≠ c → stateOf (Code.processConnectionFrame cfg h s c req).1.conns b = stateOf s.conns b :=
  have H := unauth_frame_harmless cfg hk h s c req pw hpw hst hpre
  ⟨H.1, H.2.1⟩

/-- PING answers `+PONG` or the client's own argument, QUIT answers `+OK`; neither changes anything
    (QUIT closes the connection at the end of the batch: `Code.processBatch`). -/
theorem ping_quit_replies (h : Dispatch D R) (s : Server D) (c : Nat) (args : List Arg)
    (hpw : s.password.isSome = true) (hc : stateOf s.conns c = some .connected) :
    Code.processFrame tree h s c (.cmd PING args) = (s, Code.ping args) ∧
    Code.processFrame tree h s c (.cmd QUIT args) = (s, .ok) := by
  have hg := fun name => processFrame_gated tree h s c name args _ hc hpw (by decide)
  constructor
  · rw [hg, show findArm tree.allow (tree.normFrame PING) = some .ping by decide]
  · rw [hg, show findArm tree.allow (tree.normFrame QUIT) = some .okOnly by decide]

/-! ### Authentication is per connection -/

/-- In ANY history of the event loop — batches of any connections in any
    interleaving, accepts, wake-ups, closes, drops; other connections may authenticate and then do whatever
    dispatch allows — a connection `b` that starts unauthenticated and never itself presents the exact
    password is never `Authenticated` (nor `Blocked`, from which a wake-up would promote it). -/
theorem auth_is_per_connection (cfg : Cfg) {h : Dispatch D R} (hh : Honest h) (s : Server D) (pw : Bytes)
    (hpw : s.password = some pw) (b : Nat) (hb : low (stateOf s.conns b))
    (evs : List Code.Event) (hno : neverAuthenticates cfg pw b evs) :
    low (stateOf (Code.run cfg h s evs).1.conns b) ∧ (Code.run cfg h s evs).1.password = some pw :=
  And.symm (run_low hh evs hno ⟨hpw, hb⟩)

/-- Non-vacuity (and a computed instance): connection 1 exists unauthenticated, 2 is accepted, authenticates
    with the exact password and works; 1 meanwhile sends a refused command, a wrong password (a prefix) and
    a PING, and 2 sends QUIT.  Afterwards 1 is still `Connected`, 2 is `Closing`, and 1's replies are
    NOAUTH, an error, PONG (2's SET and QUIT go through dispatch: it passed the gate). -/
example :
    let evs : List Code.Event :=
      [.accept 2, .batch 2 [.cmd [97, 117, 116, 104] [some [112]]], .batch 1 [.cmd [71, 69, 84] [some [107]], .cmd AUTH [some []], .cmd PING []],
       .batch 2 [.cmd [83, 69, 84] [some [107], some [120]], .cmd QUIT []], .wake 1]
    neverAuthenticates tree [112] 1 evs ∧
    stateOf (Code.run tree noDispatch witnessServer evs).1.conns 1 = some .connected ∧
    stateOf (Code.run tree noDispatch witnessServer evs).1.conns 2 = some .closing ∧
    (Code.run tree noDispatch witnessServer evs).2 =
      [[], [.ok], [.error .noauth, .error .other, .pong], [.dispatched (), .dispatched ()], []] :=
  ⟨neverAuthenticates_of_all (by decide), by decide, by decide, rfl⟩

/-- The two-connection instance the property names: `a` authenticates with the exact password; `b` stays
    exactly as it was. -/
theorem auth_of_a_leaves_b (h : Dispatch D R) (s : Server D) (a b : Nat) (hab : b ≠ a) (pw : Bytes)
    (hpw : s.password = some pw) (hutf : utf8Valid pw = true) (ha : stateOf s.conns a = some .connected) :
    let s' := (Code.processConnectionFrame tree h s a (.cmd AUTH [some pw])).1
    stateOf s'.conns a = some .authenticated ∧ stateOf s'.conns b = stateOf s.conns b := by
  intro s'
  constructor
  · exact (only_exact_password_tree h s a AUTH [some pw] pw hpw hutf ha (by decide) (by decide)).2 rfl
  · have hst : stateOf s.conns a ≠ some .authenticated := by rw [ha]; simp
    refine (allowed_are_harmless tree tree_allow_known h s a _ pw hpw hst ?_).2 b hab
    intro name args hr hm
    cases hr
    exact absurd (tree_preGate_within _ hm) (by decide)

/-- Non-vacuity of `Honest`: the key-space dispatch used by the driver is honest. -/
theorem ksDispatch_honest (q : KS.Quirks) (now : Nat) : Honest (ksDispatch q now) := by
  constructor
  · intro s c n a
    unfold ksDispatch
    split <;> rfl
  · intro s c n a b hb
    unfold ksDispatch
    split <;> exact hb

/-! ### Pipelines -/

/-- In a pipeline `pre ++ [cmd] ++ post` of an unauthenticated connection in
    which nothing before `cmd` presents the exact password, a command outside the allow-list (and outside the
    pre-gate special cases) is answered with an error at its own position, and everything else — the final
    server state and every other reply — is exactly what the pipeline without it produces. -/
theorem pipeline_position_irrelevant (cfg : Cfg) {h : Dispatch D R} (hh : Honest h) (s : Server D) (c : Nat)
    (pw : Bytes) (hpw : s.password = some pw) (hc : low (stateOf s.conns c))
    (pre post : List Req) (hpreq : ∀ r ∈ pre, isExactAuth cfg pw r = false)
    (name : Bytes) (args : List Arg)
    (hallow : cfg.normFrame name ∉ cfg.allow.map (·.1)) (hpg : cfg.normLoop name ∉ cfg.preGate) :
    ∃ k, Code.runFrames cfg h s c (pre ++ .cmd name args :: post) =
      ((Code.runFrames cfg h s c (pre ++ post)).1,
       (Code.runFrames cfg h s c pre).2 ++ .error k ::
         (Code.runFrames cfg h (Code.runFrames cfg h s c pre).1 c post).2) := by
  have hl := runFrames_low hh c pre (fun _ => hpreq) ⟨hpw, hc⟩
  obtain ⟨k, hk⟩ := gate_refuses cfg h (Code.runFrames cfg h s c pre).1 c name args
    (by rw [hl.1]; rfl) hl.2.1 hallow hpg
  refine ⟨k, ?_⟩
  rw [runFrames_append, runFrames_append]
  simp only [Code.runFrames, hk]

/-- Non-vacuity: `PING; GET canary; PING x` from the fresh connection of the witness server. -/
example :
    Code.runFrames tree noDispatch witnessServer 1 [.cmd PING [], .cmd [71, 69, 84] [some [107]], .cmd PING [some [120]]]
      = (witnessServer, [.pong, .error .noauth, .echo (some [120])]) := rfl

/-- The loop that stops at a command that blocked and keeps the rest of the
    batch for later never keeps anything back for a connection that has not authenticated: such a connection
    cannot block, so its whole pipeline is answered at once, exactly as by the plain loop — in particular
    `BLPOP k 0; GET secret` of an unauthenticated connection is two refusals, not a parked GET. -/
theorem deferral_needs_authentication (cfg : Cfg) {h : Dispatch D R} (hh : Honest h) (s : Server D) (c : Nat)
    (pw : Bytes) (hpw : s.password = some pw) (hc : low (stateOf s.conns c))
    (reqs : List Req) (hno : ∀ r ∈ reqs, isExactAuth cfg pw r = false)
    (hq : cfg.quitEndsBatch = true → ∀ r ∈ reqs, Code.isQuit cfg r = false) :
    Code.runFramesD cfg h s c reqs = ((Code.runFrames cfg h s c reqs).1, (Code.runFrames cfg h s c reqs).2, []) :=
  runFramesD_low hh c reqs hno hq ⟨hpw, hc⟩

/-- QUIT ends the batch: whatever follows it in the same read — any number of frames, any
    commands — is neither executed nor answered: the state and the replies are exactly those of the read cut behind the
    QUIT.  This holds for EVERY connection, authenticated or not, every dispatch and whatever precedes the QUIT; in
    particular no command parked behind a QUIT can run before (or after) authentication. -/
theorem nothing_runs_behind_quit (cfg : Cfg) (hq : cfg.quitEndsBatch = true) (h : Dispatch D R) (s : Server D) (c : Nat)
    (pre : List Req) (q : Req) (hquit : Code.isQuit cfg q = true) (post : List Req) :
    (Code.runFramesD cfg h s c (pre ++ q :: post)).1 = (Code.runFramesD cfg h s c (pre ++ [q])).1 ∧
    (Code.runFramesD cfg h s c (pre ++ q :: post)).2.1 = (Code.runFramesD cfg h s c (pre ++ [q])).2.1 ∧
    (Code.runFramesD cfg h s c (pre ++ q :: post)).2.1.length ≤ pre.length + 1 := by
  have h1 := runFramesD_behind_quit cfg hq h c q hquit post pre s
  refine ⟨h1.1, h1.2, ?_⟩
  rw [h1.2]
  have := runFramesD_replies_length_le cfg h c (pre ++ [q]) s
  simpa using this

/-- The tree ends the batch at QUIT (`Gen.quitEndsBatch`), and `process_frame` no longer trims the name, so that the frame
    loop (QUIT, the pre-gate special cases), the gate and the dispatch all see the same name. -/
theorem tree_quit_ends_batch_and_names_agree : Gen.quitEndsBatch = true ∧ Gen.frameNameTrimmed = false := by decide

/-- With one normalisation everywhere, a name that the gate lets through as QUIT is the name that ends the batch and closes
    the connection, and a name with white space around it is neither (it is refused like any unknown command). -/
theorem tree_gate_and_loop_see_the_same_name (name : Bytes) : tree.normFrame name = tree.normLoop name := by
  show Code.normFrame Gen.frameNameTrimmed name = Code.normLoop name
  have : Gen.frameNameTrimmed = false := by decide
  rw [this]; rfl

/-- Computed on the tree: `PING; QUIT; GET canary; SYNC; PING` from the fresh connection of the witness server answers
    PONG and +OK and nothing else; the connection is closing; and ` QUIT` / `quit ` (blanks) are refused, do not close. -/
example :
    Code.processBatch tree noDispatch witnessServer 1
        [.cmd PING [], .cmd [113, 117, 105, 116] [], .cmd [71, 69, 84] [some [107]], .cmd SYNC [], .cmd PING []]
      = ({ witnessServer with conns := [⟨1, .closing⟩] }, [.pong, .ok]) ∧
    Code.processBatch tree noDispatch witnessServer 1 [.cmd [32, 81, 85, 73, 84] [], .cmd [113, 117, 105, 116, 32] [], .cmd PING []]
      = (witnessServer, [.error .noauth, .error .noauth, .pong]) := ⟨rfl, rfl⟩

/-- Non-vacuity of the deferring loop: an authenticated connection whose BLPOP blocks keeps the rest back. -/
example :
    let h : Dispatch Nat Unit := fun s c n _ =>
      (if n = [66] then { s with conns := setState s.conns c .blocked } else s, ())
    let s : Server Nat := { password := some [112], conns := [⟨1, .authenticated⟩], store := 0, subs := [], replicas := [], monitors := [] }
    (Code.runFramesD tree h s 1 [.cmd [71] [], .cmd [66] [], .cmd [71] [], .cmd PING []]).2.2 = [.cmd [71] [], .cmd PING []] := by
  decide

/-- The refused command's reply sits at index `pre.length` of the reply list. -/
theorem pipeline_reply_at_position (cfg : Cfg) {h : Dispatch D R} (hh : Honest h) (s : Server D) (c : Nat)
    (pw : Bytes) (hpw : s.password = some pw) (hc : low (stateOf s.conns c))
    (pre post : List Req) (hpreq : ∀ r ∈ pre, isExactAuth cfg pw r = false)
    (name : Bytes) (args : List Arg)
    (hallow : cfg.normFrame name ∉ cfg.allow.map (·.1)) (hpg : cfg.normLoop name ∉ cfg.preGate) :
    ∃ k, (Code.runFrames cfg h s c (pre ++ .cmd name args :: post)).2[pre.length]? = some (.error k) := by
  obtain ⟨k, hk⟩ := pipeline_position_irrelevant cfg hh s c pw hpw hc pre post hpreq name args hallow hpg
  refine ⟨k, ?_⟩
  rw [hk]
  simp [runFrames_length]

/-! ### The property -/

/-- The FULL statement, for the repaired order of processing (`preGate = []`:
    nothing is handled before the gate).  After ANY history in which connection `b` started unauthenticated
    and never presented the exact password — whatever other connections did meanwhile, including
    authenticating, subscribing, running transactions and scripts — EVERY request of `b` whose name is not on
    the allow-list, with any arguments, and every malformed request, is answered with an error and leaves
    the server state exactly as it was. -/
theorem no_access_without_auth (cfg : Cfg) (hfix : cfg.preGate = []) {h : Dispatch D R} (hh : Honest h)
    (s : Server D) (pw : Bytes) (hpw : s.password = some pw) (b : Nat) (hb : low (stateOf s.conns b))
    (evs : List Code.Event) (hno : neverAuthenticates cfg pw b evs)
    (req : Req) (hreq : ∀ name args, req = .cmd name args → cfg.normFrame name ∉ cfg.allow.map (·.1)) :
    ∃ k, Code.processConnectionFrame cfg h (Code.run cfg h s evs).1 b req = ((Code.run cfg h s evs).1, .error k) :=
  unauth_refused cfg h (run_low hh evs hno ⟨hpw, hb⟩) req hreq fun _ _ _ => by rw [hfix]; exact List.not_mem_nil

/-- The same for ANY order of processing, in particular the pinned one, with the explicit exclusion: the
    request's name is not one of those handled before the gate. -/
theorem no_access_without_auth_partial (cfg : Cfg) {h : Dispatch D R} (hh : Honest h)
    (s : Server D) (pw : Bytes) (hpw : s.password = some pw) (b : Nat) (hb : low (stateOf s.conns b))
    (evs : List Code.Event) (hno : neverAuthenticates cfg pw b evs)
    (req : Req) (hreq : ∀ name args, req = .cmd name args → cfg.normFrame name ∉ cfg.allow.map (·.1))
    (hdev : ∀ name args, req = .cmd name args → cfg.normLoop name ∉ cfg.preGate) :
    ∃ k, Code.processConnectionFrame cfg h (Code.run cfg h s evs).1 b req = ((Code.run cfg h s evs).1, .error k) :=
  unauth_refused cfg h (run_low hh evs hno ⟨hpw, hb⟩) req hreq hdev

/-- The partial statement for the tree as regenerated, with the lists spelled out: a request whose name does
    not normalise to AUTH / PING / QUIT nor to SYNC / PSYNC is refused without effect after any history.
    With `Gen.preGate = []`, as on the current tree, the last hypothesis is not needed
    (`no_access_without_auth_tree_fixed`). -/
theorem no_access_without_auth_tree_partial {h : Dispatch D R} (hh : Honest h)
    (s : Server D) (pw : Bytes) (hpw : s.password = some pw) (b : Nat) (hb : low (stateOf s.conns b))
    (evs : List Code.Event) (hno : neverAuthenticates tree pw b evs)
    (name : Bytes) (args : List Arg)
    (hreq : treeNormFrame name ∉ [AUTH, PING, QUIT]) (hdev : Code.normLoop name ∉ [SYNC, PSYNC]) :
    ∃ k, Code.processConnectionFrame tree h (Code.run tree h s evs).1 b (.cmd name args)
          = ((Code.run tree h s evs).1, .error k) := by
  refine no_access_without_auth_partial tree hh s pw hpw b hb evs hno _ ?_ ?_
  · intro n a hr; cases hr; rw [tree_allow_names]; exact hreq
  · intro n a hr hm; cases hr; exact hdev (tree_preGate_within _ hm)

/-- The full statement for the tree, conditional on what the translator reports when the special case is
    guarded (`Gen.preGate = []`, the guarded names in `Gen.preGateGuarded`) — as it does for the current tree. -/
theorem no_access_without_auth_tree_fixed (hfix : Gen.preGate = []) {h : Dispatch D R} (hh : Honest h)
    (s : Server D) (pw : Bytes) (hpw : s.password = some pw) (b : Nat) (hb : low (stateOf s.conns b))
    (evs : List Code.Event) (hno : neverAuthenticates tree pw b evs)
    (name : Bytes) (args : List Arg) (hreq : treeNormFrame name ∉ [AUTH, PING, QUIT]) :
    ∃ k, Code.processConnectionFrame tree h (Code.run tree h s evs).1 b (.cmd name args)
          = ((Code.run tree h s evs).1, .error k) := by
  refine no_access_without_auth tree ?_ hh s pw hpw b hb evs hno _ ?_
  · simp [tree, Cfg.ofTables, hfix]
  · intro n a hr; cases hr; rw [tree_allow_names]; exact hreq

/-! ### Witness: the pinned order of processing violates the full statement -/

/-- Whatever the state of the connection and whatever the password: a name that normalises to SYNC in the
    connection loop, when SYNC is special-cased before the gate, gets the image of the WHOLE dataset and the
    connection is registered as a replica (it then receives every later write). -/
theorem sync_before_gate_leaks (cfg : Cfg) (h : Dispatch D R) (s : Server D) (c : Nat) (name : Bytes) (args : List Arg)
    (hn : cfg.normLoop name = SYNC) (hpre : SYNC ∈ cfg.preGate) :
    Code.processConnectionFrame cfg h s c (.cmd name args) = (Code.registerReplica s c, .fullResync s.store) ∧
    c ∈ (Code.registerReplica s c).replicas := by
  unfold Code.processConnectionFrame
  simp only [hn, hpre, if_true]
  refine ⟨by simp [Code.syncCommand], ?_⟩
  unfold Code.registerReplica
  by_cases hc : c ∈ s.replicas <;> simp [hc]

/-- The witness, computed: on the pinned order of processing the fresh connection's `SYNC` (or `sync`, or
    `ſync` — U+017F upper-cases to `S`) and `PSYNC ? -1` receive the dataset with the canary in it and
    register the connection as a replica; the same connection's `GET` is refused, and so is `SYNC` under the
    repaired order. -/
theorem sync_leaks_unauthenticated :
    Code.processConnectionFrame Cfg.pinned noDispatch witnessServer 1 (.cmd SYNC [])
      = ({ witnessServer with replicas := [1] }, .fullResync witnessServer.store) ∧
    Code.processConnectionFrame Cfg.pinned noDispatch witnessServer 1 (.cmd [115, 121, 110, 99] [])
      = ({ witnessServer with replicas := [1] }, .fullResync witnessServer.store) ∧
    Code.processConnectionFrame Cfg.pinned noDispatch witnessServer 1 (.cmd [197, 191, 121, 110, 99] [])
      = ({ witnessServer with replicas := [1] }, .fullResync witnessServer.store) ∧
    Code.processConnectionFrame Cfg.pinned noDispatch witnessServer 1 (.cmd PSYNC [some [63], some [45, 49]])
      = ({ witnessServer with replicas := [1] }, .fullResync witnessServer.store) ∧
    Code.processConnectionFrame Cfg.pinned noDispatch witnessServer 1 (.cmd [71, 69, 84] [some [107]])
      = (witnessServer, .error .noauth) ∧
    Code.processConnectionFrame Cfg.pinned.repaired noDispatch witnessServer 1 (.cmd SYNC [])
      = (witnessServer, .error .noauth) :=
  ⟨rfl, rfl, rfl, rfl, rfl, rfl⟩

/-- `no_access_without_auth` FAILS for the pinned order of processing: there are a password-protected
    server, an unauthenticated connection that never presented the password, and a request outside the
    allow-list that is NOT answered with an error. -/
theorem no_access_without_auth_fails_pinned :
    ¬ ∀ (s : Server KS.Store) (pw : Bytes), s.password = some pw → ∀ b, low (stateOf s.conns b) →
        ∀ (req : Req), (∀ name args, req = .cmd name args → Cfg.pinned.normFrame name ∉ Cfg.pinned.allow.map (·.1)) →
          ∃ k, Code.processConnectionFrame Cfg.pinned noDispatch s b req = (s, .error k) := by
  intro hall
  obtain ⟨k, hk⟩ := hall witnessServer [112] rfl 1 (by decide) (.cmd SYNC [])
    (by intro name args hr; cases hr; decide)
  rw [sync_leaks_unauthenticated.1] at hk
  exact absurd (congrArg Prod.snd hk) (by simp)

/-- The tree's order of processing is the pinned or the repaired one — the current tree's is the repaired one,
    `tree.preGate = []` — and its allow-list is the pinned one (the check reads the lists from the driver, not
    from this lemma). -/
theorem tree_is_pinned_or_repaired :
    (tree.preGate = Cfg.pinned.preGate ∨ tree.preGate = []) ∧ tree.allow = Cfg.pinned.allow := by decide

end Ferrous.C17
