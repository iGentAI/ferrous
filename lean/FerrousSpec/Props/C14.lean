/-
  C14 — pub/sub delivers exactly once per matching subscription; acknowledgement counts;
  nothing after unsubscribe / disconnect; publish order; the glob matcher.

  Property theorems only; helper lemmas live in FerrousSpec/Proofs/PubSub*.lean.
  Model: FerrousSpec/Model/PubSub.lean — `Code`: the three maps of `PubSubManager`
  (src/pubsub.rs) with subscribe / psubscribe / unsubscribe / punsubscribe /
  unsubscribe_all / publish (switch `dedup`: `true` = the `seen_connections`
  de-duplication of the tree as pinned, `false` = one delivery per matching subscription,
  the current tree: `Gen.pubsubDedup = false`) and the matcher
  `pattern_matches`; `Spec`: the flat set of subscriptions held, one delivery per matching
  subscription, the meaning of `* ? [...] \x` (Redis's glob).  All history theorems quantify over every list of
  operations from the empty manager.
  Tie to the code: translator/pubsub_consts.py regenerates `Gen.pubsubDedup` (is the
  de-duplication still in `publish`?) and `Gen.pubsubGlobArms` (the arms of the matcher's
  `match`) from src/pubsub.rs on every run; lib/c14.py executes the same histories on the real
  `PubSubManager` / `pattern_matches` (in-process) and on the real server over TCP with the
  model switch set from the same extraction.
-/
import FerrousSpec.Proofs.PubSubSess
import FerrousSpec.Gen.PubSub
namespace Ferrous.C14
open Ferrous Ferrous.PubSub

/-! ### (1) The three maps stay mutual inverses -/

/-- After every history: a connection is listed under a channel (pattern) iff that channel
    (pattern) is listed under the connection; every key occurs once in each map; no channel
    or pattern is mapped to an empty or duplicated set of connections; no connection's lists
    contain duplicates.  (`channel_subs`, `pattern_subs`, `conn_subs` of `PubSubManager`.) -/
theorem maps_agree (ops : List Op) :
    let st := Code.after {} ops
    (∀ ch c, (∃ cs, (ch, cs) ∈ st.channels ∧ c ∈ cs) ↔ (∃ i, (c, i) ∈ st.subs ∧ ch ∈ i.1)) ∧
    (∀ p c, (∃ cs, (p, cs) ∈ st.patterns ∧ c ∈ cs) ↔ (∃ i, (c, i) ∈ st.subs ∧ p ∈ i.2)) ∧
    (st.channels.map (·.1)).Nodup ∧ (st.patterns.map (·.1)).Nodup ∧ (st.subs.map (·.1)).Nodup ∧
    (∀ e ∈ st.channels, e.2 ≠ [] ∧ e.2.Nodup) ∧ (∀ e ∈ st.patterns, e.2 ≠ [] ∧ e.2.Nodup) ∧
    (∀ e ∈ st.subs, e.2.1.Nodup ∧ e.2.2.Nodup) := by
  intro st
  obtain ⟨h1, h2, h3, h4, h5⟩ := (Inv.init.after ops).raw
  exact ⟨h1 .chan, h1 .pat, h2 .chan, h2 .pat, h3, h4 .chan, h4 .pat, fun e he => ⟨h5 .chan e he, h5 .pat e he⟩⟩

/-- For histories a client can produce (SUBSCRIBE / PSUBSCRIBE carry at least one name — the
    handlers' arity check) no connection keeps an entry without subscriptions, i.e.
    `is_subscribed` is true exactly for connections that hold something. -/
theorem no_empty_entries (ops : List Op) (hops : ∀ op ∈ ops, Code.clientOp op = true) :
    ∀ e ∈ (Code.after {} ops).subs, e.2 ≠ ([], []) := by
  intro e he
  have hn : NoEmptyInfo (Code.after {} ops) :=
    NoEmptyInfo.after (by intro c i h; cases h) ops hops
  exact hn e.1 e.2 ((mem_iff_aget (Inv.init.after ops).keysSubs e.1 e.2).1 he)

/-- Witness that the hypothesis is needed: `subscribe(conn, vec![])` through the library API
    leaves an entry without subscriptions behind (`is_subscribed(1)` is then true). -/
theorem empty_entry_after_empty_subscribe :
    (Code.after {} [Op.subscribe 1 .chan []]).subs = [(1, ([], []))] := by decide

/-! ### (2) Acknowledgements carry the remaining subscription count -/

/-- FULL STATEMENT (the tree now, `idle = true`): after every history, what the server writes in
    answer to SUBSCRIBE / PSUBSCRIBE / UNSUBSCRIBE / PUNSUBSCRIBE is exactly what is prescribed:
    one confirmation per name, each carrying the number of subscriptions (channels + patterns)
    the client holds right after that name was processed (`spec_ack_is_count`); without names one
    per subscription of that kind held, or — when none is held — a single confirmation with a nil
    name and the count.  No exception for clients that hold nothing. -/
theorem ack_count_correct (dedup : Bool) (ops : List Op) (c : ConnId) (k : Kind) :
    (∀ xs, Code.emit dedup true (Code.after {} ops) (.subscribe c k xs) =
           Spec.emit (Spec.after [] ops) (.subscribe c k xs)) ∧
    (∀ xs, Code.emit dedup true (Code.after {} ops) (.unsubscribe c k xs) =
           Spec.emit (Spec.after [] ops) (.unsubscribe c k xs)) :=
  ⟨fun xs => emit_subscribe_eq (Rel.init.after ops) dedup true c k xs,
   fun xs => emit_unsubscribe_eq (Rel.init.after ops) dedup c k xs⟩

/-- The same one level down, for the library API: the `SubResult`s `PubSubManager` returns are the
    prescribed acknowledgements, except that `unsubscribe` / `punsubscribe` return none at all for a
    connection without an entry (the handlers then write the confirmations themselves). -/
theorem manager_results_eq_spec (ops : List Op) (op : Op) :
    (Code.apply (Code.after {} ops) op).2 =
      if Code.silent (Code.after {} ops) op then [] else (Spec.apply (Spec.after [] ops) op).2 :=
  ((Rel.init.after ops).next op).2

/-- WITNESS: without the handlers' fallback (`idle = false`, the tree as pinned) a client holding
    nothing gets no confirmation where one with count 0 is due. -/
theorem acks_missing_without_fallback :
    Code.emit true false {} (.unsubscribe 1 .chan (some [[97]])) = [] ∧
    Spec.emit [] (.unsubscribe 1 .chan (some [[97]])) = [(1, .ack ⟨.chan, true, [97], 0, false⟩)] ∧
    Code.emit true false {} (.unsubscribe 1 .pat none) = [] ∧
    Spec.emit [] (.unsubscribe 1 .pat none) = [(1, .ackNil .pat 0)] := by decide

/-- Tie to the code: `handle_unsubscribe` and `handle_punsubscribe` contain the fallback, so the
    full statement speaks about the current tree.  Fails to check if it is removed. -/
theorem tree_acks_when_idle : Gen.pubsubAcksWhenIdle = true := by decide

/-- What the spec's acknowledgement count is: the size of the client's subscription set at that
    moment (also in the nil-name confirmation). -/
theorem spec_ack_is_count (k : Kind) (c : ConnId) (s : Spec.State) (x : Bytes) :
    (Spec.sub1 k c s x).2.count = Spec.count (Spec.sub1 k c s x).1 c ∧
    (Spec.unsub1 k c s x).2.count = Spec.count (Spec.unsub1 k c s x).1 c ∧
    (Spec.heldBy s c k = [] → Spec.unsubEvents k c s none = [.ackNil k (Spec.count s c)]) :=
  ⟨rfl, rfl, fun h => by simp [Spec.unsubEvents, h]⟩

/-- The per-connection map of the code represents the spec's set after every history: same
    names, same order, for every connection and kind. -/
theorem held_eq_spec (ops : List Op) (c : ConnId) :
    (match aget (Code.after {} ops).subs c with
      | some i => i
      | none => ([], [])) =
    (Spec.heldBy (Spec.after [] ops) c .chan, Spec.heldBy (Spec.after [] ops) c .pat) := by
  have h := Rel.init.after ops
  rw [h.heldEq, h.heldEq]
  unfold held info
  cases aget (Code.after {} ops).subs c <;> rfl

/-! ### (3) PUBLISH: one delivery per matching subscription -/

/-- FULL STATEMENT (holds for the code without the de-duplication, `dedup = false`): after
    every history the receivers of a PUBLISH are, up to order, exactly one per subscription
    (channel or pattern, of any connection) matching the channel, and the integer reply is
    their number. -/
theorem publish_eq_spec (ops : List Op) (ch : Bytes) :
    (publish false (Code.after {} ops) ch).Perm (Spec.deliveries (Spec.after [] ops) ch) ∧
    (publish false (Code.after {} ops) ch).length = (Spec.deliveries (Spec.after [] ops) ch).length := by
  have h := publish_perm_spec false (Inv.init.after ops) (Rel.init.after ops) ch nofun
  exact ⟨h, h.length_eq⟩

/-- PARTIAL (the tree as pinned, `dedup = true`): the same holds whenever no connection holds two
    subscriptions matching the channel. -/
theorem publish_eq_spec_partial (ops : List Op) (ch : Bytes)
    (hno : ((Spec.deliveries (Spec.after [] ops) ch).map (·.1)).Nodup) :
    (publish true (Code.after {} ops) ch).Perm (Spec.deliveries (Spec.after [] ops) ch) ∧
    (publish true (Code.after {} ops) ch).length = (Spec.deliveries (Spec.after [] ops) ch).length := by
  have h := publish_perm_spec true (Inv.init.after ops) (Rel.init.after ops) ch (fun _ => hno)
  exact ⟨h, h.length_eq⟩

/-- WITNESS: with the de-duplication a client subscribed to `news` and to the pattern `n*` gets
    ONE frame and PUBLISH answers 1, where the property prescribes a `message` and a `pmessage`
    (reply 2). -/
theorem publish_dedup_fails :
    let ops := [Op.subscribe 1 .chan [[110, 101, 119, 115]], Op.subscribe 1 .pat [[110, 42]]]
    publish true (Code.after {} ops) [110, 101, 119, 115] = [(1, none)] ∧
    Spec.deliveries (Spec.after [] ops) [110, 101, 119, 115] = [(1, none), (1, some [110, 42])] := by
  decide

/-- Hence the full statement is false for the tree as pinned. -/
theorem publish_eq_spec_fails_with_dedup :
    ¬ ∀ (ops : List Op) (ch : Bytes),
      (publish true (Code.after {} ops) ch).length = (Spec.deliveries (Spec.after [] ops) ch).length := by
  intro h
  have := h [Op.subscribe 1 .chan [[110, 101, 119, 115]], Op.subscribe 1 .pat [[110, 42]]] [110, 101, 119, 115]
  rw [publish_dedup_fails.1, publish_dedup_fails.2] at this
  cases this

/-- What the pinned code does instead, exactly: every connection holding at least one matching
    subscription receives exactly one frame (and nobody else anything). -/
theorem publish_dedup_one_per_connection (ops : List Op) (ch : Bytes) :
    ((publish true (Code.after {} ops) ch).map (·.1)).Nodup ∧
    ∀ c, c ∈ (publish true (Code.after {} ops) ch).map (·.1) ↔
         c ∈ (Spec.deliveries (Spec.after [] ops) ch).map (·.1) := by
  refine ⟨by simpa [publish] using nodup_conns_dedupGo [] _, ?_⟩
  intro c
  have hp := candidates_perm_spec (Inv.init.after ops) (Rel.init.after ops) ch
  simp only [publish, if_true, conns_dedupGo]
  rw [(hp.map (·.1)).mem_iff]
  simp

/-- "…and to nobody else", both variants: whoever receives a frame holds, at that moment, the
    subscription the frame names, and it matches the channel. -/
theorem delivered_only_to_subscribers (dedup : Bool) (ops : List Op) (ch : Bytes) (c : ConnId) (o : Option Bytes)
    (h : (c, o) ∈ publish dedup (Code.after {} ops) ch) :
    match o with
    | none => (⟨c, .chan, ch⟩ : Spec.Sub) ∈ Spec.after [] ops
    | some p => (⟨c, .pat, p⟩ : Spec.Sub) ∈ Spec.after [] ops ∧ Spec.glob p ch = true := by
  have hm := Spec.mem_deliveries.1
    ((candidates_perm_spec (Inv.init.after ops) (Rel.init.after ops) ch).mem_iff.1 (mem_publish h))
  cases o <;> exact hm

/-- The statement about the tree as it is NOW (switch regenerated from src/pubsub.rs): the
    exclusion hypothesis is only needed while the de-duplication is in the source; once it is
    removed this is the full statement. -/
theorem publish_eq_spec_this_tree (ops : List Op) (ch : Bytes)
    (hno : Gen.pubsubDedup = true → ((Spec.deliveries (Spec.after [] ops) ch).map (·.1)).Nodup) :
    (publish Gen.pubsubDedup (Code.after {} ops) ch).Perm (Spec.deliveries (Spec.after [] ops) ch) :=
  publish_perm_spec Gen.pubsubDedup (Inv.init.after ops) (Rel.init.after ops) ch hno

/-! ### (4) Nothing after unsubscribing or disconnecting -/

/-- After its disconnect (`unsubscribe_all`) a connection id receives no `message` / `pmessage`
    frame, whatever the other clients do, until it subscribes again.  Both variants of publish. -/
theorem nothing_after_disconnect (dedup idle : Bool) (ops1 ops2 : List Op) (c : ConnId)
    (hops : ∀ op ∈ ops2, op.subscribesAs c = false) :
    msgsOf (received (Code.log dedup idle {} (ops1 ++ Op.disconnect c :: ops2)) c) =
    msgsOf (received (Code.log dedup idle {} ops1) c) := by
  rw [Code.log_append, received_append, msgsOf_append, msgs_eq_blocks dedup idle (Code.after {} ops1)]
  have hnil : ∀ b ∈ Code.blocks dedup (Code.after {} ops1) (Op.disconnect c :: ops2) c, b = [] :=
    idle_blocks dedup ops2 _ ((Inv.init.after ops1).next (.disconnect c))
      (fun k => by rw [show Code.next _ (Op.disconnect c) = unsubscribeAll _ c from rfl, held_unsubscribeAll, if_pos rfl])
      hops
  rw [List.flatten_eq_nil_iff.2 hnil, List.append_nil]

/-- After UNSUBSCRIBE from `ch` (named, or without arguments) by a connection none of whose
    patterns matches `ch`, no frame published on `ch` reaches it, whatever the other clients do,
    until it subscribes again.  Both variants of publish. -/
theorem nothing_after_unsubscribe (dedup idle : Bool) (ops1 ops2 : List Op) (c : ConnId) (ch : Bytes)
    (xs : Option (List Bytes)) (hx : ∀ l, xs = some l → ch ∈ l)
    (hpat : ∀ p ∈ Spec.heldBy (Spec.after [] ops1) c .pat, Spec.glob p ch = false)
    (hops : ∀ op ∈ ops2, op.subscribesAs c = false) :
    ∀ e ∈ received (Code.log dedup idle (Code.after {} (ops1 ++ [Op.unsubscribe c .chan xs])) ops2) c,
      e.chan? ≠ some ch := by
  rw [Code.after_append]
  refine quiet_received dedup idle ops2 _ ((Inv.init.after ops1).next _)
    ⟨not_held_after_unsubscribe (Rel.init.after ops1) c .chan xs ch hx, fun p hp => ?_⟩ hops
  rw [globBytes_eq_spec]
  exact hpat p ((Rel.init.after ops1).heldEq c .pat ▸ held_next_subset (op := .unsubscribe c .chan xs) rfl .pat hp)

/-- After PUNSUBSCRIBE from pattern `p` (named, or without arguments) no `pmessage` naming `p`
    reaches the connection, whatever the other clients do, until it subscribes again. -/
theorem nothing_after_punsubscribe (dedup idle : Bool) (ops1 ops2 : List Op) (c : ConnId) (p : Bytes)
    (xs : Option (List Bytes)) (hx : ∀ l, xs = some l → p ∈ l)
    (hops : ∀ op ∈ ops2, op.subscribesAs c = false) :
    ∀ ch m, Event.pmessage p ch m ∉
      received (Code.log dedup idle (Code.after {} (ops1 ++ [Op.unsubscribe c .pat xs])) ops2) c := by
  rw [Code.after_append]
  exact quietPat_received dedup idle ops2 _ ((Inv.init.after ops1).next _)
    (not_held_after_unsubscribe (Rel.init.after ops1) c .pat xs p hx) hops

/-! ### (5) Publish order, bytes intact -/

/-- The `message` / `pmessage` frames in a connection's stream are the concatenation, in the
    order of the history's PUBLISH operations, of one block per PUBLISH; a block consists of the
    frames for that PUBLISH's receivers equal to the connection, each carrying the published
    channel and payload (and the receiver's pattern) unchanged (`msgBlock`).  In particular a
    stream only ever grows at its end (`Code.log_append`). -/
theorem publish_order_preserved (dedup idle : Bool) (ops : List Op) (c : ConnId) :
    msgsOf (received (Code.log dedup idle {} ops) c) = (Code.blocks dedup {} ops c).flatten :=
  msgs_eq_blocks dedup idle {} ops c

/-- The log of a longer history extends the log of the shorter one (nothing is inserted,
    reordered or retracted), hence so does every connection's stream. -/
theorem stream_append_only (dedup idle : Bool) (ops1 ops2 : List Op) (c : ConnId) :
    received (Code.log dedup idle {} (ops1 ++ ops2)) c =
      received (Code.log dedup idle {} ops1) c ++ received (Code.log dedup idle (Code.after {} ops1) ops2) c := by
  rw [Code.log_append, received_append]

/-- FULL STATEMENT (`dedup = false`): block by block, a connection receives — up to the order of
    frames within one PUBLISH — exactly one frame per subscription it holds that matches. -/
theorem stream_eq_spec (ops : List Op) (c : ConnId) :
    BlocksPerm (Code.blocks false {} ops c) (Spec.blocks [] ops c) :=
  blocks_perm_spec false Inv.init Rel.init ops c nofun

/-- PARTIAL (`dedup = true`, the tree as pinned): the same for histories in which no connection
    ever holds two subscriptions matching a published channel. -/
theorem stream_eq_spec_partial (ops : List Op) (c : ConnId) (hno : Spec.neverOverlap [] ops) :
    BlocksPerm (Code.blocks true {} ops c) (Spec.blocks [] ops c) :=
  blocks_perm_spec true Inv.init Rel.init ops c (fun _ => hno)

/-- WITNESS for the streams: the subscriber of `news` + `n*` reads one frame where two are prescribed. -/
theorem stream_dedup_fails :
    let ops := [Op.subscribe 1 .chan [[110, 101, 119, 115]], Op.subscribe 1 .pat [[110, 42]], Op.publish 2 [110, 101, 119, 115] [120]]
    Code.blocks true {} ops 1 = [[.message [110, 101, 119, 115] [120]]] ∧
    Spec.blocks [] ops 1 = [[.message [110, 101, 119, 115] [120], .pmessage [110, 42] [110, 101, 119, 115] [120]]] := by
  decide

/-! ### (6) The glob matcher -/

/-- `pattern_matches` (pub/sub calls the server's one glob matcher, the star-backtracking loop of
    src/storage/engine.rs: all patterns, all texts, any number of `*`, classes included) computes
    the declarative meaning of the pattern. -/
theorem glob_correct (p s : Bytes) : globBytes p s = Spec.glob p s := globBytes_eq_spec p s

/-- …which is the relation generated by: `*` any run of bytes; every other element exactly one
    byte it accepts — `?` any byte, `\x` the byte `x`, a class `[…]`/`[^…]` a byte that is /
    is not one of its members (Redis's rules for reading a class: `Spec.classParse`), a final
    `\` and every other byte itself. -/
theorem glob_correct_rel (p s : Bytes) : globBytes p s = true ↔ Spec.Glob p s := by
  rw [globBytes_eq_spec]; exact glob_iff_Glob p s

/-- The code's walk over a class is the spec's reading of it: matched iff `c` is one of the
    members, and it stops where the class ends. -/
theorem class_walk_correct (c : Nat) (q : Bytes) :
    classGo c q false = ((Spec.classParse q).1.any (·.has c), (Spec.classParse q).2) := by
  rw [classGo_eq, Bool.false_or]

/-- Tie to the code: `pubsub::pattern_matches` is exactly one call of the engine matcher, the arms
    of that matcher's `match` are the five that `gstep` transliterates and the `if`s of its `[`
    arm are those of `classGo`, in order; stops checking when any of this changes. -/
theorem tree_glob_grammar :
    Gen.pubsubMatcherIsEngine = true ∧
    Gen.pubsubGlobArms = ["b'?'", "b'*'", "b'['", "b'\\\\' if p_idx + 1 < pattern_chars.len()", "_"] ∧
    Gen.pubsubClassConds = ["negate", "pattern_chars[i] == b'\\\\' && i + 1 < pattern_chars.len()", "pattern_chars[i] == c",
      "pattern_chars[i] == b']'", "i + 2 < pattern_chars.len() && pattern_chars[i + 1] == b'-'", "c >= lo && c <= hi",
      "pattern_chars[i] == c", "matched != negate"] := ⟨rfl, rfl, rfl⟩

/-- WITNESS for the matcher pub/sub had before (only `* ? \x`): a class was three literal bytes, so
    `PSUBSCRIBE h[ae]llo` received nothing published on `hello`; the prescribed meaning delivers it. -/
theorem class_pattern_matches :
    Spec.glob [104, 91, 97, 101, 93, 108, 108, 111] [104, 101, 108, 108, 111] = true ∧
    Spec.glob [104, 91, 97, 101, 93, 108, 108, 111] [104, 91, 97, 101, 93, 108, 108, 111] = false := by decide

/-- The loop's iteration budget in the model is never the reason for an answer. -/
theorem glob_fuel_irrelevant (p s : Bytes) (fuel : Nat) (h : globFuel p s ≤ fuel) :
    globLoop fuel p s none = globBytes p s := by
  rw [globBytes_eq_spec, globLoop_eq_glob h]

/-! ### (7) Connections: the close event, subscriber context -/

/-- The switches of the connection layer as the translator reads them off the current tree. -/
def treeQuirks : Quirks := ⟨Gen.pubsubReleasesAtClose, Gen.pubsubSubscriberGate⟩

/-- A session (commands of clients, close events, blocking) executes core pub/sub operations: its
    pub/sub state is the core model's state after the operations it really executed, so every
    theorem above speaks about it. -/
theorem session_runs_pubsub (q : Quirks) (l : List LOp) :
    (Sess.run q {} l).1.st = Code.after {} (Sess.run q {} l).2 :=
  Sess.run_state q l {}

/-- FULL STATEMENT (`releaseAtClose = true`): from the moment the server marks connection `c` as
    closing (CLIENT KILL by another client, its QUIT, a protocol error), in every interleaving of
    whatever all clients and the server do afterwards, and for as long as `c` has not been removed,
    no PUBLISH on any channel delivers to `c` or counts it. -/
theorem nothing_after_close (q : Quirks) (hq : q.releaseAtClose = true) (dedup : Bool) (l1 l2 : List LOp) (c : ConnId)
    (hl : LOp.op (.disconnect c) ∉ l2) (ch : Bytes) :
    ∀ d ∈ publish dedup (Sess.run q {} (l1 ++ .close c :: l2)).1.st ch, d.1 ≠ c := by
  rw [Sess.run_append]
  exact closed_receives_nothing hq dedup (Inv.sess_run l1 {} Inv.init) c hl ch

/-- WITNESS (`releaseAtClose = false`, the tree before the repair): the closed connection is still
    delivered to and counted until it is physically removed — `SUBSCRIBE a` by 1, the server closes 1,
    `PUBLISH a` still has the receiver 1. -/
theorem close_lag_delivers :
    publish false (Sess.run ⟨false, true⟩ {} [.op (.subscribe 1 .chan [[97]]), .close 1]).1.st [97] = [(1, none)] ∧
    publish false (Sess.run ⟨true, true⟩ {} [.op (.subscribe 1 .chan [[97]]), .close 1]).1.st [97] = [] := by decide

/-- Subscriber context (`gate = true`): from a connection that holds subscriptions, any command other
    than (P)SUBSCRIBE, (P)UNSUBSCRIBE, PING, QUIT — also PUBLISH, also one that would block — changes
    nothing: no state change, nothing executed, nobody blocked. -/
theorem gate_refuses (q : Quirks) (hq : q.gate = true) (s : Sess) (c : ConnId) (hs : subscribed s.st c = true) :
    (∀ b, Sess.step q s (.cmd c b) = (s, [])) ∧ (∀ ch m, Sess.step q s (.op (.publish c ch m)) = (s, [])) := by
  constructor
  · intro b
    rw [Sess.step_cmd]
    split
    · rfl
    · rw [hq, hs]; rfl
  · intro ch m
    rw [Sess.step_op q s _ c rfl]
    split
    · rfl
    · rw [hq, hs]; rfl

/-- FULL STATEMENT (`gate = true`): in every reachable session no connection that a PUBLISH delivers
    to is blocked — the event loop serves every receiver, no delivery is ever deferred. -/
theorem never_deferred (q : Quirks) (hq : q.gate = true) (dedup : Bool) (l : List LOp) (ch : Bytes) :
    ∀ d ∈ publish dedup (Sess.run q {} l).1.st ch, d.1 ∉ (Sess.run q {} l).1.blocked := by
  intro d hd hb
  have hidle : BlockedIdle (Sess.run q {} l).1 := BlockedIdle.run hq l {} (by intro c hc; cases hc)
  have hsub := subscribed_of_delivery (Inv.sess_run l {} Inv.init) hd
  rw [hidle d.1 hb] at hsub
  cases hsub

/-- WITNESS (`gate = false`, the tree before the repair): `SUBSCRIBE a` by 1, then a blocking command by
    1 (`BLPOP nolist 0`): 1 is blocked and a PUBLISH on `a` counts a delivery to it. -/
theorem deferred_without_gate :
    (Sess.run ⟨true, false⟩ {} [.op (.subscribe 1 .chan [[97]]), .cmd 1 true]).1.blocked = [1] ∧
    publish false (Sess.run ⟨true, false⟩ {} [.op (.subscribe 1 .chan [[97]]), .cmd 1 true]).1.st [97] = [(1, none)] ∧
    (Sess.run ⟨true, true⟩ {} [.op (.subscribe 1 .chan [[97]]), .cmd 1 true]).1.blocked = [] := by decide

/-! ### Non-vacuity: concrete non-trivial instances -/

/-- a history with overlapping channel/pattern subscriptions, named and blanket unsubscribes, a disconnect -/
def exampleOps : List Op :=
  [.subscribe 1 .chan [[110, 101, 119, 115], [97]], .subscribe 2 .pat [[110, 42], [42]], .subscribe 1 .pat [[110, 63, 119, 115]],
   .publish 3 [110, 101, 119, 115] [0, 255, 13, 10], .unsubscribe 1 .chan (some [[110, 101, 119, 115]]), .unsubscribe 2 .pat none,
   .publish 3 [110, 101, 119, 115] [1], .disconnect 1, .publish 3 [110, 101, 119, 115] [2]]

example : Code.log false true {} exampleOps = Spec.log [] exampleOps := by decide
-- a client holding nothing unsubscribes by name, and without names (nil-name confirmation):
example : Code.log false true {} [.unsubscribe 1 .chan (some [[97], [98]]), .subscribe 1 .pat [[42]], .unsubscribe 1 .chan none] =
    [(1, .ack ⟨.chan, true, [97], 0, false⟩), (1, .ack ⟨.chan, true, [98], 0, false⟩), (1, .ack ⟨.pat, false, [42], 1, true⟩),
     (1, .ackNil .chan 1)] := by decide
example : ∀ op ∈ exampleOps, Code.clientOp op = true := by decide
example : Spec.deliveries (Spec.after [] (exampleOps.take 3)) [110, 101, 119, 115] =
    [(1, none), (2, some [110, 42]), (2, some [42]), (1, some [110, 63, 119, 115])] := by decide
-- hypothesis of `publish_eq_spec_partial` / `stream_eq_spec_partial` is satisfiable with two receivers:
example : ((Spec.deliveries (Spec.after [] [.subscribe 1 .chan [[97]], .subscribe 2 .pat [[42]]]) [97]).map (·.1)).Nodup := by decide
example : Spec.neverOverlap [] [.subscribe 1 .chan [[97]], .subscribe 2 .pat [[42]], .publish 3 [97] [1]] := by
  simp only [Spec.neverOverlap]; decide
-- hypotheses of `nothing_after_unsubscribe`:
example : ∀ p ∈ Spec.heldBy (Spec.after [] [.subscribe 1 .chan [[97]], .subscribe 1 .pat [[98, 42]]]) 1 .pat, Spec.glob p [97] = false := by decide
example : ∀ op ∈ [Op.subscribe 2 .chan [[97]], Op.publish 2 [97] [1]], op.subscribesAs 1 = false := by decide
-- the matcher on a pattern with two stars, an escape and a `?`:
example : globBytes [42, 97, 42, 92, 42, 63] [120, 97, 121, 97, 42, 122] = true := by decide
example : Spec.Glob [110, 42] [110, 101] :=
  .tok (t := .lit 110) (p' := [42]) 110 rfl rfl (.starEat 101 (p' := []) rfl (.starSkip (p' := []) rfl (.done rfl)))
-- Redis's rules for classes, one by one ( [ = 91, ] = 93, ^ = 94, - = 45, \ = 92 ):
example : Spec.glob [91, 92, 93, 93] [93] = true := by decide                       -- `[\]]`: the member `]`
example : Spec.glob [91, 99, 45, 97, 93] [98] = true := by decide                   -- `[c-a]` = `[a-c]`
example : Spec.glob [91, 97, 45, 93, 120, 93] [94] = true ∧ Spec.glob [91, 97, 45, 93, 120, 93] [120] = true := by decide  -- `[a-]x]`: `a-]` is a range
example : Spec.glob [91, 97, 98] [98] = true ∧ Spec.glob [91, 97, 98] [98, 98] = false := by decide   -- `[ab` runs to the end
example : Spec.glob [91, 94] [0] = true ∧ Spec.glob [91, 94] [] = false := by decide                  -- `[^` alone: any one byte
example : Spec.glob [91] [91] = false ∧ Spec.glob [91, 93] [93] = false ∧ Spec.glob [91, 93] [] = false := by decide  -- `[`, `[]`: nothing
example : Spec.glob [91, 94, 120, 93, 63] [97, 98] = true ∧ Spec.glob [91, 94, 120, 93, 63] [120, 98] = false := by decide  -- `[^x]?`
example : Spec.glob [91, 97, 92, 45, 99, 93] [45] = true ∧ Spec.glob [91, 97, 92, 45, 99, 93] [98] = false := by decide      -- `[a\-c]`: three members
example : globBytes [42, 91, 97, 45, 99, 93, 42, 91, 94, 120, 93] [122, 98, 122, 121] = true := by decide

end Ferrous.C14
