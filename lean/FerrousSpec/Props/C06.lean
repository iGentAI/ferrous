/-
  C06 — no client input can crash, hang or wedge the server.

  What a theorem can carry: the arithmetic that decides whether a slice bound, a capacity or a
  time computation panics, for ALL arguments (Model/Arith.lean and the window functions of the
  other models), plus the inventory tie: every risky construct the translator finds in the
  sources is one that has been reviewed.  Process liveness itself is explored by lib/c06.py.
-/
import FerrousSpec.Proofs.Arith
import FerrousSpec.Gen.Arith
import FerrousSpec.Props.C03
import FerrousSpec.Props.C20
namespace Ferrous.C06
open Ferrous Ferrous.Arith

/-- **Inventory tie**: every `with_capacity`, `vec![0; n]`, `from_secs_f64`, `now + d`, slice range,
    `BTreeMap::range` and `split_at` with a run-time operand that the translator finds in the current
    sources is in the reviewed list.  A new or altered site stops this from checking. -/
theorem every_site_reviewed : ∀ s ∈ Gen.arithSites, s ∈ reviewed := by
  -- evaluated by the kernel alone: the elaborator's own pass over the string comparisons costs as much again
  decide +kernel

/-- GETRANGE never panics: for every length and every pair of i64 indices the slice bounds
    `a ≤ b + 1 ≤ len` hold (the pinned tree panicked on `GETRANGE k 0 -10`). -/
theorem getrange_no_panic (len : Nat) (start stop : Int) (hlen : len ≤ isizeMax) :
    isPanic (getrange len start stop) = false := by
  rcases getrange_cases len start stop _ rfl with h | ⟨_, _, h, _⟩ | ⟨hbig, _⟩
  · rw [h]; rfl
  · rw [h]; rfl
  · exact absurd (Nat.lt_of_lt_of_le hbig hlen) (by decide)

/-- … and what it selects is the reference window (`KS.getrangeSel`, the Spec of C01):
    the same normalisation, so a non-panicking result is exactly the Spec's window. -/
theorem getrange_window_in_bounds (len : Nat) (start stop : Int) (a c : Nat)
    (h : getrange len start stop = .ok (some (a, c))) : a ≤ c ∧ c < len := by
  rcases getrange_cases len start stop _ h with h' | ⟨_, _, h', hb⟩ | ⟨_, h'⟩
  · cases h'
  · cases h'
    exact hb
  · cases h'

/-- SETRANGE never panics and never allocates more than 512 MB beyond what is stored: for every
    offset (up to usize::MAX) and value length the outcome is a refusal or a size ≤ max(cur, 512 MB). -/
theorem setrange_no_panic (cur : Option Nat) (offset vlen : Nat) (hcur : cur.getD 0 ≤ maxString) :
    isPanic (setrange cur offset vlen) = false ∧
    ∀ n, setrange cur offset vlen = .ok n → n ≤ maxString := by
  unfold setrange
  split
  · exact ⟨rfl, fun _ e => Outcome.ok.inj e ▸ hcur⟩
  · split
    · exact ⟨rfl, nofun⟩
    · -- past the 512 MB test the required size is at most `maxString`, far below the capacity limit
      have hm : max (cur.getD 0) (offset + vlen) ≤ maxString := Nat.max_le.2 ⟨hcur, by omega⟩
      rw [if_neg (Nat.not_lt.2 (Nat.le_trans hm (by decide)))]
      exact ⟨rfl, fun _ e => Outcome.ok.inj e ▸ hm⟩

/-- SRANDMEMBER with a negative count never panics and never reserves more than 10 million slots,
    down to `count = i64::MIN` (whose negation overflowed on the pinned tree). -/
theorem srandmember_no_panic (count : Int) (elemSize : Nat) (hs : elemSize ≤ 64) :
    isPanic (srandPicks count elemSize) = false ∧
    ∀ n, srandPicks count elemSize = .ok n → n ≤ 10000000 * 64 := by
  unfold srandPicks
  split
  · exact ⟨rfl, fun _ e => Outcome.ok.inj e ▸ Nat.zero_le _⟩
  · split
    · exact ⟨rfl, nofun⟩
    · have hm : count.natAbs * elemSize ≤ 10000000 * 64 := Nat.mul_le_mul (by omega) hs
      rw [if_neg (Nat.not_lt.2 (Nat.le_trans hm (by decide)))]
      exact ⟨rfl, fun _ e => Outcome.ok.inj e ▸ hm⟩

/-- EVAL/EVALSHA: whatever `numkeys` declares (up to usize::MAX) the bounds check cannot wrap and the
    key vector is never sized beyond the number of frames received. -/
theorem eval_numkeys_no_panic (parts numKeys elemSize : Nat) (hp : parts * elemSize ≤ isizeMax) :
    isPanic (evalKeys parts numKeys elemSize) = false := by
  unfold evalKeys
  split
  · rfl
  · -- past the count test `numKeys ≤ parts`
    have hm : numKeys * elemSize ≤ parts * elemSize := Nat.mul_le_mul_right _ (by omega)
    rw [if_neg (Nat.not_lt.2 (Nat.le_trans hm hp))]
    rfl

/-- A time-to-live of any size never overflows the deadline computation, as long as the clock itself
    is a century away from the end of `Instant`. -/
theorem deadline_no_panic (instantMax now ttl : Nat)
    (h : now + 100 * 365 * 24 * 60 * 60 * 1000000000 ≤ instantMax) :
    isPanic (deadlineAfter instantMax now ttl) = false := by
  unfold deadlineAfter
  by_cases ht : now + ttl ≤ instantMax
  · rw [if_pos ht]; rfl
  · rw [if_neg ht, if_pos h]; rfl

/-- LINDEX/LSET: the normalised index is inside the list or the element is reported missing. -/
theorem list_index_in_bounds (len : Nat) (index : Int) (j : Nat) (h : listIndex len index = .ok (some j)) : j < len := by
  unfold listIndex at h
  extract_lets idx at h
  split at h
  · cases h
    omega
  · cases h

/-- LRANGE/LTRIM windows are inside the list for all integer bounds (re-export of C03). -/
theorem lrange_in_bounds (len : Nat) (s e : Int) (a c : Nat) (h : KS.lrangeSel len s e = some (a, c)) :
    a ≤ c ∧ c < len :=
  C03.lrange_in_bounds len s e a c h

/-- The RESP parser never reserves by a declared length it has not received, never recurses deeper
    than the nesting limit, and never slices outside its buffer (re-export of C20). -/
theorem parser_bounded (d : Bytes) :
    reserveOf true (maxNesting + 1) d ≤ 2 * d.length ∧
    (∀ f r, parseBytes d = .ok f r → f.depth ≤ maxNesting + 1 ∧ r.length + 3 ≤ d.length) :=
  ⟨C20.reserve_bounded d, fun f r h => ⟨C20.nesting_bounded d f r h, C20.consumed_bounded d f r h⟩⟩

/-- The pinned GETRANGE computed `end = max(-1, len + end) as usize` = usize::MAX for `0 -10` on 3 bytes. -/
theorem pinned_getrange_panicked : isPanic (sliceIncl 3 0 usizeMax) = true := by decide

/-- Sizing by a declared count of 2^63 slots of 24 bytes overflows the capacity computation. -/
theorem unchecked_count_panics : isPanic (alloc 9223372036854775808 24) = true := by decide

/-! ### Non-vacuity -/
example : getrange 3 0 (-10) = .ok (some (0, 0)) ∧ getrange 3 (-2) 100 = .ok (some (1, 2)) := by decide
example : setrange (some 3) 4611686018427387904 1 = .refused ∧ setrange none 5 2 = .ok 7 := by decide
example : srandPicks (-9223372036854775808) 24 = .refused ∧ srandPicks (-3) 24 = .ok 72 := by decide
example : evalKeys 3 18446744073709551615 32 = .refused ∧ evalKeys 5 2 32 = .ok 64 := by decide

end Ferrous.C06
