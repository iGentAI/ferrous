/-
  C07 — MULTI/EXEC: commands sent between MULTI and EXEC are only queued; EXEC executes all of them,
  in the order queued, as one indivisible step with respect to every other client, and returns their
  replies in that order; DISCARD or a disconnect drops them without any effect; a runtime error is
  reported in its slot and does not stop the others; transaction state is per connection and is
  cleared by EXEC and DISCARD.

  Model: Model/Tx.lean (`processFrame`, `exec`, `run` over schedules of any number of connections,
  data commands through `KS.step`).  `Quirks.spec` is what the property prescribes, `Quirks.code`
  the tree as found (five deviations, each with a `_fails…` witness; where the prescribed statement has a
  weaker form that the tree as found satisfies it is the `_partial` theorem); the current tree is
  `Quirks.ofSource`, in which Gen/Tx.lean has every switch off, as in `Quirks.spec`.  The model is
  tied to /repo by the tables of Gen/Tx.lean (re-proved below on every run) and by the TCP
  correspondence of lib/c07.py.  Property theorems only; helper lemmas are in Proofs/Tx*.lean.
-/
import FerrousSpec.Proofs.TxExec
import FerrousSpec.Proofs.TxSource
namespace Ferrous.C07
open Ferrous Ferrous.Tx

/-! ## Concrete commands used by examples and witnesses -/

def cMULTI : Cmd := [[77, 85, 76, 84, 73]]
def cEXEC : Cmd := [[69, 88, 69, 67]]
def cDISCARD : Cmd := [[68, 73, 83, 67, 65, 82, 68]]
def cSET (k v : Bytes) : Cmd := [[83, 69, 84], k, v]
def cGET (k : Bytes) : Cmd := [[71, 69, 84], k]
def cINCR (k : Bytes) : Cmd := [[73, 78, 67, 82], k]
def cLPUSH (k v : Bytes) : Cmd := [[76, 80, 85, 83, 72], k, v]
def cSELECT (n : Bytes) : Cmd := [[83, 69, 76, 69, 67, 84], n]
def cBLPOP (k t : Bytes) : Cmd := [[66, 76, 80, 79, 80], k, t]
def cPUBLISH (ch m : Bytes) : Cmd := [[80, 85, 66, 76, 73, 83, 72], ch, m]

/-- connection 1 is inside a transaction, nothing queued yet -/
def sInTx : Server := setConn {} 1 { inTx := true }

/-! ## 1. Between MULTI and EXEC commands are only queued -/

/-- While a connection is in a transaction, ANY command that is not a control command and is not
    handled before the queue test is answered `QUEUED` and changes nothing but that connection's
    queue, to which it is appended: the dataset, the hand-over log (pub/sub, blocking registry, …)
    and every other connection are untouched.  This is the statement for the code as it is
    (`q.immediate` = the names `process_frame` handles before the queue test). -/
theorem queued_has_no_effect_partial (q : Quirks) (s : Server) (cid : Nat) (r : Req)
    (hin : (s.conns cid).inTx = true) (hne : r.cmd ≠ []) (hctl : nameOf r.cmd ∉ controlNames)
    (himm : nameOf r.cmd ∉ q.immediate) :
    (processFrame q s cid r).2 = .one (.frame queuedFrame) ∧
    (processFrame q s cid r).1.store = s.store ∧
    (processFrame q s cid r).1.ext = s.ext ∧
    (∀ j, j ≠ cid → (processFrame q s cid r).1.conns j = s.conns j) ∧
    (processFrame q s cid r).1.conns cid = { s.conns cid with queue := (s.conns cid).queue ++ [r.cmd] } := by
  have hq : queueable q r.cmd = true := (queueable_iff q r.cmd).2 ⟨hne, (kindOf_other_iff _).2 hctl, himm⟩
  rw [processFrame_queue hin hq]
  refine ⟨rfl, rfl, rfl, ?_, by simp⟩
  intro j hj; simp [setConn, hj]

/-- Full statement (what the property prescribes: nothing is executed immediately): EVERY command
    other than MULTI/EXEC/DISCARD/WATCH/UNWATCH is only queued. -/
theorem queued_has_no_effect (q : Quirks) (hq : q.immediate = []) (s : Server) (cid : Nat) (r : Req)
    (hin : (s.conns cid).inTx = true) (hne : r.cmd ≠ []) (hctl : nameOf r.cmd ∉ controlNames) :
    (processFrame q s cid r).2 = .one (.frame queuedFrame) ∧
    (processFrame q s cid r).1.store = s.store ∧
    (processFrame q s cid r).1.ext = s.ext ∧
    (∀ j, j ≠ cid → (processFrame q s cid r).1.conns j = s.conns j) ∧
    (processFrame q s cid r).1.conns cid = { s.conns cid with queue := (s.conns cid).queue ++ [r.cmd] } :=
  queued_has_no_effect_partial q s cid r hin hne hctl (by simp [hq])

example : (sInTx.conns 1).inTx = true ∧ cSET [107] [118] ≠ [] ∧ nameOf (cSET [107] [118]) ∉ controlNames ∧
    nameOf (cSET [107] [118]) ∉ Quirks.code.immediate := by decide

/-- Witness: the code executes PUBLISH at once inside MULTI — the message is handed to pub/sub
    before EXEC (and stays delivered after DISCARD); the reply is not `QUEUED`, nothing is queued. -/
theorem queued_has_no_effect_fails_publish :
    (sInTx.conns 1).inTx = true ∧ nameOf (cPUBLISH [99] [109]) ∉ controlNames ∧
    (processFrame Quirks.code sInTx 1 { cmd := cPUBLISH [99] [109] }).1.ext = [(1, cPUBLISH [99] [109])] ∧
    ((processFrame Quirks.code sInTx 1 { cmd := cPUBLISH [99] [109] }).1.conns 1).queue = [] ∧
    -- the prescribed behaviour on the same input
    (processFrame Quirks.spec sInTx 1 { cmd := cPUBLISH [99] [109] }).1.ext = [] ∧
    ((processFrame Quirks.spec sInTx 1 { cmd := cPUBLISH [99] [109] }).1.conns 1).queue = [cPUBLISH [99] [109]] := by
  decide

/-! ## 2. EXEC runs all queued commands, in order, and returns their replies in order -/

/-- EXEC on a connection in a transaction (WATCH check passed): the dataset afterwards is the LEFT
    FOLD of the single-command transformer over the queue, in queue order, started from the dataset
    EXEC found and with the connection's database index; the reply is an array with exactly one slot
    per queued command, slot `i` being the reply of command `i` run on the state left by commands
    `0 … i-1`.  For all queues (induction in `execFold_state`, `execFold_slot`). -/
theorem exec_runs_all_in_order (q : Quirks) (s : Server) (cid : Nat) (r : Req)
    (hin : (s.conns cid).inTx = true) (hw : r.watchOk = true) (ha : (s.conns cid).aborted = false) :
    let st0 : ExecSt := ⟨s.store, (s.conns cid).db, s.ext⟩
    let step := fun (st : ExecSt) (c : Cmd) => (runOne q true cid st r.now c).1
    let Q := (s.conns cid).queue
    (exec q s cid r).1.store = (Q.foldl step st0).store ∧
    ∃ slots, (exec q s cid r).2 = .exec slots ∧ slots.length = Q.length ∧
      ∀ i c, Q[i]? = some c → slots[i]? = some (runOne q true cid ((Q.take i).foldl step st0) r.now c).2 := by
  intro st0 step Q
  rw [exec_runs hin hw ha]
  refine ⟨?_, _, rfl, execFold_length q true cid r.now st0 Q, execFold_slot q true cid r.now st0 Q⟩
  show (execFold q true cid r.now st0 Q).1.store = _
  rw [execFold_state]

/-- The same for queues of data commands (everything but SELECT, BLPOP/BRPOP and the hand-over
    names): the dataset is `foldl KS.step` over the queue with the connection's database, and slot `i`
    is `KS.step`'s reply to command `i` on the dataset left by the first `i` commands. -/
theorem exec_plain_is_fold_of_KS_step (q : Quirks) (s : Server) (cid : Nat) (r : Req)
    (hin : (s.conns cid).inTx = true) (hw : r.watchOk = true) (ha : (s.conns cid).aborted = false)
    (hp : ∀ c ∈ (s.conns cid).queue, plain c = true) :
    let db := (s.conns cid).db
    let kstep := fun (st : KS.Store) (c : Cmd) => (KS.step q.ks st db r.now c none).1
    let Q := (s.conns cid).queue
    (exec q s cid r).1.store = Q.foldl kstep s.store ∧
    ∃ slots, (exec q s cid r).2 = .exec slots ∧ slots.length = Q.length ∧
      ∀ i c, Q[i]? = some c →
        slots[i]? = some (Out.frame (KS.step q.ks ((Q.take i).foldl kstep s.store) db r.now c none).2) := by
  intro db kstep Q
  obtain ⟨h1, slots, h2, h3, h4⟩ := exec_runs_all_in_order q s cid r hin hw ha
  refine ⟨?_, slots, h2, h3, ?_⟩
  · rw [h1, foldl_plain q true cid r.now _ _ hp]
  · intro i c hc
    have hcm : c ∈ (s.conns cid).queue := List.mem_of_getElem? hc
    rw [h4 i c hc, foldl_plain q true cid r.now _ _ fun c hc => hp c (List.mem_of_mem_take hc), runOne_plain q true cid _ r.now c (hp c hcm)]

/-- a state in which connection 1 has queued SET k v; INCR k; GET k -/
def sQueued : Server := setConn {} 1 { inTx := true, queue := [cSET [107] [53], cINCR [107], cGET [107]] }

example : (sQueued.conns 1).inTx = true ∧ (sQueued.conns 1).aborted = false ∧
    (∀ c ∈ (sQueued.conns 1).queue, plain c = true) := by decide

/-- … and EXEC replies `[OK, 6, "6"]` and leaves `k = 6` -/
example : (exec Quirks.code sQueued 1 { cmd := cEXEC }).2 =
      .exec [.frame KS.ok, .frame (.int 6), .frame (.bulk [54])] ∧
    KS.lookup (KS.getDb (exec Quirks.code sQueued 1 { cmd := cEXEC }).1.store 0) [107] = some ⟨.str [54], none⟩ :=
  ⟨rfl, by decide⟩

/-- EXEC equals the same commands sent directly, one after another, by a connection with the same
    database selected on a twin server in the same state: same final dataset, same hand-over log,
    same connection state afterwards, and EXEC's array is the list of the direct replies, in order.
    General form: holds whenever the queue contains no blocking pop and either the SELECT switch is
    off or the queue contains no SELECT. -/
theorem exec_eq_back_to_back_general (q : Quirks) (s twin : Server) (cid : Nat) (r : Req)
    (hin : (s.conns cid).inTx = true) (hw : r.watchOk = true) (ha : (s.conns cid).aborted = false)
    (hQ : ∀ c ∈ (s.conns cid).queue, queueable q c = true ∧ isBlockingName (nameOf c) = false)
    (hsel : q.selectInExecIgnored = false ∨ ∀ c ∈ (s.conns cid).queue, nameOf c ≠ "SELECT")
    (hcn : q.connCommandsUnderConnZero = false ∨ ∀ c ∈ (s.conns cid).queue, nameOf c ∉ connectionNames)
    (hu : q.controlArityUnchecked = false ∨ ∀ c ∈ (s.conns cid).queue, nameOf c ≠ "UNWATCH")
    (hts : twin.store = s.store) (hte : twin.ext = s.ext) (htc : twin.conns cid = { db := (s.conns cid).db }) :
    let direct := framesOf cid r.now (s.conns cid).queue
    (exec q s cid r).1.store = (run q twin direct).store ∧
    (exec q s cid r).1.ext = (run q twin direct).ext ∧
    (exec q s cid r).1.conns cid = (run q twin direct).conns cid ∧
    ∃ slots, (exec q s cid r).2 = .exec slots ∧ trace q twin direct = slots.map fun o => some (.one o) := by
  intro direct
  have hk : ∀ c ∈ (s.conns cid).queue, c ≠ [] ∧ kindOf (nameOf c) = .other := by
    intro c hc
    have := (queueable_iff q c).1 (hQ c hc).1
    exact ⟨this.1, this.2.1⟩
  have hst : (⟨twin.store, (twin.conns cid).db, twin.ext⟩ : ExecSt) = ⟨s.store, (s.conns cid).db, s.ext⟩ := by
    rw [hts, hte, htc]
  obtain ⟨d1, d2⟩ := direct_run (F := execResult q s cid r.now) q cid r.now (s.conns cid).queue twin (by rw [htc]) hk
    (by rw [hst]; exact execFold_congr fun c hc st => (runOne_exec_eq_direct q cid st r.now c (hQ c hc).2
      (hsel.imp id fun h => h c hc) (hcn.imp id fun h => h c hc) (hu.imp id fun h => h c hc)).symm)
  rw [exec_runs hin hw ha, d1, setConn_same, setConn_same, htc]
  exact ⟨rfl, rfl, rfl, _, rfl, d2⟩

/-- Full statement (prescribed behaviour: a queued SELECT does select, a queued command about the
    connection runs under the connection's own id): for EVERY queue without blocking pops, EXEC ≡
    back-to-back execution. -/
theorem exec_eq_back_to_back (q : Quirks) (hq : q.selectInExecIgnored = false) (hq2 : q.connCommandsUnderConnZero = false)
    (hq3 : q.controlArityUnchecked = false) (s twin : Server) (cid : Nat) (r : Req)
    (hin : (s.conns cid).inTx = true) (hw : r.watchOk = true) (ha : (s.conns cid).aborted = false)
    (hQ : ∀ c ∈ (s.conns cid).queue, queueable q c = true ∧ isBlockingName (nameOf c) = false)
    (hts : twin.store = s.store) (hte : twin.ext = s.ext) (htc : twin.conns cid = { db := (s.conns cid).db }) :
    let direct := framesOf cid r.now (s.conns cid).queue
    (exec q s cid r).1.store = (run q twin direct).store ∧
    (exec q s cid r).1.ext = (run q twin direct).ext ∧
    (exec q s cid r).1.conns cid = (run q twin direct).conns cid ∧
    ∃ slots, (exec q s cid r).2 = .exec slots ∧ trace q twin direct = slots.map fun o => some (.one o) :=
  exec_eq_back_to_back_general q s twin cid r hin hw ha hQ (Or.inl hq) (Or.inl hq2) (Or.inl hq3) hts hte htc

/-- The code as it is (any setting of the switches): the same, for queues that contain neither SELECT
    nor a command about the connection (CLIENT) nor UNWATCH (whose arity the tree as found tests only
    when EXEC runs it). -/
theorem exec_eq_back_to_back_partial (q : Quirks) (s twin : Server) (cid : Nat) (r : Req)
    (hin : (s.conns cid).inTx = true) (hw : r.watchOk = true) (ha : (s.conns cid).aborted = false)
    (hQ : ∀ c ∈ (s.conns cid).queue, queueable q c = true ∧ isBlockingName (nameOf c) = false)
    (hnosel : ∀ c ∈ (s.conns cid).queue, nameOf c ≠ "SELECT")
    (hnocl : ∀ c ∈ (s.conns cid).queue, nameOf c ∉ connectionNames)
    (hnou : ∀ c ∈ (s.conns cid).queue, nameOf c ≠ "UNWATCH")
    (hts : twin.store = s.store) (hte : twin.ext = s.ext) (htc : twin.conns cid = { db := (s.conns cid).db }) :
    let direct := framesOf cid r.now (s.conns cid).queue
    (exec q s cid r).1.store = (run q twin direct).store ∧
    (exec q s cid r).1.ext = (run q twin direct).ext ∧
    (exec q s cid r).1.conns cid = (run q twin direct).conns cid ∧
    ∃ slots, (exec q s cid r).2 = .exec slots ∧ trace q twin direct = slots.map fun o => some (.one o) :=
  exec_eq_back_to_back_general q s twin cid r hin hw ha hQ (Or.inr hnosel) (Or.inr hnocl) (Or.inr hnou) hts hte htc

example : (∀ c ∈ (sQueued.conns 1).queue, queueable Quirks.code c = true ∧ isBlockingName (nameOf c) = false) ∧
    (∀ c ∈ (sQueued.conns 1).queue, nameOf c ≠ "SELECT") ∧
    (∀ c ∈ (sQueued.conns 1).queue, nameOf c ∉ connectionNames) ∧
    (∀ c ∈ (sQueued.conns 1).queue, nameOf c ≠ "UNWATCH") := by decide

/-- `MULTI; SELECT 1; SET k v; EXEC` as the code runs it -/
def sSelect : Server := setConn {} 1 { inTx := true, queue := [cSELECT [49], cSET [107] [118]] }

/-- Witness (DESIGN.md §6, row C18 C07): with a queued SELECT the code's EXEC differs from back-to-back
    execution — both slots say OK but `k` lands in database 0, directly it lands in database 1, and
    the connection stays on database 0.  The prescribed variant agrees with the direct run. -/
theorem exec_eq_back_to_back_fails_select :
    (∀ c ∈ (sSelect.conns 1).queue, queueable Quirks.code c = true ∧ isBlockingName (nameOf c) = false) ∧
    (exec Quirks.code sSelect 1 { cmd := cEXEC }).1.store ≠
      (run Quirks.code {} (framesOf 1 0 (sSelect.conns 1).queue)).store ∧
    KS.lookup (KS.getDb (exec Quirks.code sSelect 1 { cmd := cEXEC }).1.store 0) [107] = some ⟨.str [118], none⟩ ∧
    KS.lookup (KS.getDb (run Quirks.code {} (framesOf 1 0 (sSelect.conns 1).queue)).store 1) [107] = some ⟨.str [118], none⟩ ∧
    ((exec Quirks.code sSelect 1 { cmd := cEXEC }).1.conns 1).db = 0 ∧
    ((run Quirks.code {} (framesOf 1 0 (sSelect.conns 1).queue)).conns 1).db = 1 ∧
    (exec Quirks.spec sSelect 1 { cmd := cEXEC }).1.store =
      (run Quirks.spec {} (framesOf 1 0 (sSelect.conns 1).queue)).store := by
  decide

/-! ## 3. EXEC is one indivisible step with respect to every other client -/

/-- For EVERY schedule of the event loop (any number of connections, frames, disconnects and loop
    work in any order) and EVERY position `p` holding an EXEC frame of connection `cid`:
    the server state seen by the next event, whoever sends it, differs from the state the EXEC found
    exactly by EXEC's loop over the queue that connection had at that moment (`execResult`), and the
    reply sent is that loop's reply list; when the EXEC is refused or its WATCH check fails the
    dataset is the one it found.  There is no state of the schedule that lies between two queued
    commands: every other event acts on `before` or on `after`. -/
theorem exec_is_one_transition (q : Quirks) (s0 : Server) (evs : List Event) (p cid : Nat) (r : Req)
    (hp : evs[p]? = some (.frame cid r)) (hname : nameOf r.cmd = "EXEC") (harity : arityOk q r.cmd) :
    let before := run q s0 (evs.take p)
    let after := run q s0 (evs.take (p + 1))
    let c := before.conns cid
    (c.inTx = true → r.watchOk = true → c.aborted = false →
      after.store = (execResult q before cid r.now).1.store ∧
      after.ext = (execResult q before cid r.now).1.ext ∧
      (trace q s0 evs)[p]? = some (some (.exec (execResult q before cid r.now).2))) ∧
    (¬(c.inTx = true ∧ r.watchOk = true) → after.store = before.store ∧ after.ext = before.ext) ∧
    run q s0 evs = run q after (evs.drop (p + 1)) := by
  intro before after c
  have hexec : processFrame q before cid r = exec q before cid r :=
    processFrame_exec ((kindOf_exec _).2 hname) (badArity_ok q r.cmd harity)
  have hafter : after = (exec q before cid r).1 := by
    show run q s0 (evs.take (p + 1)) = _
    rw [run_take_succ q s0 evs p _ hp, ← hexec]
    rfl
  have htr : (trace q s0 evs)[p]? = some (some (exec q before cid r).2) := by
    rw [trace_getElem q s0 evs p _ hp, ← hexec]
    rfl
  refine ⟨?_, ?_, run_split q s0 evs (p + 1)⟩
  · intro hin hw ha
    rw [hafter, htr, exec_runs hin hw ha]
    exact ⟨rfl, rfl, rfl⟩
  · intro hno
    rw [hafter, exec_quiet fun h => hno ⟨h.1, h.2.1⟩]
    exact ⟨rfl, rfl⟩

/-- Two connections interleaved: 1 queues SET k 5 and INCR k, 2 reads k in between and after. -/
def demoSchedule : List Event :=
  [.frame 1 { cmd := cMULTI }, .frame 1 { cmd := cSET [107] [53] }, .frame 2 { cmd := cGET [107] },
   .frame 1 { cmd := cINCR [107] }, .frame 2 { cmd := cGET [107] }, .frame 1 { cmd := cEXEC },
   .frame 2 { cmd := cGET [107] }]

/-- non-vacuity: position 5 of the demo schedule is such an EXEC, it runs, connection 2 saw nil
    twice before it and `6` after it -/
example : demoSchedule[5]? = some (.frame 1 { cmd := cEXEC }) ∧
    ((run Quirks.code {} (demoSchedule.take 5)).conns 1).inTx = true ∧
    ((run Quirks.code {} (demoSchedule.take 5)).conns 1).queue = [cSET [107] [53], cINCR [107]] ∧
    trace Quirks.code {} demoSchedule = [some (.one (.frame KS.ok)), some (.one (.frame queuedFrame)),
      some (.one (.frame .nullBulk)), some (.one (.frame queuedFrame)), some (.one (.frame .nullBulk)),
      some (.exec [.frame KS.ok, .frame (.int 6)]), some (.one (.frame (.bulk [54])))] :=
  ⟨rfl, by decide, by decide, rfl⟩

/-- Every reply any client receives — position `p` of any schedule — is computed from the state at
    an event boundary, `run (evs.take p)`: a state before or after a whole EXEC, never one in which
    only part of a queue has run. -/
theorem every_reply_is_computed_at_an_event_boundary (q : Quirks) (s0 : Server) (evs : List Event) (p : Nat) (e : Event)
    (hp : evs[p]? = some e) :
    (trace q s0 evs)[p]? = some (stepEvent q (run q s0 (evs.take p)) e).2 :=
  trace_getElem q s0 evs p e hp

/-- Hence an invariant of the dataset that every event preserves AS A WHOLE — an EXEC counting as one
    event, however many commands it runs and even if they break the invariant in between (a transfer:
    DECRBY a n; INCRBY b n) — holds in every state any client can observe, for every schedule. -/
theorem invariant_holds_at_every_observation (q : Quirks) (Inv : KS.Store → Prop) (s0 : Server) (evs : List Event)
    (h0 : Inv s0.store)
    (hstep : ∀ p e, evs[p]? = some e → Inv (run q s0 (evs.take p)).store → Inv (run q s0 (evs.take (p + 1))).store) :
    ∀ p, Inv (run q s0 (evs.take p)).store := by
  intro p
  induction p with
  | zero => simpa [run_nil] using h0
  | succ n ih =>
    cases h : evs[n]? with
    | none =>
      have hlen : evs.length ≤ n := by simpa using h
      rw [List.take_of_length_le (by omega)]
      rw [List.take_of_length_le hlen] at ih
      exact ih
    | some e => exact hstep n e h ih

def cDECRBY (k n : Bytes) : Cmd := [[68, 69, 67, 82, 66, 89], k, n]
def cINCRBY (k n : Bytes) : Cmd := [[73, 78, 67, 82, 66, 89], k, n]
def cMGET (k j : Bytes) : Cmd := [[77, 71, 69, 84], k, j]

/-- two writers (connections 1, 2) transfer 7 and 5 from `a` (= 100) to `b` (= 0) with their frames
    interleaved; reader 3 looks with MGET after every step -/
def demoTransfers : List Event :=
  [.frame 1 { cmd := cMULTI }, .frame 2 { cmd := cMULTI }, .frame 1 { cmd := cDECRBY [97] [55] },
   .frame 3 { cmd := cMGET [97] [98] }, .frame 2 { cmd := cDECRBY [97] [53] }, .frame 1 { cmd := cINCRBY [98] [55] },
   .frame 3 { cmd := cMGET [97] [98] }, .frame 1 { cmd := cEXEC }, .frame 3 { cmd := cMGET [97] [98] },
   .frame 2 { cmd := cINCRBY [98] [53] }, .frame 2 { cmd := cEXEC }, .frame 3 { cmd := cMGET [97] [98] }]

def sTransfers : Server :=
  { store := (KS.step {} (KS.step {} KS.emptyStore 0 0 (cSET [97] [49, 48, 48]) none).1 0 0 (cSET [98] [48]) none).1 }

/-- the reader sees (100, 0), (100, 0), (93, 7), (88, 12): always 100 in total, although each
    transaction passes through a state with total 93 resp. 88 -/
example : (trace Quirks.code sTransfers demoTransfers).filterMap (fun r => match r with
      | some (.one (.frame (.array [.bulk x, .bulk y]))) => some (x, y)
      | _ => none) =
    [([49, 48, 48], [48]), ([49, 48, 48], [48]), ([57, 51], [55]), ([56, 56], [49, 50])] := by decide

/-- What the queue holds when the EXEC arrives: if the connection's OWN events, in a schedule
    interleaved arbitrarily with other connections, are anything that leaves it idle followed by
    MULTI and then queueable commands `cmds`, its queue is exactly `cmds`, in the order sent. -/
theorem queue_is_what_was_sent (q : Quirks) (s : Server) (evs : List Event) (cid now : Nat) (pre : List Event) (cmds : List Cmd)
    (hown : ownEvents cid evs = pre ++ framesOf cid now (cMULTI :: cmds))
    (hidle : (pre.foldl (connEvent q) (s.conns cid)).inTx = false)
    (hc : ∀ c ∈ cmds, queueable q c = true) :
    ((run q s evs).conns cid).inTx = true ∧ ((run q s evs).conns cid).queue = cmds ∧
    ((run q s evs).conns cid).aborted = false ∧
    ((run q s evs).conns cid).db = (pre.foldl (connEvent q) (s.conns cid)).db := by
  rw [conn_state_is_fold_of_own_events, hown, List.foldl_append,
    (transaction q cid now cMULTI cmds _ (by decide) (.inl rfl) hidle hc).1]
  exact ⟨rfl, rfl, rfl, rfl⟩

/-- A fresh transaction runs exactly its own commands, whatever came before on that connection:
    if the connection's own events — interleaved in any way with other connections — are ANY history
    that leaves it outside a transaction (earlier transactions that ran, that were refused because a
    WATCHed key changed, that were DISCARDed, refused EXECs and nested MULTIs, …) followed by MULTI and
    the queueable commands `cmds`, then an EXEC whose WATCH check passes replies with exactly
    `|cmds|` slots and leaves the dataset that EXEC's loop over `cmds` — nothing of an earlier, aborted
    or discarded transaction is run. -/
theorem fresh_transaction_runs_exactly_its_own_commands (q : Quirks) (s : Server) (evs : List Event) (cid now : Nat)
    (pre : List Event) (cmds : List Cmd) (r : Req)
    (hown : ownEvents cid evs = pre ++ framesOf cid now (cMULTI :: cmds))
    (hidle : (pre.foldl (connEvent q) (s.conns cid)).inTx = false)
    (hc : ∀ c ∈ cmds, queueable q c = true)
    (hname : nameOf r.cmd = "EXEC") (harity : arityOk q r.cmd) (hw : r.watchOk = true) :
    let S := run q s evs
    ∃ slots, (processFrame q S cid r).2 = .exec slots ∧ slots.length = cmds.length ∧
      (processFrame q S cid r).1.store =
        (execFold q true cid r.now ⟨S.store, (S.conns cid).db, S.ext⟩ cmds).1.store ∧
      ((processFrame q S cid r).1.conns cid).queue = [] := by
  intro S
  obtain ⟨h1, h2, h3, _⟩ := queue_is_what_was_sent q s evs cid now pre cmds hown hidle hc
  rw [processFrame_exec ((kindOf_exec _).2 hname) (badArity_ok q r.cmd harity),
    exec_runs h1 hw h3]
  refine ⟨_, rfl, ?_, ?_, ?_⟩
  · unfold execResult; rw [execFold_length]; exact congrArg List.length h2
  · unfold execResult; rw [show (S.conns cid).queue = cmds from h2]; rfl
  · rw [setConn_same]; rfl

/-- an earlier transaction of connection 1 was refused by WATCH (`watchOk := false`), then a fresh one -/
def demoAfterAbort : List Event :=
  [.frame 1 { cmd := cMULTI }, .frame 1 { cmd := cSET [97] [49] }, .frame 1 { cmd := cINCR [99] },
   .frame 1 { cmd := cEXEC, watchOk := false },
   .frame 1 { cmd := cMULTI }, .frame 1 { cmd := cSET [98] [50] }, .frame 1 { cmd := cEXEC }]

/-- non-vacuity: the refused EXEC answers a null array, the next EXEC has ONE slot, `a` was never set -/
example : trace Quirks.spec {} demoAfterAbort =
      [some (.one (.frame KS.ok)), some (.one (.frame queuedFrame)), some (.one (.frame queuedFrame)),
       some (.one (.frame .nullArray)),
       some (.one (.frame KS.ok)), some (.one (.frame queuedFrame)), some (.exec [.frame KS.ok])] ∧
    KS.lookup (KS.getDb (run Quirks.spec {} demoAfterAbort).store 0) [97] = none :=
  ⟨rfl, by decide⟩

/-! ## 4. A runtime error is reported in its slot and does not stop the others -/

/-- If the queue is `pre ++ bad :: post` and the data command `bad` fails at run time on the state
    left by `pre` (wrong type, not an integer, unknown command, wrong arity — anything `KS.step`
    answers with an error), then: slot `|pre|` of EXEC's array is that error; `bad` changed nothing
    (`KS.step_atomic`: the dataset is the one it found, up to dropping entries that had already
    expired); and the commands after it still run — the final dataset and the remaining slots are
    those of `post` executed from there. -/
theorem runtime_error_in_slot (q : Quirks) (s : Server) (cid : Nat) (r : Req)
    (hin : (s.conns cid).inTx = true) (hw : r.watchOk = true) (ha : (s.conns cid).aborted = false)
    (pre post : List Cmd) (bad : Cmd) (hQ : (s.conns cid).queue = pre ++ bad :: post) (hplain : plain bad = true) :
    let stPre := (execFold q true cid r.now ⟨s.store, (s.conns cid).db, s.ext⟩ pre).1
    let kres := KS.step q.ks stPre.store stPre.db r.now bad none
    KS.isErr kres.2 = true →
    let stBad : ExecSt := { stPre with store := kres.1 }
    (stBad.store = stPre.store ∨
      stBad.store = KS.setDb stPre.store stPre.db (KS.purge r.now (KS.getDb stPre.store stPre.db))) ∧
    (exec q s cid r).1.store = (execFold q true cid r.now stBad post).1.store ∧
    (exec q s cid r).2 = .exec ((execFold q true cid r.now ⟨s.store, (s.conns cid).db, s.ext⟩ pre).2 ++
        .frame kres.2 :: (execFold q true cid r.now stBad post).2) := by
  intro stPre kres herr stBad
  have hone : runOne q true cid stPre r.now bad = (stBad, .frame kres.2) := runOne_plain q true cid stPre r.now bad hplain
  rw [exec_runs hin hw ha]
  unfold execResult
  rw [hQ, execFold_append, execFold_cons, hone]
  exact ⟨KS.step_atomic q.ks stPre.store stPre.db r.now bad none herr, rfl, rfl⟩

/-- `MULTI; SET k abc; INCR k; SET j 1; EXEC` -/
def sRuntimeErr : Server := setConn {} 1 { inTx := true, queue := [cSET [107] [97, 98, 99], cINCR [107], cSET [106] [49]] }

/-- non-vacuity: INCR on "abc" fails in slot 1, slots 0 and 2 are OK and both SETs took effect -/
example : (exec Quirks.code sRuntimeErr 1 { cmd := cEXEC }).2 = .exec [.frame KS.ok, .frame KS.err, .frame KS.ok] ∧
    KS.lookup (KS.getDb (exec Quirks.code sRuntimeErr 1 { cmd := cEXEC }).1.store 0) [107] = some ⟨.str [97, 98, 99], none⟩ ∧
    KS.lookup (KS.getDb (exec Quirks.code sRuntimeErr 1 { cmd := cEXEC }).1.store 0) [106] = some ⟨.str [49], none⟩ :=
  ⟨rfl, by decide, by decide⟩

/-! ## 5. DISCARD and a disconnect drop the queue without any effect -/

/-- DISCARD inside a transaction: the dataset, the hand-over log and every other connection are
    exactly as before; the connection is out of the transaction with an empty queue; reply OK. -/
theorem discard_drops (q : Quirks) (s : Server) (cid : Nat) (r : Req)
    (hname : nameOf r.cmd = "DISCARD") (harity : arityOk q r.cmd) (hin : (s.conns cid).inTx = true) :
    processFrame q s cid r = (setConn s cid (cleared (s.conns cid)), .one (.frame KS.ok)) ∧
    (processFrame q s cid r).1.store = s.store ∧ (processFrame q s cid r).1.ext = s.ext ∧
    ((processFrame q s cid r).1.conns cid).inTx = false ∧ ((processFrame q s cid r).1.conns cid).queue = [] := by
  have : processFrame q s cid r = (setConn s cid (cleared (s.conns cid)), .one (.frame KS.ok)) := by
    rw [processFrame_discard ((kindOf_discard _).2 hname) (badArity_ok q r.cmd harity), hin]; rfl
  rw [this, setConn_same]
  exact ⟨rfl, rfl, rfl, rfl, rfl⟩

/-- A disconnect at any moment: the dataset and the hand-over log are untouched and nothing of the
    connection's transaction survives (a queue is data of the `Connection` object only). -/
theorem disconnect_drops (q : Quirks) (s : Server) (cid : Nat) :
    (stepEvent q s (.disconnect cid)).1.store = s.store ∧
    (stepEvent q s (.disconnect cid)).1.ext = s.ext ∧
    (stepEvent q s (.disconnect cid)).1.conns cid = Conn.fresh ∧
    ∀ j, j ≠ cid → (stepEvent q s (.disconnect cid)).1.conns j = s.conns j := by
  refine ⟨rfl, rfl, by simp [stepEvent], ?_⟩
  intro j hj; simp [stepEvent, setConn, hj]

/-- A connection whose own frames never reach the dataset is invisible, for EVERY interleaving
    with the events of all other connections: the final dataset, hand-over log and the state of
    every other connection, and every reply sent to the others, are exactly those of the schedule
    with that connection's events erased. -/
theorem quiet_connection_is_invisible (q : Quirks) (s : Server) (evs : List Event) (cid : Nat)
    (hq : QuietRun q (s.conns cid) (ownEvents cid evs)) :
    (run q s evs).store = (run q s (otherEvents cid evs)).store ∧
    (run q s evs).ext = (run q s (otherEvents cid evs)).ext ∧
    (∀ j, j ≠ cid → (run q s evs).conns j = (run q s (otherEvents cid evs)).conns j) ∧
    repliesToOthers q cid s evs = trace q s (otherEvents cid evs) := by
  obtain ⟨⟨h1, h2, h3⟩, h4⟩ := quiet_erase q cid evs s s ⟨rfl, rfl, fun _ _ => rfl⟩ hq
  exact ⟨h1, h2, h3, h4⟩

/-- A transaction that ends in DISCARD has no effect whatsoever: if the own frames of connection
    `cid` — interleaved in ANY way with any events of other connections — are MULTI, any queueable
    commands, DISCARD, then everybody else's replies and the final dataset are as if `cid` had sent
    nothing. -/
theorem discarded_transaction_invisible (q : Quirks) (s : Server) (evs : List Event) (cid now : Nat) (cmds : List Cmd)
    (hidle : (s.conns cid).inTx = false)
    (hown : ownEvents cid evs = framesOf cid now (cMULTI :: cmds) ++ [.frame cid { cmd := cDISCARD, now := now }])
    (hc : ∀ c ∈ cmds, queueable q c = true) :
    (run q s evs).store = (run q s (otherEvents cid evs)).store ∧
    (run q s evs).ext = (run q s (otherEvents cid evs)).ext ∧
    repliesToOthers q cid s evs = trace q s (otherEvents cid evs) := by
  have hq : QuietRun q (s.conns cid) (ownEvents cid evs) := by
    rw [hown]
    have hd : nameOf cDISCARD = "DISCARD" := by decide
    exact (transaction q cid now cMULTI cmds _ (by decide) (.inl rfl) hidle hc).2 _
      ⟨by simp [quietFrame, hd, kindOf], trivial⟩
  obtain ⟨h1, h2, _, h4⟩ := quiet_connection_is_invisible q s evs cid hq
  exact ⟨h1, h2, h4⟩

/-- The same when the client goes away in the middle of the transaction (socket closed after MULTI
    and any queued commands): nothing was applied, nobody else can tell. -/
theorem disconnected_transaction_invisible (q : Quirks) (s : Server) (evs : List Event) (cid now : Nat) (cmds : List Cmd)
    (hidle : (s.conns cid).inTx = false)
    (hown : ownEvents cid evs = framesOf cid now (cMULTI :: cmds) ++ [.disconnect cid])
    (hc : ∀ c ∈ cmds, queueable q c = true) :
    (run q s evs).store = (run q s (otherEvents cid evs)).store ∧
    (run q s evs).ext = (run q s (otherEvents cid evs)).ext ∧
    repliesToOthers q cid s evs = trace q s (otherEvents cid evs) := by
  have hq : QuietRun q (s.conns cid) (ownEvents cid evs) := by
    rw [hown]
    exact (transaction q cid now cMULTI cmds _ (by decide) (.inl rfl) hidle hc).2 _ ⟨trivial, trivial⟩
  obtain ⟨h1, h2, _, h4⟩ := quiet_connection_is_invisible q s evs cid hq
  exact ⟨h1, h2, h4⟩

/-- connection 1 opens a transaction, queues SET k v, connection 2 writes j in between, 1 discards -/
def demoDiscard : List Event :=
  [.frame 1 { cmd := cMULTI }, .frame 2 { cmd := cSET [106] [49] }, .frame 1 { cmd := cSET [107] [118] },
   .frame 2 { cmd := cGET [107] }, .frame 1 { cmd := cDISCARD }]

example : ownEvents 1 demoDiscard = framesOf 1 0 (cMULTI :: [cSET [107] [118]]) ++ [.frame 1 { cmd := cDISCARD, now := 0 }] ∧
    (∀ c ∈ [cSET [107] [118]], queueable Quirks.code c = true) := ⟨rfl, by decide⟩

/-! ## 6. Transaction state is cleared by EXEC and DISCARD, and is per connection -/

/-- After EXEC on a connection in a transaction — whether the queue ran, the WATCH check failed or
    the transaction was flagged — and after DISCARD, the connection is out of the transaction, its
    queue is empty and the flag is reset. -/
theorem state_cleared_by_exec_and_discard (q : Quirks) (s : Server) (cid : Nat) (r : Req)
    (hin : (s.conns cid).inTx = true) (hname : nameOf r.cmd = "EXEC" ∨ nameOf r.cmd = "DISCARD")
    (harity : arityOk q r.cmd) :
    ((processFrame q s cid r).1.conns cid).inTx = false ∧
    ((processFrame q s cid r).1.conns cid).queue = [] ∧
    ((processFrame q s cid r).1.conns cid).aborted = false := by
  rcases hname with h | h
  · rw [processFrame_exec ((kindOf_exec _).2 h) (badArity_ok q r.cmd harity)]
    by_cases hx : (s.conns cid).inTx = true ∧ r.watchOk = true ∧ (s.conns cid).aborted = false
    · rw [exec_runs hx.1 hx.2.1 hx.2.2, setConn_same]; exact ⟨rfl, rfl, rfl⟩
    · rw [exec_quiet hx, setConn_same, hin]; exact ⟨rfl, rfl, rfl⟩
  · rw [(discard_drops q s cid r h harity hin).1, setConn_same]
    exact ⟨rfl, rfl, rfl⟩

/-- For EVERY schedule and every connection: its state (database index, in-transaction flag, queue,
    flag) after the schedule is a function of ITS OWN events only — neither the dataset nor any frame
    of any other connection enters. -/
theorem state_is_per_connection (q : Quirks) (s : Server) (evs : List Event) (cid : Nat) :
    (run q s evs).conns cid = (ownEvents cid evs).foldl (connEvent q) (s.conns cid) :=
  conn_state_is_fold_of_own_events q s evs cid

/-- In particular frames of connection A never change B's transaction: a schedule in which B sends
    nothing leaves B's state as it was, whatever A (and everybody else) does. -/
theorem others_never_touch_my_transaction (q : Quirks) (s : Server) (evs : List Event) (b : Nat)
    (h : ∀ e ∈ evs, e.conn? ≠ some b) : (run q s evs).conns b = s.conns b := by
  rw [conn_state_is_fold_of_own_events]
  have : ownEvents b evs = [] := by
    unfold ownEvents
    rw [List.filter_eq_nil_iff]
    intro e he; simp [h e he]
  rw [this]; rfl

/-- Two servers that differ only in what OTHER connections did and in the dataset give a
    connection the same transaction state after the same own frames (corollary used by lib/c07.py:
    the model predicts each connection's QUEUED/EXEC behaviour from its own frames). -/
theorem own_frames_determine_state (q : Quirks) (s s' : Server) (evs evs' : List Event) (cid : Nat)
    (h0 : s.conns cid = s'.conns cid) (h : ownEvents cid evs = ownEvents cid evs') :
    (run q s evs).conns cid = (run q s' evs').conns cid := by
  rw [conn_state_is_fold_of_own_events, conn_state_is_fold_of_own_events, h0, h]

example : ∀ e ∈ [Event.frame 1 { cmd := cMULTI }, .frame 1 { cmd := cSET [107] [118] }, .disconnect 3], e.conn? ≠ some 2 := by
  intro e he; simp at he; rcases he with h | h | h <;> subst h <;> simp [Event.conn?]

/-! ## 7. EXEC without MULTI, nested MULTI -/

/-- EXEC (and DISCARD) outside a transaction: an error reply and the server is exactly as before. -/
theorem exec_without_multi_refused (q : Quirks) (s : Server) (cid : Nat) (r : Req)
    (hname : nameOf r.cmd = "EXEC" ∨ nameOf r.cmd = "DISCARD") (hin : (s.conns cid).inTx = false) :
    processFrame q s cid r = (s, .one (.frame KS.err)) := by
  cases hb : badArity q r.cmd
  · rcases hname with h | h
    · rw [processFrame_exec ((kindOf_exec _).2 h) hb, exec_refused hin]
    · rw [processFrame_discard ((kindOf_discard _).2 h) hb, hin]; rfl
  · exact processFrame_refused (.inr hb)

/-- MULTI inside a transaction is refused with an error and — as the code does it — NOTHING is
    touched: the connection stays in the transaction, the queue keeps every command queued so far,
    the flag is not set (so a later EXEC still runs the queue). -/
theorem nested_multi_refused_keeps_queue (q : Quirks) (s : Server) (cid : Nat) (r : Req)
    (hname : nameOf r.cmd = "MULTI") (hin : (s.conns cid).inTx = true) :
    processFrame q s cid r = (s, .one (.frame KS.err)) := by
  cases hb : badArity q r.cmd
  · rw [processFrame_multi ((kindOf_multi _).2 hname) hb, hin]; rfl
  · exact processFrame_refused (.inr hb)

/-- MULTI outside a transaction opens one with an empty queue. -/
theorem multi_opens (q : Quirks) (s : Server) (cid : Nat) (r : Req)
    (hname : nameOf r.cmd = "MULTI") (harity : arityOk q r.cmd) (hin : (s.conns cid).inTx = false) :
    processFrame q s cid r =
      (setConn s cid { s.conns cid with inTx := true, queue := [], aborted := false }, .one (.frame KS.ok)) := by
  rw [processFrame_multi ((kindOf_multi _).2 hname) (badArity_ok q r.cmd harity), hin]; rfl

/-- Prescribed: MULTI, EXEC and DISCARD with surplus arguments are refused and NOTHING changes — a
    malformed EXEC does not execute (and does not leave) the transaction, a malformed DISCARD discards
    nothing, a malformed MULTI opens nothing. -/
theorem malformed_control_command_refused (q : Quirks) (hq : q.controlArityUnchecked = false) (s : Server) (cid : Nat) (r : Req)
    (hname : nameOf r.cmd = "MULTI" ∨ nameOf r.cmd = "EXEC" ∨ nameOf r.cmd = "DISCARD") (hlen : r.cmd.length ≠ 1) :
    processFrame q s cid r = (s, .one (.frame KS.err)) := by
  refine processFrame_refused (.inr ?_)
  unfold badArity
  rcases hname with h | h | h
  · simp [(kindOf_multi _).2 h, hlen, hq]
  · simp [(kindOf_exec _).2 h, hlen, hq]
  · simp [(kindOf_discard _).2 h, hlen, hq]

/-- Witness for the tree as found: `EXEC junk` executes the queue (and `SET k v` takes effect). -/
theorem malformed_control_command_refused_fails_exec :
    nameOf (cEXEC ++ [[106]]) = "EXEC" ∧ (cEXEC ++ [[106]]).length ≠ 1 ∧
    (processFrame Quirks.code sQueued 1 { cmd := cEXEC ++ [[106]] }).2 =
      .exec [.frame KS.ok, .frame (.int 6), .frame (.bulk [54])] ∧
    (processFrame Quirks.spec sQueued 1 { cmd := cEXEC ++ [[106]] }).2 = .one (.frame KS.err) ∧
    ((processFrame Quirks.spec sQueued 1 { cmd := cEXEC ++ [[106]] }).1.conns 1).inTx = true :=
  ⟨by decide, by decide, rfl, rfl, by decide⟩

/-! ## 8. What holds in every reachable state -/

/-- For EVERY schedule from a server whose connections are idle: no connection ever carries the
    `aborted` flag (no code path sets it: `Gen.abortedSetSites = 0`; a command with an unknown name
    or a wrong arity is queued like any other and fails in its slot at EXEC), an idle connection has
    an empty queue, and a queue only ever holds commands that passed the queue test. -/
theorem reachable_connections_ok (q : Quirks) (evs : List Event) (j : Nat) :
    ((run q {} evs).conns j).aborted = false ∧
    (((run q {} evs).conns j).inTx = false → ((run q {} evs).conns j).queue = []) ∧
    ∀ c ∈ ((run q {} evs).conns j).queue, queueable q c = true := by
  have := run_ok q {} evs (fun _ => ConnOk_fresh q) j
  exact ⟨this.notAborted, this.idleEmpty, this.queueOk⟩

/-- Hence, in every reachable state, an EXEC whose WATCH check passes runs its queue: the null
    reply of EXEC can only come from WATCH (C08). -/
theorem exec_nil_only_from_watch (q : Quirks) (evs : List Event) (cid : Nat) (r : Req)
    (hin : ((run q {} evs).conns cid).inTx = true) (hw : r.watchOk = true) :
    (exec q (run q {} evs) cid r).2 = .exec (execResult q (run q {} evs) cid r.now).2 :=
  congrArg Prod.snd (exec_runs hin hw (reachable_connections_ok q evs cid).1)

/-- When the WATCH check fails nothing is executed: dataset and log untouched, state cleared, null array. -/
theorem exec_watch_failed_runs_nothing (q : Quirks) (s : Server) (cid : Nat) (r : Req)
    (hin : (s.conns cid).inTx = true) (hw : r.watchOk = false) :
    exec q s cid r = (setConn s cid (cleared (s.conns cid)), .one (.frame .nullArray)) :=
  exec_watch_failed hin hw

/-! ## 9. Blocking pops inside EXEC -/

/-- every slot of the reply can be written on the wire -/
def wellFormed (slots : List Out) : Bool := slots.all fun o => !isNoResponse o

/-- Prescribed (as Redis does it): inside EXEC a blocking pop never blocks — EXEC's array never
    contains the internal `NoResponse` marker, for EVERY queue. -/
theorem exec_reply_well_formed (q : Quirks) (hq : q.blockingInExecNoResponse = false)
    (cid now : Nat) (st : ExecSt) (cs : List Cmd) : wellFormed (execFold q true cid now st cs).2 = true := by
  refine List.all_eq_true.2 fun o ho => ?_
  cases h : isNoResponse o
  · rfl
  · rcases (execFold_noResponse q true cid now st cs o ho h).2 with hb | hb
    · cases hb
    · rw [hq] at hb; cases hb

/-- The code as it is: the same for queues without BLPOP/BRPOP. -/
theorem exec_reply_well_formed_partial (q : Quirks) (cid now : Nat) (st : ExecSt) (cs : List Cmd)
    (hnb : ∀ c ∈ cs, isBlockingName (nameOf c) = false) : wellFormed (execFold q true cid now st cs).2 = true := by
  refine List.all_eq_true.2 fun o ho => ?_
  cases h : isNoResponse o
  · rfl
  · obtain ⟨⟨c, hc, hb⟩, _⟩ := execFold_noResponse q true cid now st cs o ho h
    rw [hnb c hc] at hb; cases hb

/-- `MULTI; SET p 1; BLPOP qq 0; SET p2 2; EXEC` on an empty dataset -/
def sBlocking : Server :=
  setConn {} 1 { inTx := true, queue := [cSET [112] [49], cBLPOP [113, 113] [48], cSET [112, 50] [50]] }

/-- Witness: the code puts `NoResponse` into slot 1 (the serializer stops there: the client receives
    `*3 +OK` and nothing more) and registers connection id 0 — which no client owns — as a waiter
    on `qq`; the prescribed variant answers a null array in that slot and registers nobody. -/
theorem exec_reply_well_formed_fails_blpop :
    (exec Quirks.code sBlocking 1 { cmd := cEXEC }).2 = .exec [.frame KS.ok, .noResponse, .frame KS.ok] ∧
    (exec Quirks.code sBlocking 1 { cmd := cEXEC }).1.ext = [(0, cBLPOP [113, 113] [48])] ∧
    wellFormed (execResult Quirks.code sBlocking 1 0).2 = false ∧
    (exec Quirks.spec sBlocking 1 { cmd := cEXEC }).2 = .exec [.frame KS.ok, .frame .nullArray, .frame KS.ok] ∧
    (exec Quirks.spec sBlocking 1 { cmd := cEXEC }).1.ext = [] :=
  ⟨rfl, by decide, by decide, rfl, by decide⟩

/-- Prescribed: a queued blocking pop acts as its non-blocking variant — when a list has an element
    it is popped and returned with its key (both variants agree on that), otherwise a null array; it
    never hands the connection to the blocking registry. -/
theorem blocking_in_exec_registers_nobody (q : Quirks) (hq : q.blockingInExecNoResponse = false)
    (cid : Nat) (st : ExecSt) (now : Nat) (c : Cmd) (hb : isBlockingName (nameOf c) = true) :
    (runOne q true cid st now c).1.ext = st.ext := by
  rw [runOne_blocking hb]
  exact runBlocking_ext q cid st now _ c hq

/-- a served blocking pop inside EXEC: `RPUSH`-ed element comes back as `[key, element]` in both variants -/
def sBlockingServed : Server :=
  setConn {} 1 { inTx := true, queue := [cLPUSH [113] [120], cBLPOP [113] [48]] }

example : (exec Quirks.code sBlockingServed 1 { cmd := cEXEC }).2 =
      .exec [.frame (.int 1), .frame (.array [.bulk [113], .bulk [120]])] ∧
    (exec Quirks.spec sBlockingServed 1 { cmd := cEXEC }).2 = (exec Quirks.code sBlockingServed 1 { cmd := cEXEC }).2 :=
  ⟨rfl, rfl⟩

/-! ## 10. SELECT inside EXEC -/

/-- Prescribed: a queued SELECT with a valid index switches the database for the commands queued
    after it and for the connection afterwards. -/
theorem select_in_exec_selects (q : Quirks) (hq : q.selectInExecIgnored = false) (cid : Nat) (st : ExecSt) (now : Nat)
    (c : Cmd) (n : Nat) (hname : nameOf c = "SELECT") (harg : selectArg (c.drop 1) = some n) :
    runOne q true cid st now c = ({ st with db := n }, .frame KS.ok) := by
  rw [runOne_select hname, harg]
  simp [hq]

/-- Witness for the code: the same command answers OK and selects nothing. -/
theorem select_in_exec_selects_fails :
    nameOf (cSELECT [49]) = "SELECT" ∧ selectArg ((cSELECT [49]).drop 1) = some 1 ∧
    (runOne Quirks.code true 1 ⟨KS.emptyStore, 0, []⟩ 0 (cSELECT [49])).1.db = 0 ∧
    (runOne Quirks.code true 1 ⟨KS.emptyStore, 0, []⟩ 0 (cSELECT [49])).2 = .frame KS.ok ∧
    (runOne Quirks.code false 1 ⟨KS.emptyStore, 0, []⟩ 0 (cSELECT [49])).1.db = 1 :=
  ⟨by decide, by decide, by decide, rfl, by decide⟩

/-! ## 11. Blocked clients are served between frames, never inside EXEC -/

/-- The reply to ANY frame — EXEC's array included — is the one `processFrame` computes from the
    dataset the frame found: clients blocked in BLPOP/BRPOP play no part in it.  Inside EXEC nobody
    else is served (a queued `RPUSH k a; LPOP k` gets `a` back although somebody waits on `k`). -/
theorem frame_reply_ignores_blocked_clients (q : Quirks) (L : Loop) (cid : Nat) (r : Req) :
    (Loop.frame q L cid r).2.1 = (processFrame q L.srv cid r).2 := rfl

/-- The service of blocked clients is loop work AFTER the frame: connections and hand-over log are
    those `processFrame` leaves, the dataset is the one it leaves with `serveAll` applied — a frame
    event followed by an `Event.between`, to which `exec_is_one_transition` applies. -/
theorem service_is_loop_work_after_the_frame (q : Quirks) (L : Loop) (cid : Nat) (r : Req) :
    (Loop.frame q L cid r).1.srv.conns = (processFrame q L.srv cid r).1.conns ∧
    (Loop.frame q L cid r).1.srv.ext = (processFrame q L.srv cid r).1.ext ∧
    ∃ ws ready, (Loop.frame q L cid r).1.srv.store =
        (serveAll q.ks r.now (processFrame q L.srv cid r).1.store ws ready).1 ∧
      (Loop.frame q L cid r).1.srv =
        run q L.srv [.frame cid r, .between fun s => (serveAll q.ks r.now s ws ready).1] :=
  ⟨rfl, rfl, _, _, rfl, rfl⟩

/-- A push that is only queued wakes nobody: no delivery, the waiters stay as they are, the dataset
    is untouched — until EXEC. -/
theorem queued_push_wakes_nobody (q : Quirks) (L : Loop) (cid : Nat) (r : Req)
    (hin : (L.srv.conns cid).inTx = true) (hq : queueable q r.cmd = true) :
    (Loop.frame q L cid r).2.2 = [] ∧ (Loop.frame q L cid r).1.waiters = L.waiters ∧
    (Loop.frame q L cid r).1.srv.store = L.srv.store := by
  have himm : q.immediate.contains (nameOf r.cmd) = false := by
    simpa using ((queueable_iff q r.cmd).1 hq).2.2
  unfold Loop.frame
  simp only [processFrame_queue hin hq, hin, himm]
  simp [serveAll]

def cRPUSH (k : Bytes) (vs : List Bytes) : Cmd := [82, 80, 85, 83, 72] :: k :: vs
def cLPOP (k : Bytes) : Cmd := [[76, 80, 79, 80], k]

/-- connection 9 is blocked in `BLPOP k 0`; connection 1 has queued `RPUSH k a b; LPOP k` -/
def lBlocked : Loop :=
  { srv := setConn {} 1 { inTx := true, queue := [cRPUSH [107] [[97], [98]], cLPOP [107]] }
    waiters := [⟨9, 0, [[107]], true⟩] }

/-- EXEC answers `[2, a]` — the transaction pops its own first element, nobody was served in
    between — and only then connection 9 is served the element that is left, `b` -/
example : (Loop.frame Quirks.spec lBlocked 1 { cmd := cEXEC }).2.1 = .exec [.frame (.int 2), .frame (.bulk [97])] ∧
    (Loop.frame Quirks.spec lBlocked 1 { cmd := cEXEC }).2.2 = [(9, .array [.bulk [107], .bulk [98]])] ∧
    (Loop.frame Quirks.spec lBlocked 1 { cmd := cEXEC }).1.waiters = [] :=
  ⟨rfl, rfl, by decide⟩

/-- … and with `RPUSH k a; LPOP k` nothing is left: connection 9 stays blocked -/
example : (Loop.frame Quirks.spec { lBlocked with srv := setConn {} 1 { inTx := true, queue := [cRPUSH [107] [[97]], cLPOP [107]] } }
      1 { cmd := cEXEC }).2 = (.exec [.frame (.int 1), .frame (.bulk [97])], []) := rfl

/-! ## 12. UNWATCH between MULTI and EXEC; commands about the connection inside EXEC -/

def cUNWATCH : Cmd := [[85, 78, 87, 65, 84, 67, 72]]
def cCLIENTID : Cmd := [[67, 76, 73, 69, 78, 84], [73, 68]]

/-- `queued_has_no_effect` at work: with nothing executed immediately (prescribed), an UNWATCH sent
    between MULTI and EXEC is only queued — it cannot disarm the WATCHes guarding the transaction
    being built, which EXEC checks before it runs anything. -/
theorem unwatch_inside_multi_is_queued (q : Quirks) (hq : q.immediate = []) (s : Server) (cid : Nat) (r : Req)
    (hin : (s.conns cid).inTx = true) (hname : nameOf r.cmd = "UNWATCH") :
    (processFrame q s cid r).2 = .one (.frame queuedFrame) ∧
    (processFrame q s cid r).1.conns cid = { s.conns cid with queue := (s.conns cid).queue ++ [r.cmd] } := by
  have hne : r.cmd ≠ [] := by
    intro h; rw [h] at hname; simp [nameOf] at hname
  have hctl : nameOf r.cmd ∉ controlNames := by rw [hname]; decide
  obtain ⟨h1, _, _, _, h5⟩ := queued_has_no_effect q hq s cid r hin hne hctl
  exact ⟨h1, h5⟩

/-- Run by EXEC (or sent outside a transaction) a well-formed UNWATCH answers OK and touches neither
    the dataset nor the hand-over log: in its EXEC slot it is a no-op, the watches having been checked
    and dropped before the loop. -/
theorem unwatch_runs_as_noop (q : Quirks) (b : Bool) (cid : Nat) (st : ExecSt) (now : Nat) (c : Cmd)
    (hname : nameOf c = "UNWATCH") (hlen : c.length = 1) :
    runOne q b cid st now c = (st, .frame KS.ok) := by
  rw [runOne_unwatch hname]
  simp [hlen]

/-- Witness (finding C07-unwatch-runs-inside-multi): the tree as found answers OK at once and queues
    nothing — the EXEC array is one slot short; the prescribed variant queues it and gives it a slot. -/
theorem unwatch_inside_multi_is_queued_fails :
    (processFrame Quirks.code sInTx 1 { cmd := cUNWATCH }).2 = .one (.frame KS.ok) ∧
    ((processFrame Quirks.code sInTx 1 { cmd := cUNWATCH }).1.conns 1).queue = [] ∧
    (processFrame Quirks.spec sInTx 1 { cmd := cUNWATCH }).2 = .one (.frame queuedFrame) ∧
    (processFrame Quirks.spec (processFrame Quirks.spec sInTx 1 { cmd := cUNWATCH }).1 1 { cmd := cEXEC }).2 =
      .exec [.frame KS.ok] :=
  ⟨rfl, by decide, rfl, rfl⟩

/-- Prescribed: what EXEC hands to the connection table (CLIENT …) is handed over under the id of the
    connection that sent EXEC — a queued command about the connection acts on, and reports about,
    THAT connection. -/
theorem connection_command_in_exec_runs_for_its_connection (q : Quirks) (hq : q.connCommandsUnderConnZero = false)
    (cid : Nat) (st : ExecSt) (now : Nat) (c : Cmd) (hname : nameOf c ∈ connectionNames) :
    runOne q true cid st now c = ({ st with ext := st.ext ++ [(cid, c)] }, .external) ∧
    runOne q true cid st now c = runOne q false cid st now c := by
  rw [runOne_connection hname, runOne_connection hname]
  simp [hq]

/-- Witness (finding C07-connection-commands-run-as-connection-0): the tree as found hands a queued
    `CLIENT ID` over under connection id 0 (it answers 0; SETNAME / GETNAME find no connection). -/
theorem connection_command_in_exec_runs_for_its_connection_fails :
    (runOne Quirks.code true 7 ⟨KS.emptyStore, 0, []⟩ 0 cCLIENTID).1.ext = [(0, cCLIENTID)] ∧
    (runOne Quirks.code false 7 ⟨KS.emptyStore, 0, []⟩ 0 cCLIENTID).1.ext = [(7, cCLIENTID)] ∧
    (runOne Quirks.spec true 7 ⟨KS.emptyStore, 0, []⟩ 0 cCLIENTID).1.ext = [(7, cCLIENTID)] := by decide

/-! ## 13. The model's tables are the source's (regenerated by translator/tx_facts.py on every run)

These are stated so that they hold for the tree as found AND after each of its repairs
(DESIGN.md §6, the C07 rows), and stop checking when the source acquires a deviation the model
does not have: a new name handled before the queue test, a control command that gets queued, a
thread hand-off in EXEC, a path that sets `aborted`, validation at queue time. -/

/-- `should_queue_command` never queues a transaction-control command proper, and lets nothing else
    through than those — and, in the tree as found, UNWATCH (a deviation: `immediateOfSource`) -/
theorem passThrough_table_matches_source :
    (∀ n ∈ controlNames, n ∈ Gen.txPassThrough) ∧
    (∀ n ∈ Gen.txPassThrough, n ∈ controlNames ∨ n = "UNWATCH") := by decide

/-- what `process_frame` handles before the queue test is the model's list (tree as found), or
    nothing at all (the queue test comes first: the current tree) -/
theorem preQueue_table_matches_source : Gen.preQueue = preQueueNames ∨ Gen.preQueue = [] := by decide

/-- and it never contains a name the model does not treat as control or hand-over -/
theorem preQueue_is_control_or_external :
    ∀ n ∈ Gen.preQueue, n ∈ controlNames ∨ n ∈ externalNames ∨ n = "UNWATCH" := by decide

/-- The variant the driver runs against the server (`Quirks.ofSource`, switches read off the source)
    lies between the prescribed behaviour and the tree as found: nothing is executed immediately
    that `Quirks.code` does not execute immediately, and no switch is on that is off there. -/
theorem source_variant_within_tree_as_found :
    (∀ n ∈ Quirks.ofSource.immediate, n ∈ Quirks.code.immediate) ∧
    (Quirks.ofSource.selectInExecIgnored = true → Quirks.code.selectInExecIgnored = true) ∧
    (Quirks.ofSource.blockingInExecNoResponse = true → Quirks.code.blockingInExecNoResponse = true) ∧
    (Quirks.ofSource.controlArityUnchecked = true → Quirks.code.controlArityUnchecked = true) ∧
    (Quirks.ofSource.connCommandsUnderConnZero = true → Quirks.code.connCommandsUnderConnZero = true) := by decide

/-- single command thread: `Server::run` → `process_connections` → `process_connection` →
    `process_frame` → `handle_exec`'s loop, with no thread spawn / channel / async hand-off (coarse
    syntactic test); nothing sets `aborted`; `queue_command` validates nothing -/
theorem loop_structure_matches_source :
    Gen.execIsSynchronous = true ∧ Gen.abortedSetSites = 0 ∧ Gen.queueCommandValidates = false := by decide

/-- pushes run by EXEC wake nobody; `handle_exec` serves the keys it pushed to after its loop
    (the structure `Loop.frame` transliterates) -/
theorem exec_serves_waiters_after_its_loop : Gen.execNotifiesWaiters = false := by decide

/-- a new transaction starts with an empty queue (what `processFrame`'s MULTI, `exec` and DISCARD
    transliterate): `handle_multi` clears the queue, or every exit of `handle_exec` that leaves the
    transaction and `handle_discard` clear or take it -/
theorem queue_cleared_when_transaction_ends : Gen.queueClearedWhenTransactionEnds = true := by decide

/-- the WATCH set ends with the transaction that was watched for (EXEC in each outcome, DISCARD): the
    input `Req.watchOk` of a LATER transaction depends only on keys watched after that ending -/
theorem watch_set_cleared_when_transaction_ends : Gen.watchSetClearedWhenTransactionEnds = true := by decide

/-- the frames of a client that blocked in a blocking pop wait and then run in the order sent: what
    was kept back behind the pop comes before what arrived later (so that the schedule the loop runs
    lists every connection's frames in the order that connection sent them, as `run` assumes) -/
theorem deferred_frames_run_first : Gen.deferredFramesFirst = true := by decide

/-- every fact above was actually read off the source: the translator substitutes a pessimistic
    value for a shape it does not recognise (so that model and driver keep building and the TCP run
    can search for a failing input) and lists it here -/
theorem source_shapes_recognised : Gen.txUnrecognised = [] := by decide

end Ferrous.C07
