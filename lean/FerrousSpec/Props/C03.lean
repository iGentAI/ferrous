/-
  C03 — list, set and hash commands follow the Redis reference semantics.

  Same machine as C01 (`KS.step`, Model/Keyspace.lean).  Property theorems only.
-/
import FerrousSpec.Props.C01
namespace Ferrous.C03
open Ferrous Ferrous.KS Ferrous.C01

/-- (1) Refused commands (wrong type, index out of range, non-integer field, bad arity) change nothing. -/
theorem refused_changes_nothing (q : Quirks) (s : Store) (i now : Nat) (cmd : List Bytes) (obs : Option (List Bytes))
    (h : isErr (step q s i now cmd obs).2 = true) :
    (step q s i now cmd obs).1 = s ∨ (step q s i now cmd obs).1 = setDb s i (purge now (getDb s i)) :=
  step_atomic q s i now cmd obs h

/-- (2) After any history, a key never holds an empty list, set or hash (a collection that becomes
    empty ceases to exist as a key), sets hold unique members and hashes unique fields. -/
theorem no_empty_collection_unique_members (q : Quirks) (ops : List Op) (j : Nat) (k : Bytes) (e : Entry)
    (h : lookup (getDb (run q emptyStore ops) j) k = some e) :
    match e.val with
    | .list xs => xs ≠ []
    | .set xs => xs ≠ [] ∧ xs.Nodup
    | .hash fs => fs ≠ [] ∧ (fs.map (·.1)).Nodup
    | _ => True := by
  have hok := getDb_ok (reachable_wellformed q ops) j
  have := lookup_valOk hok h
  cases hv : e.val <;> simp [hv, valOk] at this ⊢ <;> exact this

/-- LRANGE/LTRIM never select outside the list, for all integer bounds. -/
theorem lrange_in_bounds (len : Nat) (s e : Int) (a c : Nat) (h : lrangeSel len s e = some (a, c)) :
    a ≤ c ∧ c < len := by
  have := lrangeSel_eq_some_iff.mp h
  omega

/-- A stop that lies before the first element selects nothing (the clamp the pinned code got wrong). -/
theorem lrange_stop_before_start_empty (len : Nat) (s e : Int) (hs : 0 ≤ s) (he : e < 0) (h : (len : Int) + e < s) :
    lrangeSel len s e = none := by
  cases hsel : lrangeSel len s e with
  | none => rfl
  | some p =>
    have := lrangeSel_eq_some_iff.mp hsel
    omega

/-- LRANGE 0 -1 is the whole list. -/
theorem lrange_full (xs : List Bytes) : slice xs (lrangeSel xs.length 0 (-1)) = xs :=
  slice_eq_self fun h => lrangeSel_eq_some_iff.mpr (by have := List.length_pos_iff.mpr h; omega)

/-- RPUSH appends in argument order, LPUSH prepends in reverse argument order; the reply is the new length. -/
theorem push_order (db : Db) (k v : Bytes) (vs xs : List Bytes) (d : Option Nat)
    (h : lookup db k = some ⟨.list xs, d⟩) :
    cmdPush db false (k :: v :: vs) = (insert db k ⟨.list (xs ++ v :: vs), d⟩, nat (xs ++ v :: vs).length) ∧
    cmdPush db true (k :: v :: vs) = (insert db k ⟨.list ((v :: vs).reverse ++ xs), d⟩, nat ((v :: vs).reverse ++ xs).length) := by
  simp [cmdPush, h]

/-- LPOP returns the head and leaves the tail; popping the last element deletes the key. -/
theorem lpop_head (db : Db) (k x : Bytes) (t : List Bytes) (d : Option Nat) (h : lookup db k = some ⟨.list (x :: t), d⟩) :
    cmdPop db true [k] = (if t = [] then erase db k else insert db k ⟨.list t, d⟩, bulk x) := by
  simp only [cmdPop, h, putColl]
  cases t <;> simp

/-- LLEN is the length of the stored list. -/
theorem llen_eq_length (db : Db) (k : Bytes) (xs : List Bytes) (d : Option Nat) (h : lookup db k = some ⟨.list xs, d⟩) :
    (cmdLlen db [k]).2 = nat xs.length := by
  simp [cmdLlen, h]

/-- LINDEX answers with an element exactly for indices in `[-len, len)`. -/
theorem lindex_in_range_iff (len : Nat) (i : Int) :
    (normIndex len i).isSome = true ↔ (-(len : Int) ≤ i ∧ i < len) := by
  unfold normIndex
  simp only []
  repeat' split
  all_goals (simp; omega)

/-- LTRIM keeps exactly the LRANGE window, and deletes the key when that window is empty. -/
theorem ltrim_keeps_window (db : Db) (k s e : Bytes) (si ei : Int) (xs : List Bytes) (d : Option Nat)
    (h : lookup db k = some ⟨.list xs, d⟩) (hs : parseInt s = some si) (he : parseInt e = some ei) :
    cmdLtrim db [k, s, e] =
      (if slice xs (lrangeSel xs.length si ei) = [] then erase db k
       else insert db k ⟨.list (slice xs (lrangeSel xs.length si ei)), d⟩, ok) := by
  simp only [cmdLtrim, hs, he, h, putColl]
  cases slice xs (lrangeSel xs.length si ei) <;> simp

/-- LREM never removes more than asked and only elements equal to the value: survivors plus removed = original length. -/
theorem removeFirst_length (v : Bytes) (n : Option Nat) (l : List Bytes) :
    (removeFirst v n l).1.length + (removeFirst v n l).2 = l.length ∧
    (∀ m, n = some m → (removeFirst v n l).2 ≤ m) := by
  fun_induction removeFirst v n l <;> simp_all <;> omega

/-- SADD of members that are all present adds nothing and returns 0 (idempotence). -/
theorem sadd_idempotent (s ms : List Bytes) (h : ∀ m ∈ ms, m ∈ s) : addAll s ms = (s, 0) := by
  induction ms with
  | nil => rfl
  | cons m r ih =>
    unfold addAll
    have hm : s.contains m = true := by simpa using h m (List.mem_cons_self ..)
    simp only [hm, if_true]
    exact ih (fun x hx => h x (List.mem_cons_of_mem _ hx))

/-- membership after SADD: old members and the new ones -/
theorem mem_addAll (ms s : List Bytes) (x : Bytes) : x ∈ (addAll s ms).1 ↔ x ∈ s ∨ x ∈ ms := by
  induction ms generalizing s with
  | nil => simp [addAll]
  | cons m r ih =>
    unfold addAll
    split
    · have hm : m ∈ s := by simp_all
      rw [ih, List.mem_cons]
      exact ⟨Or.imp_right .inr, fun h => h.elim .inl fun h => h.elim (fun h => .inl (h ▸ hm)) .inr⟩
    · simp [ih, or_assoc]

theorem mem_dedup (l : List Bytes) (x : Bytes) : x ∈ dedup l ↔ x ∈ l := by
  induction l with
  | nil => simp [dedup]
  | cons a t ih =>
    unfold dedup
    split
    · have ha : a ∈ t := by simp_all
      rw [ih, List.mem_cons]
      exact ⟨.inr, fun h => h.elim (· ▸ ha) id⟩
    · simp [ih]

/-- SUNION / SINTER / SDIFF are the set-theoretic operations (missing keys count as empty sets). -/
theorem mem_set_algebra (s : List Bytes) (rest : List (List Bytes)) (x : Bytes) :
    (x ∈ setAlgebra .union (s :: rest) ↔ x ∈ s ∨ ∃ t ∈ rest, x ∈ t) ∧
    (x ∈ setAlgebra .inter (s :: rest) ↔ x ∈ s ∧ ∀ t ∈ rest, x ∈ t) ∧
    (x ∈ setAlgebra .diff (s :: rest) ↔ x ∈ s ∧ ∀ t ∈ rest, x ∉ t) := by
  refine ⟨?_, ?_, ?_⟩
  · simp [setAlgebra, mem_dedup]
  · simp [setAlgebra, List.mem_filter]
  · simp [setAlgebra, List.mem_filter]

/-- SCARD / SISMEMBER read the stored set. -/
theorem scard_sismember (db : Db) (k m : Bytes) (xs : List Bytes) (d : Option Nat) (h : lookup db k = some ⟨.set xs, d⟩) :
    (cmdScard db [k]).2 = nat xs.length ∧ (cmdSismember db [k, m]).2 = int (if m ∈ xs then 1 else 0) := by
  simp [cmdScard, cmdSismember, h]

/-- SPOP (as a checked relation): an accepted outcome is a current member and is removed. -/
theorem spop_member_removed (db : Db) (k m : Bytes) (xs : List Bytes) (d : Option Nat) (obs : Option (List Bytes))
    (h : lookup db k = some ⟨.set xs, d⟩) (hr : (cmdSpop db [k] obs).2 = bulk m) :
    m ∈ xs ∧ (cmdSpop db [k] obs).1 = putColl db k ⟨.set xs, d⟩ (.set (xs.filter (· ≠ m))) := by
  simp only [cmdSpop, h] at hr ⊢
  split at hr
  · rename_i heq
    split at hr
    · cases hr; simp_all
    · cases hr
  · cases hr

/-- HSET upserts: the field reads back the new value, other fields are untouched. -/
theorem hset_upserts (fs : List (Bytes × Bytes)) (f v g : Bytes) :
    hget (hput fs f v) f = some v ∧ (g ≠ f → hget (hput fs f v) g = hget fs g) := by
  fun_induction hput fs f v with
  | case1 => exact ⟨by simp [hget], fun h => by simp [hget, h.symm]⟩
  | case2 => exact ⟨by simp [hget], fun h => by simp [hget, h.symm]⟩
  | case3 f' v' t hk ih => exact ⟨by simp [hget, hk, ih.1], fun h => by simp only [hget, ih.2 h]⟩

/-- HSET's reply counts new fields only, a field named twice counts once. -/
theorem hset_counts_new_fields (f v w : Bytes) : (hsetPairs [] [f, v, f, w] 0) = ([(f, w)], 1) := by
  simp [hsetPairs, hget, hput]

/-- HLEN, HEXISTS and HGET read the stored hash. -/
theorem hash_reads (db : Db) (k f : Bytes) (fs : List (Bytes × Bytes)) (d : Option Nat) (h : lookup db k = some ⟨.hash fs, d⟩) :
    (cmdHlen db [k]).2 = nat fs.length ∧
    (cmdHexists db [k, f]).2 = int (if (hget fs f).isSome then 1 else 0) ∧
    (∀ v, hget fs f = some v → (cmdHget db [k, f]).2 = bulk v) ∧
    (hget fs f = none → (cmdHget db [k, f]).2 = nil) := by
  refine ⟨by simp [cmdHlen, h], by simp [cmdHexists, h], ?_, ?_⟩
  · intro v hv; simp [cmdHget, h, hv]
  · intro hv; simp [cmdHget, h, hv]

/-- HINCRBY adds to an integer field; a result outside i64 or a non-integer field is refused without effect. -/
theorem hincrby_add (db : Db) (k f n cur : Bytes) (fs : List (Bytes × Bytes)) (d : Option Nat) (c delta : Int)
    (h : lookup db k = some ⟨.hash fs, d⟩) (hn : parseInt n = some delta) (hf : hget fs f = some cur)
    (hc : parseInt cur = some c) :
    cmdHincrby db [k, f, n] =
      if c + delta < i64Min ∨ c + delta > i64Max then (db, err)
      else (insert db k ⟨.hash (hput fs f (intDigits (c + delta))), d⟩, int (c + delta)) := by
  simp [cmdHincrby, h, hn, hf, hc]

/-! ### Non-vacuity -/
example : lrangeSel 3 0 (-100) = none ∧ lrangeSel 3 (-100) 100 = some (0, 2) ∧ lrangeSel 3 1 1 = some (1, 1) := by decide
example : (cmdLtrim [([108], ⟨.list [[97], [98]], none⟩)] [[108], [48], [45, 57]]).1 = [] := by rfl

end Ferrous.C03
