/-
  Pub/sub (`src/pubsub.rs`, the SUBSCRIBE-family handlers and `handle_publish` of
  `src/network/server.rs`) — import-free.

  `Code` side: the three hash maps of `PubSubManager` as association lists, the four
  subscription calls, `unsubscribe_all`, `publish` with its `seen_connections`
  de-duplication (switch `dedup`; `true` = the tree as pinned) and the glob matcher
  `pattern_matches` as a fuelled loop over suffixes.
  `Spec` side: the flat set of subscriptions currently held, one delivery per matching
  subscription, and the declarative meaning of `* ? \x`.

  Representation choices (validated by the correspondence run, see lib/c14.py):
  * `HashMap`/`HashSet` become lists in insertion order; iteration order of the real
    tables is arbitrary, so everything compared with the implementation is compared up to order.
  * SUBSCRIBE and PSUBSCRIBE (resp. UNSUBSCRIBE / PUNSUBSCRIBE) are textual twins in
    pubsub.rs that differ only in which map and which half of `SubscriberInfo` they touch;
    they are one function here, parameterised by `Kind`.
  * the matcher's indices `p_idx`, `c_idx`, `star_idx`, `star_match_idx` become the
    suffixes `pattern[p_idx..]`, `channel[c_idx..]`, `(pattern[star_idx+1..], channel[star_match_idx..])`.
-/
import FerrousSpec.Model.Bytes
namespace Ferrous.PubSub

abbrev ConnId := Nat

/-! ## Glob matcher

`pubsub::pattern_matches` is one call of the server's glob matcher
`storage::engine::pattern_matches` (KEYS, SCAN MATCH, PSUBSCRIBE all use it): a star-backtracking
loop with the arms `?`, `*`, `[`…`]`, `\x`, anything else.  `?` = 63, `*` = 42, `[` = 91,
`\` = 92, `]` = 93, `^` = 94, `-` = 45. -/

/-- What `match pattern_chars[p_idx] { … }` does with the text byte `c` (engine.rs `pattern_matches`). -/
inductive GStep where
  /-- `?`, a class, an escaped byte or a literal byte matched `c`: continue with the rest of the pattern. -/
  | advance (p' : Bytes)
  /-- `*`: remember the position, continue with the rest of the pattern on the same byte. -/
  | star (p' : Bytes)
  /-- fall through to the back-tracking code. -/
  | mismatch

/-- The `while i < pattern_chars.len()` walk over the members of a class, `q` = `pattern[i..]`,
    `m` = `matched` so far; returns `matched` and `pattern[i..]` after the class.
    Member by member, as Redis's `stringmatchlen`: `\x` is the member `x`; `]` ends the class;
    `a-b` (three bytes, whatever `b` is, also `]`) is the range between the two in either order;
    a class without `]` runs to the end of the pattern. -/
def isRange : Bytes → Bool
  | d :: _ :: _ => d == 45
  | _ => false

def classGo (c : Nat) : Bytes → Bool → Bool × Bytes
  | [], m => (m, [])
  | a :: q, m =>
    if a = 92 then
      match q with
      | x :: q' => classGo c q' (m || x == c)
      | [] => (m || 92 == c, [])
    else if a = 93 then (m, q)
    else if isRange q then          -- `i + 2 < len && pattern[i + 1] == b'-'`
      match q with
      | _ :: b :: q' => classGo c q' (m || (decide (min a b ≤ c) && decide (c ≤ max a b)))
      | _ => (m, [])                -- not reached
    else classGo c q (m || a == c)

/-- A trailing `\` is an ordinary byte (guard `p_idx + 1 < len`). -/
def gstep (p : Bytes) (c : Nat) : GStep :=
  match p with
  | [] => .mismatch
  | a :: p' =>
    if a = 63 then .advance p'
    else if a = 42 then .star p'
    else if a = 91 then
      let negate := p'.head? == some 94
      let r := classGo c (if negate then p'.tail else p') false
      if r.1 != negate then .advance r.2 else .mismatch
    else if a = 92 then
      match p' with
      | x :: p'' => if x = c then .advance p'' else .mismatch
      | [] => if a = c then .advance p' else .mismatch
    else if a = c then .advance p' else .mismatch

/-- The `while t_idx < text.len()` loop followed by the trailing-`*` loop.
    `star = some (ps, ss)`: `ps` is the pattern after the last `*` seen, `ss` the text suffix
    at `star_match_idx`.  The first argument is fuel (see `globFuel`; never exhausted:
    `Ferrous.PubSub.globLoop_eq_glob`). -/
def globLoop : Nat → Bytes → Bytes → Option (Bytes × Bytes) → Bool
  | 0, _, _, _ => false
  | _+1, p, [], _ => (p.dropWhile (· == 42)).isEmpty
  | fuel+1, p, c :: s, star =>
    match gstep p c with
    | .advance p' => globLoop fuel p' s star
    | .star p' => globLoop fuel p' (c :: s) (some (p', c :: s))
    | .mismatch =>
      match star with
      | some (ps, _ :: ss') => globLoop fuel ps ss' (some (ps, ss'))
      | _ => false

def globFuel (p s : Bytes) : Nat := (s.length + 2) * (p.length + s.length + 2)

/-- `pattern_matches(pattern, channel)`. -/
def globBytes (p s : Bytes) : Bool := globLoop (globFuel p s) p s none

namespace Spec

/-- `g` holds of some suffix of the argument (what `*` followed by `g` means). -/
def someSuffix (g : Bytes → Bool) : Bytes → Bool
  | [] => g []
  | c :: s => g (c :: s) || someSuffix g s

/-- A member of a character class. -/
inductive Item where
  | one (x : Nat)
  /-- `a-b`: the bounds in either order -/
  | range (a b : Nat)
  deriving DecidableEq, Repr

def Item.has (c : Nat) : Item → Bool
  | .one x => x == c
  | .range a b => decide (min a b ≤ c) && decide (c ≤ max a b)

/-- Reading a class body (what follows `[` or `[^`): its members and the pattern after it.
    Redis's rules: `\x` is the member `x` (also `\]`, `\-`); a final `\` is itself; `]` closes
    the class (also as its first byte: `[]` is empty); `a-b` is a range whatever `b` is (`a-]`
    is a range, the class goes on behind it); without `]` the class runs to the end of the pattern. -/
def classParse : Bytes → List Item × Bytes
  | [] => ([], [])
  | a :: q =>
    if a = 92 then
      match q with
      | x :: q' => (.one x :: (classParse q').1, (classParse q').2)
      | [] => ([.one 92], [])
    else if a = 93 then ([], q)
    else if isRange q then
      match q with
      | _ :: b :: q' => (.range a b :: (classParse q').1, (classParse q').2)
      | _ => ([], [])               -- not reached
    else (.one a :: (classParse q).1, (classParse q).2)

/-- A pattern element that stands for exactly one byte of the text. -/
inductive Tok where
  /-- `?` -/
  | any
  /-- a byte standing for itself, `\x`, a final `\` -/
  | lit (x : Nat)
  /-- `[…]` / `[^…]` -/
  | cls (neg : Bool) (items : List Item)
  deriving DecidableEq, Repr

/-- Does the element accept the byte `c`?  A class accepts `c` iff membership differs from
    negation: `[^` alone accepts every byte, `[` and `[]` none. -/
def Tok.takes (c : Nat) : Tok → Bool
  | .any => true
  | .lit x => x == c
  | .cls neg items => items.any (·.has c) != neg

/-- First element of a pattern and the rest. -/
inductive Head where
  | done
  | star (p' : Bytes)
  | tok (t : Tok) (p' : Bytes)

def head : Bytes → Head
  | [] => .done
  | a :: p =>
    if a = 42 then .star p
    else if a = 63 then .tok .any p
    else if a = 91 then
      let neg := p.head? == some 94
      let r := classParse (if neg then p.tail else p)
      .tok (.cls neg r.1) r.2
    else if a = 92 then
      match p with
      | x :: p' => .tok (.lit x) p'
      | [] => .tok (.lit 92) []
    else .tok (.lit a) p

/-- Declarative meaning of a glob pattern, element by element (the first argument bounds the
    number of elements; `glob` supplies enough): `*` any (possibly empty) run of bytes, every
    other element exactly one byte it accepts. -/
def globF : Nat → Bytes → Bytes → Bool
  | 0, _, _ => false
  | n+1, p, s =>
    match head p with
    | .done => s.isEmpty
    | .star p' => someSuffix (globF n p') s
    | .tok t p' =>
      match s with
      | [] => false
      | c :: s' => t.takes c && globF n p' s'

def glob (p s : Bytes) : Bool := globF (p.length + 1) p s

/-- The same meaning as a relation (no computation): the least relation closed under these rules. -/
inductive Glob : Bytes → Bytes → Prop
  | done {p} : head p = .done → Glob p []
  | starSkip {p p' s} : head p = .star p' → Glob p' s → Glob p s
  | starEat {p p' s} (c) : head p = .star p' → Glob p s → Glob p (c :: s)
  | tok {p p' s t} (c) : head p = .tok t p' → t.takes c = true → Glob p' s → Glob p (c :: s)

end Spec

/-! ## Hash maps and hash sets as lists -/

section AList
variable {κ ν : Type} [DecidableEq κ]

/-- `HashMap::get` -/
def aget : List (κ × ν) → κ → Option ν
  | [], _ => none
  | (k', v) :: m, k => if k' = k then some v else aget m k

/-- `HashMap::insert` (replace or add) -/
def aset : List (κ × ν) → κ → ν → List (κ × ν)
  | [], k, v => [(k, v)]
  | (k', v') :: m, k, v => if k' = k then (k, v) :: m else (k', v') :: aset m k v

/-- `HashMap::remove` -/
def adel (m : List (κ × ν)) (k : κ) : List (κ × ν) := m.filter (fun e => decide (e.1 ≠ k))

/-- `HashSet::insert` -/
def sins (l : List κ) (x : κ) : List κ := if x ∈ l then l else l ++ [x]

/-- `HashSet::remove` -/
def srem (l : List κ) (x : κ) : List κ := l.filter (fun y => decide (y ≠ x))

end AList

/-! ## `PubSubManager` -/

inductive Kind where
  | chan
  | pat
  deriving DecidableEq, Repr

/-- `SubscriberInfo`: (channels, patterns) of one connection. -/
abbrev Held := List Bytes × List Bytes

def Held.sel (h : Held) : Kind → List Bytes
  | .chan => h.1
  | .pat => h.2

def Held.upd (h : Held) (k : Kind) (l : List Bytes) : Held :=
  match k with
  | .chan => (l, h.2)
  | .pat => (h.1, l)

/-- `conn_info.channels.len() + conn_info.patterns.len()` -/
def Held.total (h : Held) : Nat := h.1.length + h.2.length

structure State where
  /-- channel → connections -/
  channels : List (Bytes × List ConnId) := []
  /-- pattern → connections -/
  patterns : List (Bytes × List ConnId) := []
  /-- connection → (channels, patterns) -/
  subs : List (ConnId × Held) := []
  deriving Repr

def State.idx (st : State) : Kind → List (Bytes × List ConnId)
  | .chan => st.channels
  | .pat => st.patterns

def State.withIdx (st : State) (k : Kind) (m : List (Bytes × List ConnId)) : State :=
  match k with
  | .chan => { st with channels := m }
  | .pat => { st with patterns := m }

def State.withSubs (st : State) (m : List (ConnId × Held)) : State := { st with subs := m }

/-- `SubResult` (+ which call produced it). `un = false`: (P)SUBSCRIBE, `true`: (P)UNSUBSCRIBE. -/
structure Ack where
  kind : Kind
  un : Bool
  name : Bytes
  count : Nat
  isNew : Bool
  deriving DecidableEq, Repr

/-- `for x in xs { … results.push(…) }` -/
def loop {σ : Type} (f : σ → Bytes → σ × Ack) : σ → List Bytes → σ × List Ack
  | st, [] => (st, [])
  | st, x :: xs =>
    let r := f st x
    let r' := loop f r.1 xs
    (r'.1, r.2 :: r'.2)

/-- `conn_subs.entry(connection_id).or_insert_with(…)` -/
def ensure (st : State) (c : ConnId) : State :=
  match aget st.subs c with
  | some _ => st
  | none => st.withSubs (aset st.subs c ([], []))

/-- Body of the loop of `subscribe` (k = chan, pubsub.rs:92-125) / `psubscribe` (k = pat, :196-215). -/
def sub1 (k : Kind) (c : ConnId) (st : State) (x : Bytes) : State × Ack :=
  let info := (aget st.subs c).getD ([], [])
  if x ∈ info.sel k then
    (st, ⟨k, false, x, info.total, false⟩)
  else
    let info' := info.upd k (info.sel k ++ [x])
    let subscribers := (aget (st.idx k) x).getD []
    let st' := st.withIdx k (aset (st.idx k) x (sins subscribers c))
    (st'.withSubs (aset st.subs c info'), ⟨k, false, x, info'.total, true⟩)

def subscribe (k : Kind) (c : ConnId) (st : State) (xs : List Bytes) : State × List Ack :=
  loop (sub1 k c) (ensure st c) xs

/-- Body of the loop of `unsubscribe` (pubsub.rs:149-169) / `punsubscribe` (:239-259). -/
def unsub1 (k : Kind) (c : ConnId) (st : State) (x : Bytes) : State × Ack :=
  let info := (aget st.subs c).getD ([], [])
  let info' := info.upd k (srem (info.sel k) x)
  let idx' :=
    if x ∈ info.sel k then
      match aget (st.idx k) x with
      | some subscribers =>
        let s' := srem subscribers c
        if s'.isEmpty then adel (st.idx k) x else aset (st.idx k) x s'
      | none => st.idx k
    else st.idx k
  ((st.withIdx k idx').withSubs (aset st.subs c info'), ⟨k, true, x, info'.total, false⟩)

/-- "Clean up connection if no subscriptions remain" -/
def cleanup (st : State) (c : ConnId) : State :=
  match aget st.subs c with
  | some i => if i.1.isEmpty && i.2.isEmpty then st.withSubs (adel st.subs c) else st
  | none => st

/-- `unsubscribe` / `punsubscribe`; `xs = none` is the call without arguments (all of them).
    A connection without an entry gets NO acknowledgement (early return). -/
def unsubscribe (k : Kind) (c : ConnId) (st : State) (xs : Option (List Bytes)) : State × List Ack :=
  match aget st.subs c with
  | none => (st, [])
  | some info =>
    let r := loop (unsub1 k c) st (xs.getD (info.sel k))
    (cleanup r.1 c, r.2)

/-- The two sweeps of `unsubscribe_all` over channel and pattern maps. -/
def purge (m : List (Bytes × List ConnId)) (c : ConnId) : List (Bytes × List ConnId) :=
  m.filterMap fun e =>
    let s := srem e.2 c
    if s.isEmpty then none else some (e.1, s)

/-- `unsubscribe_all`: what the server calls when it drops a connection. -/
def unsubscribeAll (st : State) (c : ConnId) : State :=
  { channels := purge st.channels c, patterns := purge st.patterns c, subs := adel st.subs c }

/-- `(conn_id, matching_pattern)` -/
abbrev Delivery := ConnId × Option Bytes

/-- `if seen_connections.insert(conn_id) { receivers.push(…) }` over the candidates in order. -/
def dedupGo : List ConnId → List Delivery → List Delivery
  | _, [] => []
  | seen, d :: ds => if d.1 ∈ seen then dedupGo seen ds else d :: dedupGo (d.1 :: seen) ds

/-- Candidates in the order the code visits them: direct subscribers, then every matching
    pattern's subscribers. -/
def candidates (st : State) (ch : Bytes) : List Delivery :=
  ((aget st.channels ch).getD []).map (fun c => (c, none)) ++
  st.patterns.flatMap (fun e => if globBytes e.1 ch then e.2.map (fun c => (c, some e.1)) else [])

/-- `publish` (pubsub.rs:271-302).  `dedup = true` is the pinned code. -/
def publish (dedup : Bool) (st : State) (ch : Bytes) : List Delivery :=
  if dedup then dedupGo [] (candidates st ch) else candidates st ch

/-! ## Spec: the set of subscriptions held -/

namespace Spec

structure Sub where
  conn : ConnId
  kind : Kind
  name : Bytes
  deriving DecidableEq, Repr

/-- All subscriptions currently held, oldest first. -/
abbrev State := List Sub

/-- Number of subscriptions (channels + patterns) connection `c` holds. -/
def count (s : State) (c : ConnId) : Nat := (s.filter (fun e => decide (e.conn = c))).length

/-- Names of kind `k` held by `c`, oldest first. -/
def heldBy (s : State) (c : ConnId) (k : Kind) : List Bytes :=
  (s.filter (fun e => decide (e.conn = c ∧ e.kind = k))).map (·.name)

def sub1 (k : Kind) (c : ConnId) (s : State) (x : Bytes) : State × Ack :=
  let isNew := decide (Sub.mk c k x ∉ s)
  let s' := if isNew then s ++ [⟨c, k, x⟩] else s
  (s', ⟨k, false, x, count s' c, isNew⟩)

def unsub1 (k : Kind) (c : ConnId) (s : State) (x : Bytes) : State × Ack :=
  let s' := s.filter (fun e => decide (e ≠ ⟨c, k, x⟩))
  (s', ⟨k, true, x, count s' c, false⟩)

def subscribe (k : Kind) (c : ConnId) (s : State) (xs : List Bytes) : State × List Ack :=
  loop (sub1 k c) s xs

/-- One acknowledgement per name given, or per subscription held when none is given. -/
def unsubscribe (k : Kind) (c : ConnId) (s : State) (xs : Option (List Bytes)) : State × List Ack :=
  loop (unsub1 k c) s (xs.getD (heldBy s c k))

def disconnect (s : State) (c : ConnId) : State := s.filter (fun e => decide (e.conn ≠ c))

/-- Does subscription `e` match a message published on `ch`, and what is delivered. -/
def deliveryOf (ch : Bytes) (e : Sub) : Option Delivery :=
  match e.kind with
  | .chan => if e.name = ch then some (e.conn, none) else none
  | .pat => if glob e.name ch then some (e.conn, some e.name) else none

/-- One delivery per matching subscription. -/
def deliveries (s : State) (ch : Bytes) : List Delivery := s.filterMap (deliveryOf ch)

end Spec

/-! ## Histories: operations, events, per-connection streams -/

inductive Op where
  /-- SUBSCRIBE (k = chan) / PSUBSCRIBE (k = pat) by connection `c` -/
  | subscribe (c : ConnId) (k : Kind) (xs : List Bytes)
  /-- UNSUBSCRIBE / PUNSUBSCRIBE; `none` = without arguments -/
  | unsubscribe (c : ConnId) (k : Kind) (xs : Option (List Bytes))
  /-- the connection goes away: the server calls `unsubscribe_all` -/
  | disconnect (c : ConnId)
  /-- PUBLISH sent by connection `c` -/
  | publish (c : ConnId) (ch msg : Bytes)
  deriving Repr

/-- What is appended to a connection's output buffer. -/
inductive Event where
  | ack (a : Ack)
  /-- confirmation with a nil name: argument-less (P)UNSUBSCRIBE by a client holding nothing of that kind -/
  | ackNil (k : Kind) (count : Nat)
  | message (ch msg : Bytes)
  | pmessage (pat ch msg : Bytes)
  /-- integer reply to PUBLISH -/
  | published (n : Nat)
  deriving DecidableEq, Repr

/-- `format_message` / `format_pmessage` appended to the receiver's buffer (server.rs:1611-1622). -/
def toEvent (ch msg : Bytes) (d : Delivery) : ConnId × Event :=
  match d.2 with
  | none => (d.1, .message ch msg)
  | some p => (d.1, .pmessage p ch msg)

/-- Events of a PUBLISH: one frame per receiver, then the integer reply to the publisher. -/
def pubEvents (c : ConnId) (ch msg : Bytes) (ds : List Delivery) : List (ConnId × Event) :=
  ds.map (toEvent ch msg) ++ [(c, .published ds.length)]

namespace Code

/-- State change and acknowledgements of one operation. -/
def apply (st : State) : Op → State × List Ack
  | .subscribe c k xs => PubSub.subscribe k c st xs
  | .unsubscribe c k xs => PubSub.unsubscribe k c st xs
  | .disconnect c => (unsubscribeAll st c, [])
  | .publish _ _ _ => (st, [])

def next (st : State) (op : Op) : State := (apply st op).1

/-- (P)UNSUBSCRIBE by a connection without an entry: `PubSubManager` returns early with no
    `SubResult` at all (the server handler then writes the confirmations itself: `unsubEvents`). -/
def silent (st : State) : Op → Bool
  | .unsubscribe c _ _ => (aget st.subs c).isNone
  | _ => false

/-- What a client can make the server do: SUBSCRIBE / PSUBSCRIBE carry at least one name
    (arity check of the handlers, server.rs `handle_subscribe` / `handle_psubscribe`). -/
def clientOp : Op → Bool
  | .subscribe _ _ xs => !xs.isEmpty
  | _ => true

/-- What `handle_unsubscribe` / `handle_punsubscribe` (server.rs) write for the manager's `results`.
    `idle = true` (the tree now): when the manager returned nothing — the client holds nothing to
    unsubscribe from — one confirmation per name given, or a single one with a nil name, each with
    `remaining` = `get_subscription_info(conn).map(channels + patterns).unwrap_or(0)`.
    `idle = false` (the tree as pinned): nothing at all in that case. -/
def unsubEvents (idle : Bool) (k : Kind) (xs : Option (List Bytes)) (results : List Ack) (remaining : Nat) : List Event :=
  if results.isEmpty && idle then
    match xs with
    | some l => l.map fun n => .ack ⟨k, true, n, remaining, false⟩
    | none => [.ackNil k remaining]
  else results.map .ack

/-- Everything the operation appends to output buffers, in order. -/
def emit (dedup idle : Bool) (st : State) (op : Op) : List (ConnId × Event) :=
  match op with
  | .subscribe c _ _ => (apply st op).2.map (fun a => (c, .ack a))
  | .unsubscribe c k xs =>
    let r := apply st op
    (unsubEvents idle k xs r.2 ((aget r.1.subs c).getD ([], [])).total).map (fun e => (c, e))
  | .disconnect _ => []
  | .publish c ch msg => pubEvents c ch msg (publish dedup st ch)

def after (st : State) (ops : List Op) : State := ops.foldl next st

def log (dedup idle : Bool) : State → List Op → List (ConnId × Event)
  | _, [] => []
  | st, op :: ops => emit dedup idle st op ++ log dedup idle (next st op) ops

end Code

namespace Spec

def apply (s : State) : Op → State × List Ack
  | .subscribe c k xs => subscribe k c s xs
  | .unsubscribe c k xs => unsubscribe k c s xs
  | .disconnect c => (disconnect s c, [])
  | .publish _ _ _ => (s, [])

def next (s : State) (op : Op) : State := (apply s op).1

/-- The confirmations (P)UNSUBSCRIBE is due: one per name given, each with the number of
    subscriptions the client holds after that name; without names one per subscription of that
    kind held — or, when none is held, a single confirmation with a nil name and the count. -/
def unsubEvents (k : Kind) (c : ConnId) (s : State) (xs : Option (List Bytes)) : List Event :=
  match xs with
  | some _ => (unsubscribe k c s xs).2.map .ack
  | none => if heldBy s c k = [] then [.ackNil k (count s c)] else (unsubscribe k c s xs).2.map .ack

def emit (s : State) (op : Op) : List (ConnId × Event) :=
  match op with
  | .subscribe c _ _ => (apply s op).2.map (fun a => (c, .ack a))
  | .unsubscribe c k xs => (unsubEvents k c s xs).map (fun e => (c, e))
  | .disconnect _ => []
  | .publish c ch msg => pubEvents c ch msg (deliveries s ch)

def after (s : State) (ops : List Op) : State := ops.foldl next s

def log : State → List Op → List (ConnId × Event)
  | _, [] => []
  | s, op :: ops => emit s op ++ log (next s op) ops

end Spec

/-- The stream connection `c` reads. -/
def received (l : List (ConnId × Event)) (c : ConnId) : List Event :=
  (l.filter (fun e => decide (e.1 = c))).map (·.2)

/-- `message` / `pmessage` frames only. -/
def Event.isMsg : Event → Bool
  | .message _ _ => true
  | .pmessage _ _ _ => true
  | _ => false

/-- The channel a `message` / `pmessage` frame was published on. -/
def Event.chan? : Event → Option Bytes
  | .message ch _ => some ch
  | .pmessage _ ch _ => some ch
  | _ => none

def msgsOf (es : List Event) : List Event := es.filter Event.isMsg

/-- Is `op` a SUBSCRIBE or PSUBSCRIBE issued by connection `c`? -/
def Op.subscribesAs : Op → ConnId → Bool
  | .subscribe c' _ _, c => decide (c' = c)
  | _, _ => false

/-- The frames one PUBLISH puts into the buffer of connection `c`: channel, pattern and payload
    exactly as published. -/
def msgBlock (c : ConnId) (ch msg : Bytes) (ds : List Delivery) : List Event :=
  (ds.filter (fun d => decide (d.1 = c))).map (fun d => (toEvent ch msg d).2)

/-- One block of frames for connection `c` per PUBLISH of the history, in publish order. -/
def Code.blocks (dedup : Bool) : State → List Op → ConnId → List (List Event)
  | _, [], _ => []
  | st, .publish p ch msg :: ops, c =>
    msgBlock c ch msg (publish dedup st ch) :: Code.blocks dedup (Code.next st (.publish p ch msg)) ops c
  | st, op :: ops, c => Code.blocks dedup (Code.next st op) ops c

/-- What the property prescribes for connection `c`, PUBLISH by PUBLISH: one frame per
    subscription of `c` matching the channel at that moment. -/
def Spec.blocks : Spec.State → List Op → ConnId → List (List Event)
  | _, [], _ => []
  | s, .publish p ch msg :: ops, c =>
    msgBlock c ch msg (Spec.deliveries s ch) :: Spec.blocks (Spec.next s (.publish p ch msg)) ops c
  | s, op :: ops, c => Spec.blocks (Spec.next s op) ops c

/-- Block-wise equality up to the order of the frames inside one block. -/
def BlocksPerm : List (List Event) → List (List Event) → Prop
  | [], [] => True
  | a :: as, b :: bs => a.Perm b ∧ BlocksPerm as bs
  | _, _ => False

/-- At no PUBLISH of the history does a connection hold two subscriptions matching the channel. -/
def Spec.neverOverlap : Spec.State → List Op → Prop
  | _, [] => True
  | s, .publish p ch msg :: ops =>
    ((Spec.deliveries s ch).map (·.1)).Nodup ∧ Spec.neverOverlap (Spec.next s (.publish p ch msg)) ops
  | s, op :: ops => Spec.neverOverlap (Spec.next s op) ops

/-! ## Connections: closing, subscriber context, blocking

One level above the pub/sub calls (`src/network/server.rs`): when the server decides to close a
connection, which commands a connection may send, and which connections the event loop serves.
Two switches, read off the source by the translator:
* `releaseAtClose` — `true`: `unsubscribe_all(id)` at the moment a connection is marked as closing
  (CLIENT KILL by another client, its own QUIT, a protocol error); `false` (the tree before the
  repair): only when it is physically removed, at the end of a later loop iteration.
* `gate` — `true`: subscriber context, a connection that holds subscriptions may only send
  (P)SUBSCRIBE, (P)UNSUBSCRIBE, PING, QUIT; `false`: any command, also one that blocks. -/

structure Quirks where
  releaseAtClose : Bool
  gate : Bool

inductive LOp where
  /-- a pub/sub command of a client, or the physical removal of a connection (`.disconnect c`) -/
  | op (o : Op)
  /-- the server marks connection `c` as closing -/
  | close (c : ConnId)
  /-- any other command sent by `c` (PING and QUIT aside); `blocks`: one that blocks when it is
      executed (BLPOP on an empty list, time-out 0) -/
  | cmd (c : ConnId) (blocks : Bool)
  /-- a blocked connection is served again -/
  | unblock (c : ConnId)
  deriving Repr

/-- The connection a command comes from (`none`: the removal is the server's own act). -/
def Op.sender : Op → Option ConnId
  | .subscribe c _ _ => some c
  | .unsubscribe c _ _ => some c
  | .publish c _ _ => some c
  | .disconnect _ => none

def Op.isPublish : Op → Bool
  | .publish _ _ _ => true
  | _ => false

/-- `PubSubManager::is_subscribed` -/
def subscribed (st : State) (c : ConnId) : Bool := (aget st.subs c).isSome

structure Sess where
  st : State := {}
  /-- marked as closing, not yet removed: executes nothing more -/
  closed : List ConnId := []
  /-- blocked: left out of the event loop's pass, executes nothing, its output is not flushed -/
  blocked : List ConnId := []

/-- One step: the new session and the pub/sub operations that were really executed. -/
def Sess.step (q : Quirks) (s : Sess) : LOp → Sess × List Op
  | .op (.disconnect c) =>
    ({ st := unsubscribeAll s.st c, closed := srem s.closed c, blocked := srem s.blocked c }, [.disconnect c])
  | .op o =>
    match o.sender with
    | some c =>
      if c ∈ s.closed ∨ c ∈ s.blocked then (s, [])
      else if q.gate && subscribed s.st c && o.isPublish then (s, [])      -- refused with an error
      else ({ s with st := Code.next s.st o }, [o])
    | none => (s, [])
  | .close c =>
    if q.releaseAtClose then ({ s with st := unsubscribeAll s.st c, closed := sins s.closed c }, [.disconnect c])
    else ({ s with closed := sins s.closed c }, [])
  | .cmd c blocks =>
    if c ∈ s.closed ∨ c ∈ s.blocked then (s, [])
    else if q.gate && subscribed s.st c then (s, [])                        -- refused with an error
    else if blocks then ({ s with blocked := sins s.blocked c }, [])
    else (s, [])
  | .unblock c => ({ s with blocked := srem s.blocked c }, [])

def Sess.run (q : Quirks) : Sess → List LOp → Sess × List Op
  | s, [] => (s, [])
  | s, lo :: l =>
    let r := Sess.step q s lo
    let r' := Sess.run q r.1 l
    (r'.1, r.2 ++ r'.2)

end Ferrous.PubSub
