/-
  C11 — the append-only file as a redo log, on top of the key-space machine `KS`.

  What the code does (src/network/server.rs, src/storage/aof.rs):

  * `process_normal_command` — the route of every command sent directly and of every command executed by
    EXEC (`process_command_parts`) — appends `serialize(Array(parts))` to the file iff
    `is_write_command(name)`, BEFORE dispatching and without looking at the outcome; since
    `fix: the AOF carried no database …` through `append_command_in_db(db, parts)`, which writes a `SELECT db` entry
    first whenever the previous entry ran in another database (`Code.appendInDb`, `Code.fileStep`);
  * the pop made for a BLPOP/BRPOP client (at once, or by `wake_client` when it is served) is appended by
    `log_blocking_pop` as `LPOP key` / `RPOP key`; SELECT itself is not in the table; a script is logged as its
    whole `EVAL …` command (EVAL is in the table), the `redis.call`s inside it are not logged separately;
  * start-up replay (`AofEngine::load`/`replay_command`) executes nothing, so "replay" is: read the file with an
    independent reader and send its commands, in file order, to an empty server on a fresh connection (db 0).

  `log cfg h` is ONE function parameterised by `Cfg`: `Cfg.tree w sel wake` follows the switches the translator
  regenerates from the source (`Cfg.code w` = no SELECT tracking, pops not logged: the tree as it was pinned);
  `Cfg.fixed w` is what the property prescribes.

  Scope of the model: the 65 commands of `KS.stepDb`, SELECT, and the script path through the one wrapper script
  `return redis.call(unpack(ARGV))` (whose effect is the inner command on the selected database).
  Import-free apart from Model/Keyspace (and through it Model/Resp, Model/Bytes).
-/
import FerrousSpec.Model.Keyspace
namespace Ferrous.Aof
open Ferrous Ferrous.KS

/-! ### The file: a concatenation of RESP arrays of bulk strings -/

/-- `RespFrame::Array(Some(parts))` for a command whose parts are all bulk strings -/
def cmdFrame (c : List Bytes) : Frame := .array (c.map .bulk)

/-- `serialize_resp_frame(&Array(parts), writer)` -/
def serCmd (c : List Bytes) : Bytes := ser (cmdFrame c)

/-- the bytes of a file to which exactly the commands `cs` were appended, in order -/
def fileOf : List (List Bytes) → Bytes
  | [] => []
  | c :: cs => serCmd c ++ fileOf cs

def bulksOf : List Frame → Option (List Bytes)
  | [] => some []
  | f :: r => match f, bulksOf r with
    | .bulk b, some t => some (b :: t)
    | _, _ => none

/-- a frame that is a command: an array of bulk strings -/
def cmdOfFrame : Frame → Option (List Bytes)
  | .array xs => bulksOf xs
  | _ => none

/-- how a reading of the file ends -/
inductive Tail where
  /-- the file ends at a frame end -/
  | clean
  /-- the remaining bytes are the beginning of a frame that was not written completely ("need more data") -/
  | torn (rest : Bytes)
  /-- the remaining bytes are not RESP, or not an array of bulk strings -/
  | corrupt (rest : Bytes)
  deriving Repr, DecidableEq

/-- The harness's reader (strict: no white-space skipping, no inline commands): complete command frames from the
    start of the file, and how the reading ended.  Fuel: one per frame. -/
def readLogF : Nat → Bytes → List (List Bytes) × Tail
  | 0, d => ([], .corrupt d)
  | n+1, d =>
    if d.isEmpty then ([], .clean) else
    match parseBytes d with
    | .need => ([], .torn d)
    | .err => ([], .corrupt d)
    | .ok f r => match cmdOfFrame f with
      | none => ([], .corrupt d)
      | some c => ((c :: (readLogF n r).1), (readLogF n r).2)

def readLog (d : Bytes) : List (List Bytes) × Tail := readLogF (d.length + 1) d

/-! ### Commands, names, the script wrapper -/

/-- the command name as `process_normal_command` computes it (`to_uppercase`, ASCII part) — the same expression
    `KS.step` dispatches on -/
def nameOf : List Bytes → String
  | [] => ""
  | n :: _ => String.ofList ((upperBytes n).map fun b => Char.ofNat b)

/-- `return redis.call(unpack(ARGV))` -/
def wrapperScript : Bytes :=
  [114, 101, 116, 117, 114, 110, 32, 114, 101, 100, 105, 115, 46, 99, 97, 108, 108, 40, 117, 110, 112, 97, 99, 107, 40, 65, 82, 71, 86, 41, 41]

/-- `EVAL <wrapper> 0 inner…` ↦ `inner`: the script path as the correspondence run drives it -/
def unwrap (raw : List Bytes) : Option (List Bytes) :=
  if nameOf raw = "EVAL" then
    match raw with
    | _ :: s :: z :: inner => if s = wrapperScript ∧ z = [48] then some inner else none
    | _ => none
  else none

/-- `EVAL <wrapper> 0 inner…` -/
def wrap (inner : List Bytes) : List Bytes := [69, 86, 65, 76] :: wrapperScript :: [48] :: inner

/-- the name of the command that touches the dataset: the inner command of a wrapper script, else the command itself -/
def effName (raw : List Bytes) : String :=
  match unwrap raw with
  | some inner => nameOf inner
  | none => nameOf raw

/-- the command that touches the dataset -/
def effCmd (raw : List Bytes) : List Bytes := (unwrap raw).getD raw

def delCmd (key : Bytes) : List Bytes := [[68, 69, 76], key]
def selectCmd (db : Nat) : List Bytes := [[83, 69, 76, 69, 67, 84], natDigits db]
def popCmd (left : Bool) (key : Bytes) : List Bytes := [if left then [76, 80, 79, 80] else [82, 80, 79, 80], key]

/-! ### One connection of the server -/

structure Conn where
  store : Store := emptyStore
  /-- `conn.db_index` -/
  cur : Nat := 0
  deriving Repr, DecidableEq

/-- `handle_select`: exactly one argument, `parse::<usize>()`, `< 16` — otherwise the selection stays -/
def selTarget (cur : Nat) (raw : List Bytes) : Nat :=
  match raw with
  | [_, d] => match parseU64 d with
    | some n => if n < 16 then n else cur
    | none => cur
  | _ => cur

/-- one command arriving at `process_normal_command` from a client connection -/
def execRaw (q : Quirks) (c : Conn) (now : Nat) (obs : Option (List Bytes)) (raw : List Bytes) : Conn :=
  if nameOf raw = "SELECT" then { c with cur := selTarget c.cur raw }
  else match unwrap raw with
    | some inner => { c with store := (KS.step q c.store c.cur now inner obs).1 }
    | none => { c with store := (KS.step q c.store c.cur now raw obs).1 }

/-- a restart that brings the dataset back (e.g. from a snapshot taken right before): the connection is a new one -/
def Conn.restarted (c : Conn) : Conn := { c with cur := 0 }

/-- One thing that happened on the server, in execution order. -/
inductive Ev where
  /-- a command of the observed connection that is executed: sent directly (`viaExec = false`) or executed by EXEC
      (`viaExec = true`).  Both reach `process_normal_command` (EXEC through `process_command_parts`), with one exception:
      EXEC runs a queued SELECT through `handle_select` directly, so it changes the connection's database like a
      direct SELECT but can never be appended — which coincides with the table rule as long as SELECT is not in the
      table (`Cfg.wf`).  The flag is informational.  `EVAL <wrapper> 0 inner…` is the script path. -/
  | cmd (viaExec : Bool) (now : Nat) (obs : Option (List Bytes)) (raw : List Bytes)
  /-- the pop (`storage.lpop/rpop(db, key)`) performed on behalf of a BLPOP/BRPOP client: by `wake_client` when a blocked
      client is served, or at once by `handle_blpop`/`handle_brpop` on a non-empty list (the BLPOP command itself, which
      is not in the table, is a separate `cmd` event without effect) -/
  | wake (db : Nat) (now : Nat) (left : Bool) (key : Bytes)
  /-- TIME PASSES: the server removes `key` from database `db` because its time to live has elapsed — lazily, when a
      command is about to look at it (`StorageEngine::get_shard`), or by the sweeper thread.  No client sent anything;
      the dataset changes all the same. -/
  | expire (db : Nat) (now : Nat) (key : Bytes)
  deriving Repr, DecidableEq

def execEv (q : Quirks) (c : Conn) : Ev → Conn
  | .cmd _ now obs raw => execRaw q c now obs raw
  | .wake db now left key => { c with store := (KS.step q c.store db now (popCmd left key) none).1 }
  | .expire db _ key => { c with store := setDb c.store db (erase (getDb c.store db) key) }

/-- the live server after a history -/
def liveFrom (q : Quirks) (c : Conn) (h : List Ev) : Conn := h.foldl (execEv q) c
def live (q : Quirks) (h : List Ev) : Conn := liveFrom q {} h

/-! ### The log -/

structure Cfg where
  /-- the names whose commands are appended -/
  writes : List String
  /-- a `SELECT n` is emitted before an entry whenever the entry's database is not the one a reader of the log has
      selected at that point (what Redis does; the code never does) -/
  logSelect : Bool
  /-- the pop made for a BLPOP/BRPOP client is appended as `LPOP key` / `RPOP key` -/
  logWake : Bool
  /-- a write whose text does not replay to the same outcome is appended, once its outcome is known, by its effect:
      `SPOP key [count]` that took `m…` as `SREM key m…` (nothing if it took nothing), `XADD key * f v…` that was
      assigned `id` as `XADD key id f v…` (nothing if refused) — instead of verbatim before the dispatch -/
  byEffect : Bool := false
  /-- the removal of a key whose time to live elapsed is appended as `DEL key` (ahead of the entries of the command
      that was about to look at it) -/
  logExpiry : Bool := false
  deriving Repr, DecidableEq

/-- the code as it is, with write table `w` (= `Gen.writeCommands`) -/
def Cfg.code (w : List String) : Cfg := { writes := w, logSelect := false, logWake := false }
/-- the tree as the translator sees it: write table, "is a SELECT emitted on a database change?", "does the pop made
    for a blocking client get logged?" (`Cfg.tree w false false = Cfg.code w`) -/
def Cfg.tree (w : List String) (sel wake : Bool) : Cfg := { writes := w, logSelect := sel, logWake := wake }
/-- … plus "are random / clock outcomes logged by their effect?" -/
def Cfg.treeE (w : List String) (sel wake eff : Bool) : Cfg := { writes := w, logSelect := sel, logWake := wake, byEffect := eff }
/-- … plus "is the removal of an expired key logged as a DEL?" -/
def Cfg.treeX (w : List String) (sel wake eff exp : Bool) : Cfg :=
  { writes := w, logSelect := sel, logWake := wake, byEffect := eff, logExpiry := exp }
/-- what the property prescribes, with write table `w` -/
def Cfg.fixed (w : List String) : Cfg := { writes := w, logSelect := true, logWake := true, byEffect := true, logExpiry := true }

def isWrite (w : List String) (name : String) : Bool := w.contains name

structure LogSt where
  /-- database selected on the observed connection -/
  conn : Nat := 0
  /-- database a reader of the entries so far has selected -/
  file : Nat := 0
  deriving Repr, DecidableEq

/-- "no database": what the engine's `last_db` is (`None`) when it inherits a non-empty file from an earlier run — it does
    not know where a reader of that file stands, so the first entry of the new run is preceded by a `SELECT` whatever
    its database (every database is `< 16`, hence `≠ unknownDb`) -/
def unknownDb : Nat := 16

/-- after a restart in the same directory: every client connects anew (database 0), the engine knows nothing of the file -/
def LogSt.restarted : LogSt := { conn := 0, file := unknownDb }

/-- the `SELECT` to emit before an entry that must run in database `d` -/
def selFor (cfg : Cfg) (st : LogSt) (d : Nat) : List (List Bytes) :=
  if cfg.logSelect ∧ st.file ≠ d then [selectCmd d] else []

def fileAfter (cfg : Cfg) (st : LogSt) (d : Nat) : Nat := if cfg.logSelect then d else st.file

/-- The entry written for a command of the table (`obs` = what it drew: the members a SPOP took, the id an `XADD *` was
    assigned; `none`/empty = nothing, e.g. refused).  Verbatim — before the dispatch, whatever the outcome will be —
    unless `eff` and the command is one of the two logged by their effect. -/
def entryOf (eff : Bool) (raw : List Bytes) (obs : Option (List Bytes)) : Option (List Bytes) :=
  if eff ∧ nameOf raw = "SPOP" then
    match raw, obs with
    | _ :: key :: _, some (m :: ms) => some ([83, 82, 69, 77] :: key :: m :: ms)
    | _, _ => none
  else if eff ∧ nameOf raw = "XADD" ∧ raw[2]? = some [42] then
    match raw, obs with
    | n :: key :: _ :: rest, some [id] => some (n :: key :: id :: rest)
    | _, _ => none
  else some raw

/-- entries appended by one event, and the tracking state afterwards -/
def logEv (cfg : Cfg) (st : LogSt) : Ev → List (List Bytes) × LogSt
  | .cmd _ _ obs raw =>
    let name := nameOf raw
    let conn' := if name = "SELECT" then selTarget st.conn raw else st.conn
    if isWrite cfg.writes name then
      match entryOf cfg.byEffect raw obs with
      | some e =>
        let file1 := fileAfter cfg st st.conn
        (selFor cfg st st.conn ++ [e],
         { conn := conn', file := if name = "SELECT" then selTarget file1 raw else file1 })
      | none => ([], { st with conn := conn' })
    else ([], { st with conn := conn' })
  | .wake db _ left key =>
    if cfg.logWake then (selFor cfg st db ++ [popCmd left key], { st with file := fileAfter cfg st db })
    else ([], st)
  | .expire db _ key =>
    if cfg.logExpiry then (selFor cfg st db ++ [delCmd key], { st with file := fileAfter cfg st db })
    else ([], st)

def logFrom (cfg : Cfg) (st : LogSt) : List Ev → List (List Bytes)
  | [] => []
  | ev :: h => (logEv cfg st ev).1 ++ logFrom cfg (logEv cfg st ev).2 h

/-- the commands in the file after history `h` -/
def log (cfg : Cfg) (h : List Ev) : List (List Bytes) := logFrom cfg {} h

namespace Code

/-- `AofEngine::append_command_in_db(db, command)` (`sel = true`: a `SELECT db` entry first whenever the previous entry
    ran in another database; `last` is the engine's `last_db`) / plain `append_command(command)` (`sel = false`) -/
def appendInDb (sel : Bool) (last : Nat) (file : Bytes) (db : Nat) (cmd : List Bytes) : Bytes × Nat :=
  if sel ∧ last ≠ db then (file ++ (serCmd (selectCmd db) ++ serCmd cmd), db)
  else (file ++ serCmd cmd, if sel then db else last)

/-- the file, the connection's `db_index`, the engine's `last_db` -/
structure FileSt where
  file : Bytes := []
  conn : Nat := 0
  last : Nat := 0
  deriving Repr, DecidableEq

/-- What one event appends.  `process_normal_command`, the block before the dispatch:
    `if is_write_command(name) { aof.append_command_in_db(db, parts) }` — whatever the outcome will be;
    `log_blocking_pop` (`wake = true`): the pop made for a BLPOP/BRPOP client, as `LPOP key` / `RPOP key`. -/
def fileStep (w : List String) (sel wake eff exp : Bool) (s : FileSt) : Ev → FileSt
  | .cmd _ _ obs raw =>
    let conn' := if nameOf raw = "SELECT" then selTarget s.conn raw else s.conn
    if isWrite w (nameOf raw) then
      -- `is_logged_by_effect` / `effect_entry`: SPOP and `XADD *` are appended after the dispatch, from the reply
      match entryOf eff raw obs with
      | some e => { file := (appendInDb sel s.last s.file s.conn e).1, conn := conn', last := (appendInDb sel s.last s.file s.conn e).2 }
      | none => { s with conn := conn' }
    else { s with conn := conn' }
  | .wake db _ left key =>
    if wake then
      { s with file := (appendInDb sel s.last s.file db (popCmd left key)).1, last := (appendInDb sel s.last s.file db (popCmd left key)).2 }
    else s
  | .expire db _ key =>
    -- `log_expired_keys`: `DEL key` for every key the storage engine reports as removed by expiry
    if exp then
      { s with file := (appendInDb sel s.last s.file db (delCmd key)).1, last := (appendInDb sel s.last s.file db (delCmd key)).2 }
    else s

/-- the state of the file after a history -/
def fileAfter (w : List String) (sel wake eff exp : Bool) (s : FileSt) (h : List Ev) : FileSt := h.foldl (fileStep w sel wake eff exp) s

end Code

/-! ### Replay: the entries of the file, in order, on a fresh connection of an empty server -/

/-- an entry being replayed: when it runs and (for commands with a random outcome) what the replaying server draws -/
structure REntry where
  now : Nat
  obs : Option (List Bytes)
  cmd : List Bytes
  deriving Repr, DecidableEq

def replayFrom (q : Quirks) (c : Conn) (es : List REntry) : Conn :=
  es.foldl (fun c e => execRaw q c e.now e.obs e.cmd) c

def replay (q : Quirks) (es : List REntry) : Conn := replayFrom q {} es

/-- replay with every entry at the same instant and no random draws -/
def replayAt (q : Quirks) (t : Nat) (cs : List (List Bytes)) : Conn :=
  replay q (cs.map fun c => { now := t, obs := none, cmd := c })

/-! ### The catalogue -/

namespace Spec

/-- The commands of the key-space machine that can change the dataset.  Trust in this hand-written list comes from
    two theorems: a command NOT in the list never changes the database it runs on (`stepDb_readonly`, Proofs/AofNorm), and every
    command in the list changes some database (`writeNames_all_mutate`, by the witnesses below). -/
def writeNames : List String :=
  ["SET", "MSET", "GETSET", "SETNX", "SETEX", "PSETEX", "APPEND", "SETRANGE", "INCR", "DECR", "INCRBY", "DECRBY",
   "DEL", "RENAME", "RENAMENX", "FLUSHDB", "FLUSHALL", "EXPIRE", "PEXPIRE", "PERSIST",
   "LPUSH", "RPUSH", "LPOP", "RPOP", "LSET", "LTRIM", "LREM",
   "SADD", "SREM", "SPOP", "HSET", "HMSET", "HDEL", "HINCRBY", "ZADD", "XADD"]

/-- write commands whose effect depends on a random draw of the executing server -/
def randomWrites : List String := ["SPOP"]

/-- Dispatched commands outside the key-space machine that change the dataset (by reading the handlers; the
    correspondence run validates the classification: a mutation by a name not listed here shows up as live ≠ replay). -/
def outsideWrites : List String :=
  ["BLPOP", "BRPOP", "ZREM", "ZINCRBY", "ZPOPMIN", "ZPOPMAX", "XTRIM", "XDEL", "XGROUP", "XREADGROUP", "XACK", "XCLAIM",
   "EVAL", "EVALSHA"]

/-- Dispatched commands outside the key-space machine that do not change the dataset. -/
def outsideReads : List String :=
  ["VERIF", "PING", "ECHO", "SELECT", "SLEEP", "CONFIG", "ZSCORE", "ZCARD", "ZRANK", "ZREVRANK", "ZRANGE", "ZREVRANGE",
   "ZRANGEBYSCORE", "ZREVRANGEBYSCORE", "ZCOUNT", "XRANGE", "XREVRANGE", "XLEN", "XREAD", "XPENDING", "XINFO",
   "SAVE", "BGSAVE", "LASTSAVE", "SCAN", "HSCAN", "SSCAN", "ZSCAN", "BGREWRITEAOF", "INFO", "SLOWLOG", "MEMORY",
   "CLIENT", "AUTH", "REPLICAOF", "SLAVEOF", "SYNC", "PSYNC", "QUIT", "COMMAND", "SHUTDOWN", "SCRIPT",
   -- connection / transaction / pub-sub state, wherever the tree dispatches them
   "PUBLISH", "SUBSCRIBE", "UNSUBSCRIBE", "PSUBSCRIBE", "PUNSUBSCRIBE", "MONITOR", "REPLCONF",
   "MULTI", "EXEC", "DISCARD", "WATCH", "UNWATCH"]

/-- Mutating commands of the key-space machine that the table does not contain: none (GETSET, PEXPIRE, HMSET were
    missing until `fix: is_write_command lacked …`). -/
def notLogged : List String := []
/-- Mutating commands outside the machine that are not in the table BY DESIGN: a BLPOP/BRPOP may block, so it cannot be
    replayed verbatim; the pop it performs is logged by its effect, as `LPOP key` / `RPOP key` (`Ev.wake`, `Cfg.logWake`). -/
def notLoggedOutside : List String := ["BLPOP", "BRPOP"]

/-- for every name of `writeNames`: a database and arguments on which the command changes the database -/
def mutWitness : List (String × Db × List Bytes) :=
  let k : Bytes := [107]
  let v : Bytes := [118]
  let s : Db := [(k, ⟨.str [53], none⟩)]
  let sT : Db := [(k, ⟨.str [53], some 99999⟩)]
  let l : Db := [(k, ⟨.list [[97], [98]], none⟩)]
  let st : Db := [(k, ⟨.set [[97], [98]], none⟩)]
  let hh : Db := [(k, ⟨.hash [([102], [49])], none⟩)]
  [("SET", [], [k, v]), ("MSET", [], [k, v]), ("GETSET", [], [k, v]), ("SETNX", [], [k, v]),
   ("SETEX", [], [k, [49, 48, 48], v]), ("PSETEX", [], [k, [49, 48, 48], v]), ("APPEND", [], [k, v]),
   ("SETRANGE", [], [k, [48], v]), ("INCR", [], [k]), ("DECR", [], [k]), ("INCRBY", [], [k, [50]]),
   ("DECRBY", [], [k, [50]]), ("DEL", s, [k]), ("RENAME", s, [k, v]), ("RENAMENX", s, [k, v]), ("FLUSHDB", s, []),
   ("EXPIRE", s, [k, [49, 48, 48]]), ("PEXPIRE", s, [k, [49, 48, 48]]), ("PERSIST", sT, [k]),
   ("LPUSH", [], [k, v]), ("RPUSH", [], [k, v]), ("LPOP", l, [k]), ("RPOP", l, [k]), ("LSET", l, [k, [48], v]),
   ("LTRIM", l, [k, [48], [48]]), ("LREM", l, [k, [48], [97]]),
   ("SADD", [], [k, v]), ("SREM", st, [k, [97]]), ("SPOP", st, [k]), ("HSET", [], [k, [102], v]),
   ("HMSET", [], [k, [102], v]), ("HDEL", hh, [k, [102]]), ("HINCRBY", [], [k, [102], [50]]),
   ("ZADD", [], [k, [49], v]), ("XADD", [], [k, [49, 45, 49], [102], v])]

end Spec

/-! ### Decidable side conditions of the partial theorem -/

/-- The event is inside the model: a command of the key-space machine, SELECT, or the wrapper script around one
    (other scripts, EVALSHA, sorted-set/stream/blocking commands are covered by the correspondence run only;
    `XADD key * …` — an id drawn from the clock — is outside as well: the machine knows explicit ids only). -/
def inModel : Ev → Bool
  | .cmd _ _ _ raw =>
    nameOf raw = "SELECT" ∨ (KS.cmdNames.contains (effName raw) ∧ ¬ (effName raw = "XADD" ∧ (effCmd raw)[2]? = some [42]))
  | .wake db _ _ _ => db < 16
  | .expire db _ _ => db < 16

/-- The event is one the log `cfg` represents faithfully:
    * a command that can change the dataset is in the table (for the script path: EVAL is);
    * it is not a write with a random outcome logged verbatim (the replaying server draws again): either it is not
      SPOP, or SPOP itself (not inside a script) is logged by its effect;
    * whenever an entry is written, the reader of the log is in the database the command ran in
      (always true with SELECT tracking; without it, the connection must be in the database the reader is in);
    * a pop served to a blocked client is logged;
    * the removal of an expired key is logged. -/
def covered (cfg : Cfg) (st : LogSt) : Ev → Bool
  | .cmd _ _ _ raw =>
    nameOf raw = "SELECT" ∨
      ((Spec.writeNames.contains (effName raw) → isWrite cfg.writes (nameOf raw)) ∧
       (¬ Spec.randomWrites.contains (effName raw) ∨ (cfg.byEffect ∧ nameOf raw = "SPOP")) ∧
       (isWrite cfg.writes (nameOf raw) → cfg.logSelect ∨ st.conn = st.file))
  | .wake db _ _ _ => cfg.logWake ∧ (cfg.logSelect ∨ db = st.file)
  | .expire db _ _ => cfg.logExpiry ∧ (cfg.logSelect ∨ db = st.file)

def coveredFrom (cfg : Cfg) (st : LogSt) : List Ev → Bool
  | [] => true
  | ev :: h => covered cfg st ev && coveredFrom cfg (logEv cfg st ev).2 h

/-- every event of the history is represented faithfully by the log `cfg` -/
def coveredAll (cfg : Cfg) (h : List Ev) : Bool := coveredFrom cfg {} h

/-- the table is usable: SELECT is connection state, never an entry of its own -/
def Cfg.wf (cfg : Cfg) : Bool := !cfg.writes.contains "SELECT"

/-- no deadline has passed when a command runs (`purge` finds nothing to drop in the database it runs on):
    the model then speaks about TTL *presence* only, never about remaining time -/
def quietStep (c : Conn) (db now : Nat) : Bool := decide (purge now (getDb c.store db) = getDb c.store db)

def isErrReply : Frame → Bool
  | .error _ => true
  | _ => false

/-- The draw reported for a SPOP is what the command really took: members are reported only by a SPOP that answered
    without an error (in particular not by one whose reported draw the machine rejects as impossible). -/
def drawOk (q : Quirks) (c : Conn) : Ev → Bool
  | .cmd _ now obs raw =>
    nameOf raw = "SPOP" → obs.getD [] ≠ [] → isErrReply (KS.step q c.store c.cur now raw obs).2 = false
  | .wake _ _ _ _ => true
  | .expire _ _ _ => true

def drawsOk (q : Quirks) (c : Conn) : List Ev → Bool
  | [] => true
  | ev :: h => drawOk q c ev && drawsOk q (execEv q c ev) h

def evDb (c : Conn) : Ev → Nat
  | .cmd _ _ _ _ => c.cur
  | .wake db _ _ _ => db
  | .expire db _ _ => db

def evNow : Ev → Nat
  | .cmd _ now _ _ => now
  | .wake _ now _ _ => now
  | .expire _ now _ => now

/-- a command (or a pop made for a blocking client) finds no dead entry left in its database: whatever deadline has
    passed by then, the key was removed — an `expire` event — before.  (An `expire` event itself asks for nothing.) -/
def quietEv (c : Conn) : Ev → Bool
  | .expire _ _ _ => true
  | ev => quietStep c (evDb c ev) (evNow ev)

def quietLive (q : Quirks) (c : Conn) : List Ev → Bool
  | [] => true
  | ev :: h => quietEv c ev && quietLive q (execEv q c ev) h

def quietReplay (q : Quirks) (c : Conn) : List REntry → Bool
  | [] => true
  | e :: es => quietStep c c.cur e.now && quietReplay q (execRaw q c e.now e.obs e.cmd) es

end Ferrous.Aof
