/-
  Blocking pops — the multi-key invariant and the micro-steps that keep it.

  `InvG sl stale s`: every registry entry and every queued wake-up names a blocked connection that waits on that
  key (with the entry's deadline and operation); each (key, connection) slot exists exactly once across
  registry and wake queue, for exactly the keys the connection is blocked on; a connection has at most one
  wake-up under way; a key with waiters holds only elements that are spoken for.
  Two parameters describe the inside of the two loops of the machine:
  * `sl k`   elements of `k` pushed by the running LPUSH/RPUSH for which `notify_key_ready` has not yet been
             called (`notifyN`);
  * `stale`  registry entries that may belong to a connection the running deadline scan has already answered
             (the other keys of a multi-key wait expire in the same scan, one entry at a time).
  Outside these loops both are trivial: `InvF`.  Every other invariant of the family is `InvF` together with what the
  histories considered guarantee at the point in question:
  * `InvR` = `InvF` + empty wake queue: between the events of an `AllowedFixed` history;
  * `InvB` = `InvR` + `Calm` (who is blocked has a peer): between the commands of a batch of such a history;
  * `InvX dirty` (BlockingFixRun) = `InvB` with the counting clause suspended on the keys `dirty`: inside an atomic EXEC;
  * `InvA` = `InvF` + `Calm` + `Single` (a wait names one key): after every micro-step of an `Allowed` history, where
    requests may stay queued; it implies the single-key invariant `Inv` (`InvA.toInv`, BlockingFixRun).
  What `notify` and the deadline scan need of the wake queue is `Apart p`: no waiter satisfying `p` has a wake-up under
  way.  An empty queue gives it, and so does `Single`, and so does a queue that holds requests for the notified key only.
-/
import FerrousSpec.Proofs.BlockingInv
namespace Ferrous.Blk

/-- The (key, connection) pairs named by the registry, then by the wake queue. -/
def slotsOf (s : State) : List (Key × Conn) :=
  s.registry.map (fun e => (e.1, e.2.conn)) ++ s.wakeQ.map (fun w => (w.key, w.conn))

structure InvG (sl : Key → Nat) (stale : Key × Waiter → Prop) (s : State) : Prop where
  regOk : ∀ k w, (k, w) ∈ s.registry →
    (∃ b, (s.conns w.conn).blocked = some b ∧ k ∈ b.keys ∧ w.deadline = b.deadline ∧ w.op = b.op) ∨
    ((s.conns w.conn).blocked = none ∧ stale (k, w))
  wakeOk : ∀ w, w ∈ s.wakeQ → ∃ b, (s.conns w.conn).blocked = some b ∧ w.key ∈ b.keys ∧ w.op = b.op
  slots : (slotsOf s).Nodup
  cover : ∀ c b, (s.conns c).blocked = some b → ∀ k, k ∈ b.keys → (k, c) ∈ slotsOf s
  keysNe : ∀ c b, (s.conns c).blocked = some b → b.keys ≠ []
  alive : ∀ c, (s.conns c).blocked ≠ none → c ≠ 0 ∧ (s.conns c).gone = false
  wakeConns : (s.wakeQ.map (·.conn)).Nodup
  counts : ∀ k, cntW s k + sl k ≤ cntL s k ∧ (0 < cntR s k → cntL s k = cntW s k + sl k)
  lost : s.lost = []

/-- No scan in progress. -/
def noStale : Key × Waiter → Prop := fun _ => False

/-- The invariant between micro-steps. -/
abbrev InvF (s : State) : Prop := InvG noSlack noStale s

/-- The server has looked at the socket of every blocked client whose peer has gone: who is blocked has a peer. -/
def Calm (s : State) : Prop := ∀ c, (s.conns c).blocked ≠ none → (s.conns c).peerClosed = false

/-- Every blocking call waits on one key. -/
def Single (s : State) : Prop := ∀ c b, (s.conns c).blocked = some b → ∃ k, b.keys = [k]

/-- The invariant between commands of a batch (a batch runs only when the state is calm). -/
structure InvB (s : State) : Prop where
  inv : InvF s
  quiet : s.wakeQ = []
  calm : Calm s

/-- The invariant between events: a blocked client may have hung up without the server having looked yet. -/
structure InvR (s : State) : Prop where
  inv : InvF s
  quiet : s.wakeQ = []

/-- The invariant between micro-steps of an `Allowed` history. -/
structure InvA (s : State) : Prop where
  inv : InvF s
  calm : Calm s
  single : Single s

theorem Calm.of_conns {s t : State} (e : t.conns = s.conns) (h : Calm s) : Calm t := by unfold Calm; rw [e]; exact h

theorem Single.of_conns {s t : State} (e : t.conns = s.conns) (h : Single s) : Single t := by unfold Single; rw [e]; exact h

theorem InvB.toR {s : State} (h : InvB s) : InvR s := ⟨h.inv, h.quiet⟩

theorem InvB_init : InvB init := by
  refine ⟨⟨?_, ?_, ?_, ?_, ?_, ?_, ?_, ?_, rfl⟩, rfl, fun c h => absurd rfl h⟩
  · intro k w h; cases h
  · intro w h; cases h
  · exact List.nodup_nil
  · intro c b h; cases h
  · intro c b h; cases h
  · intro c h; exact absurd rfl h
  · exact List.nodup_nil
  · intro k; exact ⟨Nat.le_refl _, fun _ => rfl⟩

theorem mem_slots_iff {s : State} {k : Key} {c : Conn} :
    (k, c) ∈ slotsOf s ↔ (∃ w, (k, w) ∈ s.registry ∧ w.conn = c) ∨ (∃ w, w ∈ s.wakeQ ∧ w.key = k ∧ w.conn = c) := by
  unfold slotsOf
  simp only [List.mem_append, List.mem_map, Prod.mk.injEq]
  constructor
  · rintro (⟨⟨k', w⟩, h, rfl, rfl⟩ | ⟨w, h, rfl, rfl⟩)
    · exact .inl ⟨w, h, rfl⟩
    · exact .inr ⟨w, h, rfl, rfl⟩
  · rintro (⟨w, h, rfl⟩ | ⟨w, h, rfl, rfl⟩)
    · exact .inl ⟨(k, w), h, rfl, rfl⟩
    · exact .inr ⟨w, h, rfl, rfl⟩

theorem mem_slots_reg {s : State} {k : Key} {w : Waiter} (h : (k, w) ∈ s.registry) : (k, w.conn) ∈ slotsOf s :=
  mem_slots_iff.mpr (.inl ⟨w, h, rfl⟩)

theorem mem_slots_wake {s : State} {w : Wake} (h : w ∈ s.wakeQ) : (w.key, w.conn) ∈ slotsOf s :=
  mem_slots_iff.mpr (.inr ⟨w, h, rfl, rfl⟩)

theorem InvG.reg_blocked {sl} {s : State} (hI : InvG sl noStale s) {k : Key} {w : Waiter} (h : (k, w) ∈ s.registry) :
    ∃ b, (s.conns w.conn).blocked = some b ∧ k ∈ b.keys ∧ w.deadline = b.deadline ∧ w.op = b.op := by
  rcases hI.regOk k w h with h | ⟨_, h⟩
  · exact h
  · exact h.elim

theorem InvG.no_reg_of_unblocked {sl} {s : State} (hI : InvG sl noStale s) {c : Conn}
    (hc : (s.conns c).blocked = none) {k : Key} {w : Waiter} (h : (k, w) ∈ s.registry) : w.conn ≠ c := by
  intro e
  obtain ⟨b, hb, _⟩ := hI.reg_blocked h
  rw [e, hc] at hb; cases hb

theorem InvG.no_wake_of_unblocked {sl st} {s : State} (hI : InvG sl st s) {c : Conn}
    (hc : (s.conns c).blocked = none) {w : Wake} (h : w ∈ s.wakeQ) : w.conn ≠ c := by
  intro e
  obtain ⟨b, hb, _⟩ := hI.wakeOk w h
  rw [e, hc] at hb; cases hb

/-- Only `store`, `out`, `pushed` and fields of `conns` other than `blocked` and `gone` differ. -/
theorem InvG.congr {sl sl' st} {s t : State} (hI : InvG sl st s)
    (hr : t.registry = s.registry) (hw : t.wakeQ = s.wakeQ) (hl : t.lost = s.lost)
    (hc : ∀ c, (t.conns c).blocked = (s.conns c).blocked ∧ (t.conns c).gone = (s.conns c).gone)
    (hcounts : Counts sl' t) : InvG sl' st t := by
  have hs : slotsOf t = slotsOf s := by unfold slotsOf; rw [hr, hw]
  refine ⟨?_, ?_, ?_, ?_, ?_, ?_, ?_, hcounts, by rw [hl]; exact hI.lost⟩
  · intro k w h
    rw [hr] at h
    rw [(hc w.conn).1]
    exact hI.regOk k w h
  · intro w h
    rw [hw] at h
    rw [(hc w.conn).1]
    exact hI.wakeOk w h
  · rw [hs]; exact hI.slots
  · intro c b hb k hk
    rw [(hc c).1] at hb
    rw [hs]; exact hI.cover c b hb k hk
  · intro c b hb
    rw [(hc c).1] at hb
    exact hI.keysNe c b hb
  · intro c hb
    rw [(hc c).1] at hb
    rw [(hc c).2]
    exact hI.alive c hb
  · rw [hw]; exact hI.wakeConns

/-- Same lists too (only `out`, `pushed`, and `peerClosed` or the transaction fields of a connection differ). -/
theorem InvG.congr' {sl st} {s t : State} (hI : InvG sl st s)
    (hs : t.store = s.store) (hr : t.registry = s.registry) (hw : t.wakeQ = s.wakeQ) (hl : t.lost = s.lost)
    (hc : ∀ c, (t.conns c).blocked = (s.conns c).blocked ∧ (t.conns c).gone = (s.conns c).gone) : InvG sl st t :=
  hI.congr hr hw hl hc (Counts.shrink hI.counts hs hw (hr ▸ List.Sublist.refl _))

/-- Connection `c` is unblocked and leaves the wake queue; registry entries of `c` that stay behind are stale; the
    slots of every other connection stay. -/
theorem InvG.release {sl sl' : Key → Nat} {st st' : Key × Waiter → Prop} {s t : State} (c : Conn) (hI : InvG sl st s)
    (hreg : t.registry.Sublist s.registry) (hwk : t.wakeQ.Sublist s.wakeQ)
    (hkeepR : ∀ x, x ∈ s.registry → x.2.conn ≠ c → x ∈ t.registry)
    (hkeepW : ∀ w, w ∈ s.wakeQ → w.conn ≠ c → w ∈ t.wakeQ)
    (hwc : ∀ w, w ∈ t.wakeQ → w.conn ≠ c)
    (hrc : ∀ k w, (k, w) ∈ t.registry → w.conn = c → st' (k, w)) (hst : ∀ x, st x → st' x)
    (hconn : ∀ c', c' ≠ c → t.conns c' = s.conns c') (hself : (t.conns c).blocked = none)
    (hcounts : Counts sl' t) (hl : t.lost = s.lost) : InvG sl' st' t := by
  have hne : ∀ {c' b}, (t.conns c').blocked = some b → c' ≠ c := fun hb e => by rw [e, hself] at hb; cases hb
  refine ⟨?_, ?_, ?_, ?_, ?_, ?_, (hwk.map _).nodup hI.wakeConns, hcounts, hl ▸ hI.lost⟩
  · intro k w h
    by_cases hwc' : w.conn = c
    · exact .inr ⟨hwc' ▸ hself, hrc k w h hwc'⟩
    · rw [hconn _ hwc']
      rcases hI.regOk k w (hreg.subset h) with h' | ⟨h1, h2⟩
      · exact .inl h'
      · exact .inr ⟨h1, hst _ h2⟩
  · intro w h
    rw [hconn _ (hwc w h)]
    exact hI.wakeOk w (hwk.subset h)
  · exact (List.Sublist.append (hreg.map _) (hwk.map _)).nodup hI.slots
  · intro c' b hb k hk
    have hcc := hne hb
    rw [hconn _ hcc] at hb
    rcases mem_slots_iff.mp (hI.cover c' b hb k hk) with ⟨w, hw, hwc'⟩ | ⟨w, hw, hwk', hwc'⟩
    · exact mem_slots_iff.mpr (.inl ⟨w, hkeepR _ hw (hwc' ▸ hcc), hwc'⟩)
    · exact mem_slots_iff.mpr (.inr ⟨w, hkeepW _ hw (hwc' ▸ hcc), hwk', hwc'⟩)
  · intro c' b hb
    have hcc := hne hb
    rw [hconn _ hcc] at hb
    exact hI.keysNe c' b hb
  · intro c' hb
    have hcc : c' ≠ c := fun e => hb (e ▸ hself)
    rw [hconn _ hcc] at hb ⊢
    exact hI.alive c' hb

/-- A connection's slot for a key is in the registry or in the wake queue, not in both. -/
theorem InvG.reg_wake_key_ne {sl st} {s : State} (hI : InvG sl st s) {k : Key} {x : Waiter} {w : Wake}
    (hx : (k, x) ∈ s.registry) (hw : w ∈ s.wakeQ) (hc : w.conn = x.conn) : w.key ≠ k := fun hk =>
  (List.nodup_append.mp hI.slots).2.2 _ (List.mem_map.mpr ⟨(k, x), hx, rfl⟩) _
    (List.mem_map.mpr ⟨w, hw, by rw [hk, hc]⟩) rfl

/-- No waiter satisfying `p` has a wake-up under way. -/
def Apart (p : Key × Waiter → Prop) (s : State) : Prop :=
  ∀ x, x ∈ s.registry → p x → ∀ w, w ∈ s.wakeQ → w.conn ≠ x.2.conn

theorem Apart.of_quiet {p} {s : State} (h : s.wakeQ = []) : Apart p s := fun _ _ _ w hw => by rw [h] at hw; cases hw

theorem InvG.apart_of_keys {sl st} {s : State} (hI : InvG sl st s) {k : Key} (hk : ∀ w, w ∈ s.wakeQ → w.key = k) :
    Apart (fun x => x.1 = k) s := fun x hx hxk w hw hc =>
  hI.reg_wake_key_ne (k := x.1) (x := x.2) hx hw hc ((hk w hw).trans hxk.symm)

theorem InvG.apart_of_single {sl p} {s : State} (hI : InvG sl noStale s) (hS : Single s) : Apart p s := by
  intro x hx _ w hw hc
  obtain ⟨b, hb, hkb, _⟩ := hI.reg_blocked (k := x.1) (w := x.2) hx
  obtain ⟨b', hb', hkb', _⟩ := hI.wakeOk w hw
  rw [hc, hb] at hb'
  obtain rfl := Option.some.inj hb'
  obtain ⟨k, hk⟩ := hS _ _ hb
  rw [hk, List.mem_singleton] at hkb hkb'
  exact hI.reg_wake_key_ne (k := x.1) (x := x.2) hx hw hc (hkb'.trans hkb.symm)

theorem mem_dedupL {x : Key} : ∀ {l : List Key}, x ∈ dedupL l ↔ x ∈ l := by
  intro l
  induction l with
  | nil => simp [dedupL]
  | cons k ks ih =>
    simp only [dedupL, List.mem_cons, List.mem_filter, bne_iff_ne, ne_eq]
    constructor
    · rintro (h | ⟨h, _⟩)
      · exact .inl h
      · exact .inr (ih.mp h)
    · rintro (h | h)
      · exact .inl h
      · by_cases hx : x = k
        · exact .inl hx
        · exact .inr ⟨ih.mpr h, hx⟩

theorem nodup_dedupL : ∀ (l : List Key), (dedupL l).Nodup := by
  intro l
  induction l with
  | nil => exact List.nodup_nil
  | cons k ks ih =>
    simp only [dedupL]
    refine List.nodup_cons.mpr ⟨?_, ih.sublist List.filter_sublist⟩
    simp [List.mem_filter]

theorem dedupL_ne_nil {l : List Key} (h : l ≠ []) : dedupL l ≠ [] := by
  cases l with
  | nil => exact absurd rfl h
  | cons k ks => simp [dedupL]

theorem mem_regKeys {q : Quirks} {keys : List Key} {k : Key} (h : k ∈ regKeys q keys) : k ∈ keys := by
  unfold regKeys at h
  split at h
  · exact mem_dedupL.mp h
  · exact h

theorem regKeys_ne_nil {q : Quirks} {keys : List Key} (h : keys ≠ []) : regKeys q keys ≠ [] := by
  unfold regKeys
  split
  · exact dedupL_ne_nil h
  · exact h

theorem regKeys_single (q : Quirks) (k : Key) : regKeys q [k] = [k] := by unfold regKeys; split <;> rfl

theorem InvG_emit {sl st} {s : State} {c : Conn} (hI : InvG sl st s) (h : (s.conns c).peerClosed = false) (r : Reply) :
    InvG sl st (emit s c r) := by
  rw [emit_open h]
  exact hI.congr' rfl rfl rfl rfl (fun _ => ⟨rfl, rfl⟩)

theorem InvG_setConn_tx {sl st} {s : State} (hI : InvG sl st s) (c : Conn) (f : ConnSt → ConnSt) (hf : TxOnly f) :
    InvG sl st (setConn s c f) := by
  refine hI.congr' rfl rfl rfl rfl ?_
  intro c'
  rw [setConn_conns]
  split
  · exact ⟨(hf _).1, (hf _).2.1⟩
  · exact ⟨rfl, rfl⟩

theorem nodup_map_pair_left {ks : List Key} (c : Conn) (h : ks.Nodup) : (ks.map fun k => (k, c)).Nodup := by
  induction ks with
  | nil => exact List.nodup_nil
  | cons k r ih =>
    obtain ⟨h1, h2⟩ := List.nodup_cons.mp h
    simp only [List.map_cons]
    refine List.nodup_cons.mpr ⟨?_, ih h2⟩
    intro hm
    obtain ⟨k', hk', heq⟩ := List.mem_map.mp hm
    exact h1 ((Prod.mk.inj heq).1 ▸ hk')

/-- Connection `c`, not blocked so far, blocks on the keys `ks`, whose lists are empty, and joins their queues. -/
theorem InvG.enlist {s t : State} (hI : InvF s) (c : Conn) (ks : List Key) (dl : Option Nat) (op : Op)
    (hks : ks.Nodup) (hne : ks ≠ []) (hc0 : c ≠ 0) (hnb : (s.conns c).blocked = none) (hempty : ∀ k, k ∈ ks → cntL s k = 0)
    (hr : t.registry = s.registry ++ ks.map fun k => (k, (⟨c, dl, op⟩ : Waiter))) (hw : t.wakeQ = s.wakeQ)
    (hs : t.store = s.store) (hl : t.lost = s.lost)
    (hconn : ∀ c', c' ≠ c → t.conns c' = s.conns c') (hself : (t.conns c).blocked = some ⟨ks, dl, op⟩)
    (hgone : (t.conns c).gone = false) : InvF t := by
  have hslots : (slotsOf t).Perm (ks.map (fun k => (k, c)) ++ slotsOf s) := by
    have hK : (ks.map fun k => (k, (⟨c, dl, op⟩ : Waiter))).map (fun e => (e.1, e.2.conn)) = ks.map fun k => (k, c) := by
      rw [List.map_map]; rfl
    unfold slotsOf
    rw [hr, hw, List.map_append, hK, ← List.append_assoc]
    exact List.perm_append_comm.append_right _
  have hnoc : ∀ k, (k, c) ∉ slotsOf s := by
    intro k h
    rcases mem_slots_iff.mp h with ⟨w, hw, hwc⟩ | ⟨w, hw, _, hwc⟩
    · exact hI.no_reg_of_unblocked hnb hw hwc
    · exact hI.no_wake_of_unblocked hnb hw hwc
  have hblk : ∀ c' b, (t.conns c').blocked = some b →
      (c' = c ∧ b = ⟨ks, dl, op⟩) ∨ (c' ≠ c ∧ (s.conns c').blocked = some b) := by
    intro c' b hb
    by_cases hcc : c' = c
    · rw [hcc, hself] at hb; exact .inl ⟨hcc, (Option.some.inj hb).symm⟩
    · rw [hconn _ hcc] at hb; exact .inr ⟨hcc, hb⟩
  refine ⟨?_, ?_, ?_, ?_, ?_, ?_, by rw [hw]; exact hI.wakeConns, ?_, by rw [hl]; exact hI.lost⟩
  · intro k w h
    rw [hr] at h
    left
    rcases List.mem_append.mp h with h | h
    · rw [hconn _ (hI.no_reg_of_unblocked hnb h)]
      exact hI.reg_blocked h
    · obtain ⟨k', hk', heq⟩ := List.mem_map.mp h
      obtain ⟨rfl, rfl⟩ := Prod.mk.inj heq
      exact ⟨⟨ks, dl, op⟩, hself, hk', rfl, rfl⟩
  · intro w h
    rw [hw] at h
    rw [hconn _ (hI.no_wake_of_unblocked hnb h)]
    exact hI.wakeOk w h
  · refine hslots.nodup_iff.mpr (List.nodup_append.mpr ⟨nodup_map_pair_left c hks, hI.slots, ?_⟩)
    intro a ha b hb hab
    obtain ⟨k, _, rfl⟩ := List.mem_map.mp ha
    exact hnoc k (hab ▸ hb)
  · intro c' b hb k hk
    apply hslots.symm.subset
    rcases hblk c' b hb with ⟨hcc, rfl⟩ | ⟨_, hb⟩
    · exact List.mem_append_left _ (List.mem_map.mpr ⟨k, hk, by rw [hcc]⟩)
    · exact List.mem_append_right _ (hI.cover c' b hb k hk)
  · intro c' b hb
    rcases hblk c' b hb with ⟨_, rfl⟩ | ⟨_, hb⟩
    · exact hne
    · exact hI.keysNe c' b hb
  · intro c' hb
    by_cases hcc : c' = c
    · rw [hcc]; exact ⟨hc0, hgone⟩
    · rw [hconn _ hcc] at hb ⊢
      exact hI.alive c' hb
  · refine Counts.register hI.counts hs hw hr fun x hx => ?_
    obtain ⟨k, hk, rfl⟩ := List.mem_map.mp hx
    exact hempty k hk

theorem InvG_register {s : State} (hI : InvF s) (c : Conn) (ks : List Key) (dl : Option Nat) (op : Op)
    (hks : ks.Nodup) (hne : ks ≠ []) (hc0 : c ≠ 0) (hcg : (s.conns c).gone = false) (hnb : (s.conns c).blocked = none)
    (hempty : ∀ k, k ∈ ks → cntL s k = 0) :
    InvF (setBlocked { s with registry := s.registry ++ ks.map fun k => (k, (⟨c, dl, op⟩ : Waiter)) } c
      (some ⟨ks, dl, op⟩)) :=
  hI.enlist c ks dl op hks hne hc0 hnb hempty (setBlocked_registry ..) (setBlocked_wakeQ ..) (setBlocked_store ..)
    (setBlocked_lost ..) (fun _ h => setBlocked_conns_ne _ _ _ _ h) (setBlocked_blocked_self _ _ _ hc0)
    ((setBlocked_gone ..).trans hcg)

theorem InvG_notify_sl {s : State} {sl : Key → Nat} (k : Key) (hI : InvG sl noStale s) (hpos : 0 < sl k)
    (hfree : Apart (fun x => x.1 = k) s) : InvG (decAt sl k) noStale (notify k s) := by
  have hC := Counts.notify hI.counts k hpos
  rcases notify_cases k s with ⟨_, hn⟩ | ⟨a, e, b, h1, hek, _, hn⟩ <;> rw [hn] at hC ⊢
  · exact ⟨hI.regOk, hI.wakeOk, hI.slots, hI.cover, hI.keysNe, hI.alive, hI.wakeConns, hC, hI.lost⟩
  · have hemem : (e.1, e.2) ∈ s.registry := by rw [h1]; simp
    have hperm : (slotsOf { s with registry := a ++ b, wakeQ := s.wakeQ ++ [(⟨e.2.conn, k, e.2.op⟩ : Wake)] }).Perm (slotsOf s) := by
      unfold slotsOf
      show ((a ++ b).map (fun e => (e.1, e.2.conn)) ++ (s.wakeQ ++ [(⟨e.2.conn, k, e.2.op⟩ : Wake)]).map (fun w => (w.key, w.conn))).Perm
        (s.registry.map (fun e => (e.1, e.2.conn)) ++ s.wakeQ.map (fun w => (w.key, w.conn)))
      rw [h1]
      simp only [List.map_append, List.map_cons, List.map_nil, hek, List.append_assoc, List.cons_append]
      refine List.Perm.append_left _ ?_
      rw [← List.append_assoc]
      exact List.perm_append_singleton _ _
    refine ⟨?_, ?_, hperm.nodup_iff.mpr hI.slots, fun c b' hb' k' hk' => hperm.symm.subset (hI.cover c b' hb' k' hk'),
      hI.keysNe, hI.alive, ?_, hC, hI.lost⟩
    · intro k' w' h
      exact hI.regOk k' w' ((h1 ▸ sublist_remove a b e : (a ++ b).Sublist s.registry).subset h)
    · intro w h
      have h : w ∈ s.wakeQ ++ [(⟨e.2.conn, k, e.2.op⟩ : Wake)] := h
      rcases List.mem_append.mp h with h | h
      · exact hI.wakeOk w h
      · simp only [List.mem_singleton] at h
        subst h
        obtain ⟨b', hb', hkb, _, hop⟩ := hI.reg_blocked hemem
        exact ⟨b', hb', hek ▸ hkb, hop⟩
    · show ((s.wakeQ ++ [(⟨e.2.conn, k, e.2.op⟩ : Wake)]).map (·.conn)).Nodup
      rw [List.map_append]
      refine List.nodup_append.mpr ⟨hI.wakeConns, by simp, ?_⟩
      intro x hx y hy hxy
      simp only [List.map_cons, List.map_nil, List.mem_singleton] at hy
      obtain ⟨w, hw, rfl⟩ := List.mem_map.mp hx
      exact hfree e hemem hek w hw (hxy.trans hy)

theorem notify_wakeQ (k : Key) (s : State) :
    ∃ l, (notify k s).wakeQ = s.wakeQ ++ l ∧ l.length ≤ 1 ∧ ∀ w, w ∈ l → w.key = k := by
  rcases notify_cases k s with ⟨_, hn⟩ | ⟨a, e, b, _, _, _, hn⟩ <;> rw [hn]
  · exact ⟨[], by simp, Nat.zero_le _, fun _ h => by cases h⟩
  · exact ⟨[_], rfl, Nat.le_refl _, fun w h => by rw [List.mem_singleton.mp h]⟩

/-- `n` notifications for the `n` unannounced elements of `k`.  No waiter on `k` may have a request under way: the queue
    holds requests for `k` only (a running push), or every wait names one key. -/
theorem InvG_notifyN (k : Key) : ∀ (n : Nat) (s : State), InvG (slackAt k n) noStale s →
    ((∀ w, w ∈ s.wakeQ → w.key = k) ∨ Single s) →
    InvF (notifyN n k s) ∧ (notifyN n k s).wakeQ.length ≤ s.wakeQ.length + n := by
  intro n
  induction n with
  | zero =>
    intro s hI _
    simp only [notifyN]
    rw [slackAt_zero] at hI
    exact ⟨hI, by omega⟩
  | succ n ih =>
    intro s hI hA
    simp only [notifyN]
    have h1 := decAt_slackAt k n ▸ InvG_notify_sl k hI (by simp [slackAt]) (hA.elim hI.apart_of_keys hI.apart_of_single)
    obtain ⟨l, hl, hlen, hlk⟩ := notify_wakeQ k s
    obtain ⟨g1, g2⟩ := ih _ h1 (hA.imp (fun hk w hw => by
      rw [hl] at hw
      exact (List.mem_append.mp hw).elim (hk w) (hlk w)) (Single.of_conns (notify_conns k s)))
    rw [hl, List.length_append] at g2
    exact ⟨g1, by omega⟩

/-- LPUSH / RPUSH of `vs` to `k`, then one notification per element. -/
theorem InvF_push {s : State} {c : Conn} (hI : InvF s) (hcp : (s.conns c).peerClosed = false) (op : Op) (k : Key)
    (vs : List Elem) (r : Reply) (hA : (∀ w, w ∈ s.wakeQ → w.key = k) ∨ Single s) :
    InvF (notifyN vs.length k
      (emit { s with store := pushElems op k vs s.store, pushed := s.pushed ++ vs.map fun v => (k, v) } c r)) ∧
    (notifyN vs.length k
      (emit { s with store := pushElems op k vs s.store, pushed := s.pushed ++ vs.map fun v => (k, v) } c r)).wakeQ.length
      ≤ s.wakeQ.length + vs.length := by
  rw [emit_open (s := { s with store := pushElems op k vs s.store, pushed := s.pushed ++ vs.map fun v => (k, v) }) hcp]
  exact InvG_notifyN k vs.length _
    (hI.congr rfl rfl rfl (fun _ => ⟨rfl, rfl⟩) (Counts.push hI.counts rfl rfl (countP_pushElems op k vs s.store))) hA

theorem Calm.of_steps {s t : State} (hu : OnlyUnblocks s t) (hl : SameLife s t) (h : Calm s) : Calm t := by
  intro c hb
  rw [(hl c).2]
  rcases hu c with e | e
  · rw [e] at hb; exact h c hb
  · exact absurd e hb

theorem Single.of_steps {s t : State} (hu : OnlyUnblocks s t) (h : Single s) : Single t := by
  intro c b hb
  rcases hu c with e | e <;> rw [e] at hb
  · exact h c b hb
  · cases hb

/-- An update of one connection that keeps `blocked` and `peerClosed`, or leaves the connection unblocked. -/
theorem Calm_setConn {s : State} (h : Calm s) (c : Conn) (f : ConnSt → ConnSt)
    (hf : ((f (s.conns c)).blocked = (s.conns c).blocked ∧ (f (s.conns c)).peerClosed = (s.conns c).peerClosed) ∨
      (f (s.conns c)).blocked = none) : Calm (setConn s c f) := by
  intro c' hb
  by_cases hc : c' = c
  · subst hc
    rw [setConn_conns_self] at hb ⊢
    rcases hf with ⟨h1, h2⟩ | h1
    · rw [h1] at hb; rw [h2]; exact h c' hb
    · exact absurd h1 hb
  · rw [setConn_conns_ne _ _ _ hc] at hb ⊢
    exact h c' hb

theorem Single_setConn {s : State} (h : Single s) (c : Conn) (f : ConnSt → ConnSt)
    (hf : (f (s.conns c)).blocked = (s.conns c).blocked ∨ (f (s.conns c)).blocked = none) : Single (setConn s c f) := by
  intro c' b hb
  by_cases hc : c' = c
  · subst hc
    rw [setConn_conns_self] at hb
    rcases hf with h1 | h1 <;> rw [h1] at hb
    · exact h c' b hb
    · cases hb
  · rw [setConn_conns_ne _ _ _ hc] at hb
    exact h c' b hb

theorem Calm_wakeOne (q : Quirks) (s : State) (h : Calm s) : Calm (wakeOne q s) :=
  h.of_steps (steps_wakeOne unblockSteps q s) (steps_wakeOne lifeSteps.toWakeSteps q s)

/-- Under the invariant, in a calm state, `wake_client` serves the client named at the head of the queue. -/
theorem InvG.wakeOne_served {sl st} {s : State} (hI : InvG sl st s) (hcalm : Calm s) (q : Quirks) {w : Wake} {rest : List Wake}
    (hw : s.wakeQ = w :: rest) : ∃ e st', popElem w.op w.key s.store = some (e, st') ∧ wakeOne q s = served q s w rest e st' := by
  obtain ⟨b, hb, hkb, _⟩ := hI.wakeOk w (by rw [hw]; simp)
  obtain ⟨h0, hg⟩ := hI.alive w.conn (by rw [hb]; simp)
  rcases wakeOne_live q hw hb hkb h0 hg (hcalm w.conn (by rw [hb]; simp)) with ⟨hpe, _⟩ | h
  · exfalso
    have hc := (hI.counts w.key).1
    have hW := cntW_cons hw w.key
    have hL0 : cntL s w.key = 0 := cntL_zero_of_popElem_none hpe
    simp only [↓reduceIte] at hW
    omega
  · exact h

theorem InvG_wakeOne {sl : Key → Nat} (q : Quirks) (s : State) (hI : InvG sl noStale s)
    (hq : q.unregisterAllOnServe = true ∨ Single s) (hcalm : Calm s) : InvG sl noStale (wakeOne q s) := by
  cases hw : s.wakeQ with
  | nil => rw [wakeOne_nil q s hw]; exact hI
  | cons w rest =>
    obtain ⟨e, st', hpe, heq⟩ := hI.wakeOne_served hcalm q hw
    obtain ⟨b, hb, hkb, _⟩ := hI.wakeOk w (by rw [hw]; simp)
    have h0 := (hI.alive w.conn (by rw [hb]; simp)).1
    have hn := hI.wakeConns
    rw [hw, List.map_cons] at hn
    -- served, the client is unregistered everywhere: by `unregister_client`, or because its one key was the request's
    have hreg : (served q s w rest e st').registry = s.registry.filter fun x => x.2.conn != w.conn := by
      show (if q.unregisterAllOnServe = true then _ else s.registry) = _
      split
      · rfl
      · obtain ⟨k, hk⟩ := (hq.resolve_left ‹_›) _ _ hb
        rw [hk, List.mem_singleton] at hkb
        refine (List.filter_eq_self.mpr fun x hx => ?_).symm
        simp only [bne_iff_ne, ne_eq]
        intro hxc
        obtain ⟨b', hb', hkb', _⟩ := hI.reg_blocked (k := x.1) (w := x.2) hx
        rw [hxc, hb] at hb'
        obtain rfl := Option.some.inj hb'
        rw [hk, List.mem_singleton] at hkb'
        exact hI.reg_wake_key_ne (k := x.1) (x := x.2) hx (by rw [hw]; simp) hxc.symm (hkb.trans hkb'.symm)
    rw [heq]
    refine hI.release w.conn (hreg ▸ List.filter_sublist) (by rw [hw]; exact List.sublist_cons_self w rest)
      (fun x hx hxc => hreg ▸ List.mem_filter.mpr ⟨hx, by simpa using hxc⟩) ?_ ?_
      (fun k x hx hxc => by rw [hreg] at hx; simp [List.mem_filter, hxc] at hx) (fun _ h => h)
      (fun c' hc' => setBlocked_conns_ne _ _ _ _ hc') (setBlocked_blocked_self _ _ _ h0)
      (Counts.serve hI.counts hw hpe rfl rfl (hreg ▸ List.filter_sublist)) rfl
    · intro w' hw' hwc
      rw [hw] at hw'
      exact (List.mem_cons.mp hw').resolve_left fun h => hwc (h ▸ rfl)
    · intro w' hw' e'
      exact (List.nodup_cons.mp hn).1 (e' ▸ List.mem_map.mpr ⟨w', hw', rfl⟩)

/-- A drain of at least as many steps as there are requests: the invariant holds, the state stays calm, the queue is empty. -/
theorem InvF_iter_wakeOne (q : Quirks) (hq : q.unregisterAllOnServe = true) :
    ∀ n s, InvF s → Calm s → s.wakeQ.length ≤ n →
      InvF (iter (wakeOne q) n s) ∧ Calm (iter (wakeOne q) n s) ∧ (iter (wakeOne q) n s).wakeQ = [] := by
  intro n
  induction n with
  | zero => intro s h hc hl; exact ⟨h, hc, List.length_eq_zero_iff.mp (by simp only [iter]; omega)⟩
  | succ n ih =>
    intro s h hc hl
    simp only [iter]
    refine ih _ (InvG_wakeOne q s h (.inl hq) hc) (Calm_wakeOne q s hc) ?_
    cases hw : s.wakeQ with
    | nil => rw [wakeOne_nil q s hw, hw]; exact Nat.zero_le _
    | cons w rest =>
      obtain ⟨e, st', _, heq⟩ := h.wakeOne_served hc q hw
      rw [heq]
      rw [hw] at hl
      exact Nat.le_of_succ_le_succ hl

theorem cntW_quiet {s : State} (h : s.wakeQ = []) (k : Key) : cntW s k = 0 := by unfold cntW; rw [h]; rfl

theorem InvF_pop {s : State} (hI : InvF s) {op : Op} {k : Key} (hW : cntW s k = 0) {e : Key × Elem} {st' : List (Key × Elem)}
    (hp : popElem op k s.store = some (e, st')) : InvF { s with store := st' } :=
  hI.congr rfl rfl rfl (fun _ => ⟨rfl, rfl⟩) (Counts.pop hI.counts hW hp rfl rfl rfl)

theorem InvF_popCmd {s : State} {c : Conn} (hI : InvF s) (hcp : (s.conns c).peerClosed = false) (q : Quirks) (now : Nat)
    (cid : Conn) (op : Op) (k : Key) (hW : cntW s k = 0) : InvF (dataCore q now c cid s (.pop op k)) := by
  simp only [dataCore]
  split
  · next e st' hp => exact InvG_emit (InvF_pop hI hW hp) hcp _
  · exact InvG_emit hI hcp _

/-- BLPOP / BRPOP for a connection that is not blocked, on keys none of which has a wake-up under way: served at once,
    refused inside EXEC, or registered on its keys (which are distinct). -/
theorem InvF_bpopCmd {s : State} {c : Conn} (hI : InvF s) (ho : Open s c) (q : Quirks) (now : Nat) (cid : Conn) (op : Op)
    (keys : List Key) (t : Nat) (hcid : cid = c ∨ cid = 0) (hrit : cid = 0 → q.refuseBlockingInTx = true)
    (hnb : cid ≠ 0 → (s.conns cid).blocked = none) (hW : ∀ k, k ∈ keys → cntW s k = 0) (hnd : (regKeys q keys).Nodup) :
    InvF (dataCore q now c cid s (.bpop op keys t)) := by
  obtain ⟨_, hcg, hcp⟩ := ho
  simp only [dataCore]
  split
  · exact InvG_emit hI hcp _
  · next hne =>
    split
    · next e st' hp =>
      obtain ⟨k, hk, hp'⟩ := firstNonEmpty_some hp
      exact InvG_emit (InvF_pop hI (hW k hk) hp') hcp _
    · next hp =>
      split
      · exact InvG_emit hI hcp _
      · next hnot =>
        have hcid0 : cid ≠ 0 := fun h0 => hnot ⟨h0, hrit h0⟩
        obtain rfl : cid = c := hcid.resolve_right hcid0
        exact InvG_register hI cid (regKeys q keys) _ op hnd (regKeys_ne_nil fun h => by simp [h] at hne) hcid0 hcg
          (hnb hcid0) fun k hk => cntL_zero_of_popElem_none (firstNonEmpty_none hp k (mem_regKeys hk))

/-- Entries the running scan at `now` may have orphaned: they are expired, the scan will remove them. -/
def staleAt (now : Nat) : Key × Waiter → Prop := fun e => isExpired now e = true

theorem InvF.toScan {s : State} (hI : InvF s) (now : Nat) : InvG noSlack (staleAt now) s :=
  ⟨fun _ _ h => .inl (hI.reg_blocked h), hI.wakeOk, hI.slots, hI.cover, hI.keysNe, hI.alive, hI.wakeConns, hI.counts, hI.lost⟩

theorem isExpired_congr {now : Nat} {e e' : Key × Waiter} (h : e.2.deadline = e'.2.deadline) :
    isExpired now e = isExpired now e' := by
  unfold isExpired; rw [h]

theorem mem_of_mem_remove {α : Type} {a b : List α} {e x : α} (h : x ∈ a ++ e :: b) (hne : x ≠ e) : x ∈ a ++ b := by
  rcases List.mem_append.mp h with h | h
  · exact List.mem_append_left _ h
  · rcases List.mem_cons.mp h with h | h
    · exact absurd h hne
    · exact List.mem_append_right _ h

theorem Apart.shrink {p} {s t : State} (h : Apart p s) (hr : t.registry.Sublist s.registry) (hw : t.wakeQ = s.wakeQ) :
    Apart p t := fun x hx hp w hw' => h x (hr.subset hx) hp w (hw ▸ hw')

theorem InvScan_expireOne (now : Nat) (s : State) (hI : InvG noSlack (staleAt now) s) (hfree : Apart (staleAt now) s) :
    InvG noSlack (staleAt now) (expireOne now s) := by
  unfold expireOne
  split
  · exact hI
  · next e reg' hp =>
    obtain ⟨a, b, h1, h2, h3, _⟩ := popFirst_some hp
    have hemem : (e.1, e.2) ∈ s.registry := by rw [h1]; simp
    have hregsub : reg'.Sublist s.registry := by
      rw [h1, h2]; exact sublist_remove a b e
    have hkeep : ∀ x, x ∈ s.registry → x.2.conn ≠ e.2.conn → x ∈ reg' := fun x hx hxc => by
      rw [h2]; rw [h1] at hx
      exact mem_of_mem_remove hx fun heq => hxc (by rw [heq])
    -- the connection of the entry is answered nil and released, or was released earlier in this scan; either way it is
    -- unblocked afterwards, and what it has left in the registry has its deadline: expired
    have key : ∀ t : State, t.registry = reg' → t.wakeQ = s.wakeQ → t.store = s.store → t.lost = s.lost →
        (∀ c, c ≠ e.2.conn → t.conns c = s.conns c) → ((t.conns e.2.conn).blocked = none) →
        InvG noSlack (staleAt now) t := by
      intro t hr hw hs hl hconn hself
      refine hI.release e.2.conn (hr ▸ hregsub) (hw ▸ List.Sublist.refl _) (fun x hx hxc => hr ▸ hkeep x hx hxc)
        (fun w hw' _ => hw ▸ hw') (fun w hw' => hfree e hemem h3 w (hw ▸ hw')) ?_ (fun _ h => h) hconn hself
        (Counts.shrink hI.counts hs hw (hr ▸ hregsub)) hl
      intro k' w' h hwc
      rcases hI.regOk k' w' (hregsub.subset (hr ▸ h)) with ⟨b1, hb1, _, hdl1, _⟩ | ⟨_, hst⟩
      · rcases hI.regOk e.1 e.2 hemem with ⟨b0, hb0, _, hdl, _⟩ | ⟨hn, _⟩
        · rw [hwc, hb0] at hb1
          obtain rfl := Option.some.inj hb1
          show isExpired now (k', w') = true
          rw [isExpired_congr (e' := e) (by show w'.deadline = e.2.deadline; rw [hdl1, hdl])]
          exact h3
        · rw [hwc, hn] at hb1; cases hb1
      · exact hst
    unfold timeoutConn
    split
    · next hlive =>
      have h0 : e.2.conn ≠ 0 := fun h => by simp [isBlockedLive, h] at hlive
      -- the nil is written to the socket, or into the void when the peer has gone unnoticed: `out` at most changes
      obtain ⟨o, ho⟩ := emit_plain { s with registry := reg' } e.2.conn (r := .nilArr) rfl
      rw [ho]
      exact key _ (setBlocked_registry ..) (setBlocked_wakeQ ..) (setBlocked_store ..) (setBlocked_lost ..)
        (fun c hc => setBlocked_conns_ne _ _ _ _ hc) (setBlocked_blocked_self _ _ _ h0)
    · next hdead =>
      refine key _ rfl rfl rfl rfl (fun _ _ => rfl) ?_
      rcases hI.regOk e.1 e.2 hemem with ⟨b0, hb0, _⟩ | ⟨hn, _⟩
      · obtain ⟨h0, hg⟩ := hI.alive e.2.conn (by rw [hb0]; simp)
        exact absurd (isBlockedLive_of (s := { s with registry := reg' }) h0 hg hb0) hdead
      · exact hn

theorem InvScan_iter (now : Nat) : ∀ n s, InvG noSlack (staleAt now) s → Apart (staleAt now) s →
    InvG noSlack (staleAt now) (iter (expireOne now) n s) := by
  intro n
  induction n with
  | zero => intro s h _; exact h
  | succ n ih =>
    intro s h hq
    exact ih _ (InvScan_expireOne now s h hq) (hq.shrink (expireOne_sublist now s) (expireOne_wakeQ now s))

/-- Once no expired entry is left, nothing is orphaned. -/
theorem InvScan_finish {now : Nat} {s : State} (hI : InvG noSlack (staleAt now) s)
    (h0 : s.registry.countP (isExpired now) = 0) : InvF s := by
  refine ⟨?_, hI.wakeOk, hI.slots, hI.cover, hI.keysNe, hI.alive, hI.wakeConns, hI.counts, hI.lost⟩
  intro k w h
  rcases hI.regOk k w h with h' | ⟨_, hst⟩
  · exact .inl h'
  · exact absurd hst (List.countP_eq_zero.mp h0 (k, w) h)

theorem InvF_timeouts (now : Nat) (s : State) (hI : InvF s) (hfree : Apart (staleAt now) s) :
    InvF (iter (expireOne now) s.registry.length s) :=
  InvScan_finish (InvScan_iter now _ s (hI.toScan now) hfree)
    (iter_expireOne_count now s.registry.length s List.countP_le_length)

/-- Any update of a connection that leaves `blocked` and `gone` as they are (`kill` of an unblocked client, `hangupDirty`). -/
theorem InvF_setConn_life (s : State) (c : Conn) (f : ConnSt → ConnSt) (hI : InvF s)
    (hf1 : (f (s.conns c)).blocked = (s.conns c).blocked) (hf2 : (f (s.conns c)).gone = (s.conns c).gone) :
    InvF (setConn s c f) := by
  refine hI.congr' rfl rfl rfl rfl fun c' => ?_
  rw [setConn_conns]
  split
  · next h => rw [h]; exact ⟨hf1, hf2⟩
  · exact ⟨rfl, rfl⟩

/-- The connection leaves the table and every registry queue: at once when it was not blocked; when it was, the probe
    has seen its peer gone. -/
theorem InvF_reap (s : State) (c : Conn) (hI : InvF s) (hwc : ∀ w, w ∈ s.wakeQ → w.conn ≠ c) :
    InvF { (setConn s c fun cs => { cs with gone := true, blocked := none }) with
           registry := (setConn s c fun cs => { cs with gone := true, blocked := none }).registry.filter fun x => x.2.conn != c } :=
  hI.release c List.filter_sublist (List.Sublist.refl _) (fun x hx hxc => List.mem_filter.mpr ⟨hx, by simpa using hxc⟩)
    (fun _ hw _ => hw) hwc (fun k x hx hxc => by simp [List.mem_filter, hxc] at hx) (fun _ h => h)
    (fun c' hc' => by simp [setConn, hc']) (by simp [setConn])
    (Counts.shrink hI.counts rfl rfl List.filter_sublist) rfl

end Ferrous.Blk
