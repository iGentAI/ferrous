/-
  C10, part 1: where a save and a load meet the codec of C09.  The call-by-call writer (`cSnapshot`)
  concatenates to the byte-level writer (`encSnapshot`), so everything proved about `encSnapshot`
  holds for a completed save run.  A buffer in the loader's allocation trace was filled by a
  successful read, and is then no larger than the file, or it is the one buffer of the `read_string`
  that failed.
-/
import FerrousSpec.Model.RdbSave
import FerrousSpec.Proofs.RdbTotal
namespace Ferrous.RdbSave
open Ferrous Ferrous.Rdb

theorem flatten_flatMap {α : Type} {f : α → List Bytes} {g : α → Bytes} (h : ∀ x, (f x).flatten = g x) (l : List α) :
    (l.flatMap f).flatten = l.flatMap g := by
  induction l with
  | nil => rfl
  | cons x xs ih => rw [List.flatMap_cons, List.flatten_append, h, ih, List.flatMap_cons]

@[simp] theorem cLen_flatten (n : Nat) : (cLen n).flatten = encLen n := by
  unfold cLen encLen
  split
  · simp
  · split <;> simp

@[simp] theorem cString_flatten (s : Bytes) : (cString s).flatten = encString s := by
  simp [cString, encString]

@[simp] theorem cStrings_flatten (xs : List Bytes) : (cStrings xs).flatten = encStrings xs :=
  flatten_flatMap cString_flatten xs

@[simp] theorem cPair_flatten (p : Bytes × Bytes) : (cPair p).flatten = encPair p := by
  simp [cPair, encPair]

@[simp] theorem cPairs_flatten (fs : List (Bytes × Bytes)) : (cPairs fs).flatten = encPairs fs :=
  flatten_flatMap cPair_flatten fs

@[simp] theorem cZItem_flatten (p : Bytes × Nat) : (cZItem p).flatten = encZItem p := by
  simp [cZItem, encZItem]

@[simp] theorem cZItems_flatten (zs : List (Bytes × Nat)) : (cZItems zs).flatten = encZItems zs :=
  flatten_flatMap cZItem_flatten zs

@[simp] theorem cSEntry_flatten (e : SEntry) : (cSEntry e).flatten = encSEntry e := by
  simp [cSEntry, encSEntry]

@[simp] theorem cSEntries_flatten (es : List SEntry) : (cSEntries es).flatten = encSEntries es :=
  flatten_flatMap cSEntry_flatten es

@[simp] theorem cLastId_flatten (es : List SEntry) : (cLastId es).flatten = encLastId es := by
  simp [cLastId, encLastId]

@[simp] theorem cValue_flatten (v : Value) : (cValue v).flatten = encValue v := by
  cases v <;> simp [cValue, encValue]

@[simp] theorem cKV_flatten (k : Bytes) (v : Value) : (cKV k v).flatten = encKV k v := by
  simp [cKV, encKV]

@[simp] theorem cEntry_flatten (t : Nat) (e : Entry) : (cEntry t e).flatten = encEntry t e := by
  unfold cEntry encEntry
  cases e.deadline with
  | none => simp
  | some d =>
    simp only []
    split <;> simp

@[simp] theorem cEntries_flatten (t : Nat) (es : Db) : (cEntries t es).flatten = encEntries t es :=
  flatten_flatMap (cEntry_flatten t) es

@[simp] theorem cDb_flatten (t : Nat) (p : Nat × Db) : (cDb t p).flatten = encDb t p := by
  unfold cDb encDb
  split <;> simp

@[simp] theorem cDbs_flatten (t : Nat) (d : Dataset) : (cDbs t d).flatten = encDbs t d :=
  flatten_flatMap (cDb_flatten t) d

@[simp] theorem cAux_flatten (k v : Bytes) : (cAux k v).flatten = encAux k v := by
  simp [cAux, encAux]

theorem cBody_flatten (ver : Bytes) (d : Dataset) (t : Nat) : (cBody ver d t).flatten = encBody ver d t := by
  simp [cBody, encBody, header]

/-- The `write_raw` calls of a complete save concatenate to exactly `encSnapshot`. -/
theorem cSnapshot_flatten (ver : Bytes) (d : Dataset) (t : Nat) : (cSnapshot ver d t).flatten = encSnapshot ver d t := by
  simp [cSnapshot, encSnapshot, cBody_flatten]

theorem mem_traceOf {bounded : Bool} {α : Type} {r : Res α} {a : Nat} (h : a ∈ traceOf bounded r) :
    a ∈ r.allocs ∨ ∃ w v al, r = .err (.shortString w v) al ∧ a = if bounded then min w v else w := by
  cases r with
  | ok x rest al => exact .inl h
  | err e al =>
    cases e with
    | shortString w v => exact (List.mem_append.mp h).imp_right fun h => ⟨w, v, al, rfl, List.mem_singleton.mp h⟩
    | _ => exact .inl h

/-- Every buffer of the loader is at most as large as the file, except the one a failing
    `read_string` obtained from the length field without the bounded read. -/
theorem loaderAllocs_le (bounded : Bool) (fix : Fix) (bs : Bytes) (now : Nat) (a : Nat)
    (h : a ∈ loaderAllocs bounded fix bs now) :
    a ≤ bs.length ∨ bounded = false ∧ ∃ v al, decSnapshotT fix bs now = .err (.shortString a v) al := by
  rcases mem_traceOf h with h | ⟨w, v, al, hr, ha⟩
  · exact .inl (decSnapshotT_allocs_le fix bs now a h)
  · cases bounded with
    | false => exact .inr ⟨rfl, v, al, ha ▸ hr⟩
    | true =>
      exact .inl (ha ▸ Nat.le_trans (Nat.min_le_right w v) (decSnapshotT_short_avail_le fix bs now w v al hr))

end Ferrous.RdbSave
