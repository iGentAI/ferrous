/-
  The rank cursor: the scan loop, one call, and full iterations: what is examined, progress, the
  termination bound, and completeness under "no key ranked below the cursor disappears" (C19).
  Last, the key cursor (`Spec.scanAfter`): the full completeness statement is satisfiable by a stateless
  scan over a list that is rebuilt on every call, resuming strictly after the last key examined.
-/
import FerrousSpec.Proofs.ScanOrder
namespace Ferrous.Scan
open Code

variable (g : Cfg) (m : Bytes → Bool)

theorem scanLoop_spec (mx : Nat) : ∀ (l : List Bytes) (ex got : Nat),
    (scanLoop g m mx l ex got).1 = (l.take (scanLoop g m mx l ex got).2).filter m ∧
    (scanLoop g m mx l ex got).2 ≤ l.length
  | [], _, _ => ⟨rfl, Nat.le_refl _⟩
  | k :: rest, ex, got => by
    have ih := scanLoop_spec mx rest (ex + 1) (if m k then got + 1 else got)
    unfold scanLoop
    split
    · exact ⟨by rw [List.take_succ_cons, List.filter_cons, ← ih.1], Nat.succ_le_succ ih.2⟩
    · exact ⟨rfl, Nat.zero_le _⟩

/-- The loop stops early only when one of its two budgets is used up, i.e. never before
    `mx` keys have been examined (the number of matches never exceeds the number examined). -/
theorem scanLoop_budget (hf : 1 ≤ g.factor) (mx : Nat) : ∀ (l : List Bytes) (ex got : Nat), got ≤ ex →
    (scanLoop g m mx l ex got).2 = l.length ∨ mx ≤ ex + (scanLoop g m mx l ex got).2
  | [], _, _, _ => Or.inl rfl
  | k :: rest, ex, got, hge => by
    have ih := scanLoop_budget hf mx rest (ex + 1) (if m k then got + 1 else got) (by split <;> omega)
    unfold scanLoop
    split
    · simp only [List.length_cons]
      omega
    · rename_i hcond
      have : mx ≤ mx * g.factor := Nat.le_mul_of_pos_right mx hf
      exact Or.inr (by omega)

theorem scanLoop_length (mx : Nat) : ∀ (l : List Bytes) (ex got : Nat),
    got + (scanLoop g m mx l ex got).1.length ≤ max got mx
  | [], _, _ => Nat.le_max_left _ _
  | k :: rest, ex, got => by
    have ih := scanLoop_length mx rest (ex + 1) (if m k then got + 1 else got)
    unfold scanLoop
    split
    · cases hm : m k <;> simp only [hm, if_true, Bool.false_eq_true, if_false, List.length_cons] at ih ⊢ <;> omega
    · exact Nat.le_max_left _ _

theorem normCount_pos (hg : g.ok) (count : Nat) : 1 ≤ normCount g count := by
  unfold normCount
  obtain ⟨h1, h2, _⟩ := hg
  split <;> omega

/-- Everything the theorems need to know about one call: `n` keys starting at the cursor are
    examined and the matching ones returned; either that reaches the end of the list and the
    next cursor is 0, or the next cursor is the first unexamined index and at least
    `max_count ≥ 1` keys were examined. -/
theorem scanSorted_spec (hg : g.ok) (ks : List Bytes) (c count : Nat) :
    ∃ n, (scanSorted g m ks c count).2 = ((ks.drop c).take n).filter m ∧
      ((ks.length ≤ c + n ∧ (scanSorted g m ks c count).1 = 0) ∨
       (c + n < ks.length ∧ (scanSorted g m ks c count).1 = c + n ∧ 1 ≤ n ∧ normCount g count ≤ n)) := by
  unfold scanSorted
  split
  · rename_i h
    exact ⟨0, rfl, Or.inl ⟨h.1, rfl⟩⟩
  · have hs := scanLoop_spec g m (normCount g count) (ks.drop c) 0 0
    have hb := scanLoop_budget g m hg.2.2 (normCount g count) (ks.drop c) 0 0 (Nat.le_refl 0)
    have hpos := normCount_pos g hg count
    rw [List.length_drop] at hs hb
    refine ⟨_, hs.1, ?_⟩
    by_cases hend : ks.length ≤ c + (scanLoop g m (normCount g count) (ks.drop c) 0 0).2
    · exact Or.inl ⟨hend, if_pos hend⟩
    · exact Or.inr ⟨by omega, if_neg hend, by omega, by omega⟩

theorem scanSorted_mem (hg : g.ok) (ks : List Bytes) (c count : Nat) (k : Bytes)
    (hk : k ∈ (scanSorted g m ks c count).2) : k ∈ ks ∧ m k = true := by
  obtain ⟨n, h1, _⟩ := scanSorted_spec g m hg ks c count
  have := List.mem_filter.mp (h1 ▸ hk)
  exact ⟨List.mem_of_mem_drop (List.mem_of_mem_take this.1), this.2⟩

theorem scanSorted_length (ks : List Bytes) (c count : Nat) :
    (scanSorted g m ks c count).2.length ≤ normCount g count := by
  unfold scanSorted
  split
  · exact Nat.zero_le _
  · have := scanLoop_length g m (normCount g count) (ks.drop c) 0 0
    rwa [Nat.zero_add, Nat.max_eq_right (Nat.zero_le _)] at this

theorem scanSorted_progress (hg : g.ok) (ks : List Bytes) (c count : Nat) :
    (scanSorted g m ks c count).1 = 0 ∨
      (c < (scanSorted g m ks c count).1 ∧ (scanSorted g m ks c count).1 < ks.length) := by
  obtain ⟨n, _, ⟨_, h0⟩ | ⟨hlt, hc, hn, _⟩⟩ := scanSorted_spec g m hg ks c count
  · exact Or.inl h0
  · exact Or.inr (by omega)

/-- With room for the whole list and a filter that accepts everything, one call from cursor 0
    returns the whole list (the situation of the HSCAN/SSCAN/ZSCAN fast path). -/
theorem scanSorted_all (hg : g.ok) (ks : List Bytes) (count : Nat) (hlen : ks.length ≤ normCount g count) :
    scanSorted g (fun _ => true) ks 0 count = (0, ks) := by
  obtain ⟨n, hb, ⟨hend, h0⟩ | ⟨hlt, _, _, hmx⟩⟩ := scanSorted_spec g (fun _ => true) hg ks 0 count
  · refine Prod.ext h0 ?_
    rw [hb, List.drop_zero, List.take_of_length_le (by omega), List.filter_eq_self.mpr fun _ _ => rfl]
  · omega

/-- Sizes do not grow from one call to the next. -/
def NonGrowing (hist : List (List Bytes)) : Prop := hist.Pairwise (fun a b => b.length ≤ a.length)

theorem nonGrowing_replicate (n : Nat) (ks : List Bytes) : NonGrowing (ks :: List.replicate n ks) :=
  (List.pairwise_replicate (n := n + 1)).mpr (Or.inr (Nat.le_refl _))

/-- The arithmetic of the termination bounds: with `a` elements to go, a call that leaves `a'`
    after examining at least `mx` brings the bound `a / mx + 1` down by one. -/
theorem calls_le {mx a a' len : Nat} (hmx : 1 ≤ mx) (hstep : a' + mx ≤ a) (hlen : a / mx + 1 ≤ len + 1) :
    a' / mx + 1 ≤ len ∧ a' / mx + 1 + 1 ≤ a / mx + 1 := by
  have h1 : (a' + mx) / mx = a' / mx + 1 := Nat.add_div_right a' hmx
  have h2 : (a' + mx) / mx ≤ a / mx := Nat.div_le_div_right hstep
  omega

theorem iterCalls_bound (hg : g.ok) (count : Nat) : ∀ (rest : List (List Bytes)) (ks : List Bytes) (c : Nat),
    NonGrowing (ks :: rest) → (ks.length - c) / normCount g count + 1 ≤ rest.length + 1 →
    ∃ n, iterCalls g m count c (ks :: rest) = some n ∧ 1 ≤ n ∧ n ≤ (ks.length - c) / normCount g count + 1
  | rest, ks, c, hng, hlen => by
    have hpos := normCount_pos g hg count
    rw [iterCalls]
    obtain ⟨n, _, ⟨_, h0⟩ | ⟨hlt, hc, _, hmx⟩⟩ := scanSorted_spec g m hg ks c count
    · exact ⟨1, if_pos h0, Nat.le_refl 1, Nat.le_add_left 1 _⟩
    · rw [if_neg (by omega), hc]
      cases rest with
      | nil => exact absurd (calls_le (a' := 0) hpos (by omega) hlen).1 (Nat.not_succ_le_zero _)
      | cons ks1 rest1 =>
        have hng' := List.pairwise_cons.mp hng
        have hle : ks1.length ≤ ks.length := hng'.1 ks1 (List.mem_cons_self ..)
        have hb := calls_le (a' := ks1.length - (c + n)) hpos (by omega) hlen
        obtain ⟨n', hn', _, hn'2⟩ := iterCalls_bound hg count rest1 ks1 (c + n) hng'.2 hb.1
        exact ⟨n' + 1, by rw [hn']; rfl, Nat.le_add_left 1 _, Nat.le_trans (Nat.succ_le_succ hn'2) hb.2⟩

/-- **Completeness of the rank cursor, exactly as far as it goes.**  `k` is at or after rank `c` in
    the first list, it is in every list of the history, every list is strictly sorted, and between
    two successive calls no key that ranks below the handed-out cursor disappears: then `k` is
    returned by one of the calls of the iteration (if it passes the filter). -/
theorem iter_complete (hg : g.ok) (count : Nat) (k : Bytes) (hm : m k = true) :
    ∀ (hist : List (List Bytes)) (c : Nat),
      (∀ ks ∈ hist, Sorted ks) → (∀ ks ∈ hist, k ∈ ks) →
      iterFinishes g m count c hist = true → noDelBelow g m count c hist = true →
      (∀ ks ∈ hist.head?, k ∈ ks.drop c) →
      k ∈ (iter g m count c hist).flatten
  | [], _, _, _, hfin, _, _ => nomatch hfin
  | ks :: rest, c, hsorted, hmem, hfin, hsafe, hpos => by
    obtain ⟨n, hbatch, hnext⟩ := scanSorted_spec g m hg ks c count
    have hkc := hpos ks rfl
    rw [← List.take_append_drop n (ks.drop c), List.mem_append, List.drop_drop] at hkc
    rw [iter, List.flatten_cons, List.mem_append, hbatch]
    rcases hkc with hin | hout
    · exact Or.inl (List.mem_filter.mpr ⟨hin, hm⟩)
    · rcases hnext with ⟨hend, _⟩ | ⟨hlt, hc, hn, _⟩
      · rw [List.drop_eq_nil_of_le hend] at hout
        cases hout
      · have hne : (scanSorted g m ks c count).1 ≠ 0 := by omega
        rw [iterFinishes, if_neg hne, hc] at hfin
        rw [if_neg hne, hc]
        cases rest with
        | nil => cases hfin
        | cons ks' rest' =>
          rw [noDelBelow, if_neg hne, hc, Bool.and_eq_true, List.all_eq_true] at hsafe
          have hk' := rank_step (hsorted ks (by simp)) (hsorted ks' (by simp)) hout
            (fun x hx => List.contains_iff_mem.mp (hsafe.1 x hx)) (hmem ks' (by simp))
          exact Or.inr (iter_complete hg count k hm (ks' :: rest') (c + n)
            (fun l hl => hsorted l (by simp [hl])) (fun l hl => hmem l (by simp [hl]))
            hfin hsafe.2 (fun l hl => Option.some.inj hl ▸ hk'))

theorem noDelBelow_of_onlyAdditions (count : Nat) : ∀ (hist : List (List Bytes)) (c : Nat),
    onlyAdditions hist = true → noDelBelow g m count c hist = true
  | [], _, _ => rfl
  | [_], _, _ => rfl
  | ks :: ks' :: rest, c, h => by
    rw [onlyAdditions, Bool.and_eq_true, List.all_eq_true] at h
    rw [noDelBelow]
    split
    · rfl
    · rw [Bool.and_eq_true, List.all_eq_true]
      exact ⟨fun x hx => h.1 x (List.mem_of_mem_take hx), noDelBelow_of_onlyAdditions count (ks' :: rest) _ h.2⟩

theorem mem_typed (ty : Option Bytes) (db : Db) (k : Bytes) :
    k ∈ (db.filter fun kv => typeOk ty kv.2).map (·.1) ↔ ∃ t, (k, t) ∈ db ∧ typeOk ty t = true := by
  simp only [List.mem_map, List.mem_filter]
  exact ⟨fun ⟨⟨_, t⟩, h, rfl⟩ => ⟨t, h⟩, fun ⟨t, h⟩ => ⟨(k, t), h, rfl⟩⟩

theorem mem_view (ty : Option Bytes) (db : Db) (k : Bytes) :
    k ∈ view ty db ↔ ∃ t, (k, t) ∈ db ∧ typeOk ty t = true :=
  (sortKeys_perm _).mem_iff.trans (mem_typed ty db k)

theorem sorted_view (ty : Option Bytes) (db : Db) (hnd : (db.map (·.1)).Nodup) : Sorted (view ty db) :=
  sorted_sortKeys _ (hnd.sublist (List.filter_sublist.map _))

theorem matchOpt_none (lossy : Bool) : matchOpt lossy none = fun _ => true := rfl

/-- The fast path returns what the cursor walk over the sorted members returns (the real code
    returns it in hash-table order). -/
theorem sscan_eq_scanSorted (hg : g.ok) (hr : g.slotCursor = false) (members : List Bytes) (c count : Nat) (pat : Option Bytes) :
    sscan g members c count pat = scanSorted g (matchOpt g.lossy pat) (sortKeys members) c count := by
  unfold sscan
  rw [hr, if_neg Bool.false_ne_true]
  split
  · rename_i h
    obtain ⟨hlen, rfl, rfl⟩ := h
    rw [matchOpt_none, scanSorted_all g hg _ count (by rwa [(sortKeys_perm members).length_eq])]
  · rfl

end Ferrous.Scan

namespace Ferrous.Scan
open Spec

/-- Whatever is added or deleted between calls, a key that is in every list of the history and
    lies strictly after the cursor is returned by the key-cursor iteration. -/
theorem iterAfter_complete (m : Bytes → Bool) (count : Nat) (k : Bytes) (hm : m k = true) :
    ∀ (hist : List (List Bytes)) (cur : Option Bytes),
      (∀ ks ∈ hist, Sorted ks) → (∀ ks ∈ hist, k ∈ ks) →
      iterAfterFinishes m count cur hist = true →
      (∀ c, cur = some c → bytesLt c k = true) →
      k ∈ (iterAfter m count cur hist).flatten
  | [], _, _, _, hfin, _ => nomatch hfin
  | ks :: rest, cur, hsorted, hmem, hfin, hcur => by
    have hs := hsorted ks (List.mem_cons_self ..)
    have hk := hmem ks (List.mem_cons_self ..)
    -- the candidates of this call: sorted, and `k` is one of them
    obtain ⟨cand, hcs, hkc, hcall⟩ : ∃ cand, Sorted cand ∧ k ∈ cand ∧ scanAfter m ks cur count =
        (if cand.length ≤ max count 1 then none else (cand.take (max count 1)).getLast?,
          (cand.take (max count 1)).filter m) := by
      cases cur with
      | none => exact ⟨ks, hs, hk, rfl⟩
      | some c => exact ⟨_, hs.filter _, List.mem_filter.mpr ⟨hk, hcur c rfl⟩, rfl⟩
    rw [iterAfterFinishes, hcall] at hfin
    rw [iterAfter, hcall, List.flatten_cons, List.mem_append]
    rw [← List.take_append_drop (max count 1) cand, List.mem_append] at hkc
    rcases hkc with hin | hout
    · exact Or.inl (List.mem_filter.mpr ⟨hin, hm⟩)
    · have hlen : ¬ cand.length ≤ max count 1 := fun hle => by
        rw [List.drop_eq_nil_of_le hle] at hout
        cases hout
      simp only [if_neg hlen] at hfin ⊢
      -- the page is not empty; its last key is the next cursor, and `k` lies after it
      cases hl : (cand.take (max count 1)).getLast? with
      | none =>
        have := congrArg List.length (List.getLast?_eq_none_iff.mp hl)
        rw [List.length_take] at this
        exact absurd this (by simp only [List.length_nil]; omega)
      | some c' =>
        rw [hl] at hfin
        exact Or.inr (iterAfter_complete m count k hm rest (some c')
          (fun l hl => hsorted l (List.mem_cons_of_mem _ hl)) (fun l hl => hmem l (List.mem_cons_of_mem _ hl)) hfin
          fun c hc => Option.some.inj hc ▸ hcs.rel_of_mem_take_of_mem_drop (List.mem_of_getLast? hl) hout)

end Ferrous.Scan
