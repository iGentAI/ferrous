/-
  C15: the ID text parser (`parse_u64_fast` wraps, the prescribed reader does not) and the real halving search
  against the search contract used by the model.
-/
import FerrousSpec.Proofs.StreamRange
namespace Ferrous.Stream
open Code

def valFold (acc : Nat) (bs : Bytes) : Nat := bs.foldl (fun a d => a * 10 + (d - 48)) acc

theorem decVal_eq (bs : Bytes) : decVal bs = valFold 0 bs := rfl

/-- the loop body of `parse_u64_fast` -/
def pstep (checked : Bool) (acc : Option Nat) (b : Nat) : Option Nat :=
  match acc with
  | none => none
  | some r =>
    if b < 48 || b > 57 then none
    else if checked && decide (r * 10 + (b - 48) ≥ u64Mod) then none
    else some ((r * 10 + (b - 48)) % u64Mod)

theorem parseU64Fast_def (checked : Bool) (bs : Bytes) :
    parseU64Fast checked bs = if checked && bs.isEmpty then none else bs.foldl (pstep checked) (some 0) := rfl

theorem foldl_pstep_none (c : Bool) (bs : Bytes) : bs.foldl (pstep c) none = none := by
  induction bs with
  | nil => rfl
  | cons b r ih => rw [List.foldl_cons]; exact ih

theorem valFold_cons (acc b : Nat) (r : Bytes) : valFold acc (b :: r) = valFold (acc * 10 + (b - 48)) r := by
  unfold valFold; rw [List.foldl_cons]

theorem le_valFold (acc : Nat) (bs : Bytes) : acc ≤ valFold acc bs := by
  induction bs generalizing acc with
  | nil => exact Nat.le_refl _
  | cons b r ih => exact Nat.le_trans (by omega) (ih (acc * 10 + (b - 48)))

/-- The loop of `parse_u64_fast` from an accumulator already reduced modulo 2^64: the value modulo 2^64 on a digit
    string, and in the checked variant only if the exact value stays below 2^64 (it only grows, so it is enough to
    look at the end). -/
theorem foldl_pstep (c : Bool) (acc : Nat) (hacc : c = true → acc < u64Mod) (bs : Bytes) :
    bs.foldl (pstep c) (some (acc % u64Mod)) =
      if bs.all isDigit = true ∧ (c = true → valFold acc bs < u64Mod) then some (valFold acc bs % u64Mod) else none := by
  induction bs generalizing acc with
  | nil => simp only [List.foldl_nil, List.all_nil, valFold, true_and]; rw [if_pos hacc]
  | cons b r ih =>
    rw [List.foldl_cons, List.all_cons, valFold_cons]
    have hmod : (acc % u64Mod * 10 + (b - 48)) % u64Mod = (acc * 10 + (b - 48)) % u64Mod := by
      rw [← Nat.mod_add_mod (acc % u64Mod * 10), Nat.mod_mul_mod, Nat.mod_add_mod]
    by_cases hd : isDigit b = true
    · have hnd : (decide (b < 48) || decide (b > 57)) = false := by
        simp only [isDigit, Bool.and_eq_true, decide_eq_true_eq] at hd
        simp only [Bool.or_eq_false_iff, decide_eq_false_iff_not]; omega
      by_cases hov : c = true ∧ acc * 10 + (b - 48) ≥ u64Mod
      · have hstep : pstep c (some (acc % u64Mod)) b = none := by
          simp only [pstep, hnd, Bool.false_eq_true, if_false, hov.1, Bool.true_and, decide_eq_true_eq]
          rw [Nat.mod_eq_of_lt (hacc hov.1), if_pos hov.2]
        have hge := le_valFold (acc * 10 + (b - 48)) r
        rw [hstep, foldl_pstep_none, if_neg fun h => by have := h.2 hov.1; omega]
      · have hstep : pstep c (some (acc % u64Mod)) b = some ((acc * 10 + (b - 48)) % u64Mod) := by
          simp only [pstep, hnd, Bool.false_eq_true, if_false, hmod]
          cases c with
          | false => rfl
          | true =>
            simp only [Bool.true_and, decide_eq_true_eq]
            rw [Nat.mod_eq_of_lt (hacc rfl), if_neg fun h => hov ⟨rfl, h⟩]
        rw [hstep, ih _ fun hc => Nat.lt_of_not_le fun hge => hov ⟨hc, hge⟩]
        simp only [hd, Bool.true_and]
    · have hnd : (decide (b < 48) || decide (b > 57)) = true := by
        simp only [isDigit, Bool.and_eq_true, decide_eq_true_eq] at hd
        simp only [Bool.or_eq_true, decide_eq_true_eq]; omega
      have hstep : pstep c (some (acc % u64Mod)) b = none := by simp only [pstep, hnd, if_true]
      rw [hstep, foldl_pstep_none, if_neg fun h => hd (Bool.and_eq_true _ _ ▸ h.1).1]

theorem parseU64Fast_eq (c : Bool) (bs : Bytes) :
    parseU64Fast c bs =
      if c = true ∧ bs = [] then none
      else if bs.all isDigit = true ∧ (c = true → decVal bs < u64Mod) then some (decVal bs % u64Mod) else none := by
  have h := foldl_pstep c 0 (fun _ => by decide) bs
  rw [Nat.zero_mod] at h
  rw [parseU64Fast_def, h, decVal_eq]
  simp only [Bool.and_eq_true, List.isEmpty_iff]

theorem spec_parseU64_eq (bs : Bytes) :
    Spec.parseU64 bs =
      if bs = [] then none else if bs.all isDigit = true ∧ decVal bs < u64Mod then some (decVal bs) else none := by
  unfold Spec.parseU64 digitsVal
  cases bs with
  | nil => rfl
  | cons b r =>
    simp only [List.isEmpty_cons, Bool.false_eq_true, if_false, reduceCtorEq]
    by_cases h1 : (b :: r).all isDigit = true
    · simp only [h1, if_true, true_and]
    · simp only [h1, Bool.false_eq_true, if_false, false_and]

theorem parseU64Fast_true (bs : Bytes) : parseU64Fast true bs = Spec.parseU64 bs := by
  rw [parseU64Fast_eq, spec_parseU64_eq]
  simp only [true_and, forall_const]
  by_cases h : bs.all isDigit = true ∧ decVal bs < u64Mod
  · rw [if_pos h, if_pos h, Nat.mod_eq_of_lt h.2]
  · rw [if_neg h, if_neg h]

/-- a component on which `parse_u64_fast` is right: not a digit string at all, or a non-empty one below 2^64 -/
def compOk (bs : Bytes) : Bool := !(bs.all isDigit) || (!bs.isEmpty && decide (decVal bs < u64Mod))

theorem parseU64Fast_false_ok (bs : Bytes) (h : compOk bs = true) :
    parseU64Fast false bs = Spec.parseU64 bs := by
  rw [parseU64Fast_eq, spec_parseU64_eq]
  simp only [Bool.false_eq_true, false_and, if_false, false_implies, and_true]
  simp only [compOk, Bool.or_eq_true, Bool.not_eq_true', Bool.and_eq_true, decide_eq_true_eq,
    List.isEmpty_eq_false_iff] at h
  rcases h with h | ⟨h1, h2⟩
  · have hne : bs ≠ [] := fun he => by rw [he] at h; cases h
    rw [if_neg hne, h]; rfl
  · rw [if_neg h1, Nat.mod_eq_of_lt h2]
    simp only [h2, and_true]

/-- The loop of `binary_search_by`, for any index `a` such that the entries after it are above `t` and those from
    index 1 up to it are not (index 0 is never probed): `a` stays inside the window `[base, base + size)` while
    the window halves, so the loop ends on it. Sortedness enters only through the two hypotheses. -/
theorem bsLoop_eq {es : List Entry} {t : Id} {a : Nat}
    (hgt : ∀ i x, es[i]? = some x → a < i → t < x.1)
    (hle : ∀ i x, es[i]? = some x → 0 < i → i ≤ a → x.1 ≤ t) :
    ∀ (f base size : Nat), size ≤ f ∧ 0 < size ∧ base + size ≤ es.length ∧ base ≤ a ∧ a < base + size →
      bsLoop es t f base size = a := by
  intro f
  induction f with
  | zero => intro base size h; omega
  | succ f ih =>
    intro base size hw
    unfold bsLoop
    by_cases h1 : size ≤ 1
    · rw [if_pos h1]; omega
    · have hpos : 0 < size / 2 := Nat.div_pos (Nat.lt_of_not_le h1) Nat.two_pos
      have hhalf : size / 2 + size / 2 ≤ size := Nat.mul_two _ ▸ Nat.div_mul_le_self size 2
      generalize size / 2 = half at hpos hhalf ⊢
      obtain ⟨x, hx⟩ := exists_getElem? (show base + half < es.length by omega)
      simp only [if_neg h1, hx]
      by_cases hm : t < x.1
      · have : ¬ base + half ≤ a := fun h => Std.not_le.2 hm (hle _ x hx (by omega) h)
        rw [if_pos hm]
        exact ih _ _ (by omega)
      · have : ¬ a < base + half := fun h => hm (hgt _ x hx h)
        rw [if_neg hm]
        exact ih _ _ (by omega)

/-- `core::slice::binary_search_by` (halving loop) returns what the model's `bsearch` returns, on every sorted list -/
theorem bsearchLoop_eq {es : List Entry} (h : Sorted es) (t : Id) : bsearchLoop es t = bsearch es t := by
  unfold bsearchLoop
  by_cases hlen : es.length = 0
  · rw [List.length_eq_zero_iff.1 hlen]; rfl
  · have h1 := lowerBound_le_upperBound h t
    have h2 := upperBound_le_succ_lowerBound h t
    have h3 := upperBound_le_length es t
    -- the loop ends on the last entry `≤ t` (on index 0 if there is none)
    have hloop : bsLoop es t es.length 0 es.length = upperBound es t - 1 :=
      bsLoop_eq (fun i x hx hi => Std.not_le.1 fun hh => by have := (lt_upperBound_iff h hx).2 hh; omega)
        (fun i x hx _ hi => (lt_upperBound_iff h hx).1 (by omega)) es.length 0 es.length (by omega)
    obtain ⟨x, hx⟩ := exists_getElem? (show upperBound es t - 1 < es.length by omega)
    simp only [if_neg hlen, hloop, hx, bsearch_eq h]
    have hle := lt_upperBound_iff h (t := t) hx
    have hlt := lt_lowerBound_iff h (t := t) hx
    by_cases hf : lowerBound es t < upperBound es t
    · -- `Ok`: that entry sits at the insertion point and carries `t`
      have hb : upperBound es t - 1 = lowerBound es t := by omega
      rw [hb] at hle hlt ⊢
      have heq : x.1 = t := Std.le_antisymm (hle.1 hf) (Std.not_lt.1 fun hh => Nat.lt_irrefl _ (hlt.2 hh))
      rw [if_pos heq, decide_eq_true hf]
    · -- `Err`: all entries `≤ t` are `< t`
      have hb : upperBound es t = lowerBound es t := by omega
      rw [hb] at hle hlt ⊢
      have hne : x.1 ≠ t := fun heq => Std.lt_irrefl (heq ▸ (hlt.1 (hle.2 (Std.le_of_eq heq))))
      rw [if_neg hne, decide_eq_false (Nat.lt_irrefl _)]
      by_cases hlt' : x.1 < t
      · have := hlt.2 hlt'
        rw [if_pos hlt', Nat.sub_add_cancel (by omega)]
      · have : ¬ lowerBound es t - 1 < lowerBound es t := fun hh => hlt' (Std.lt_of_le_of_ne (hle.1 hh) hne)
        rw [if_neg hlt', show lowerBound es t = 0 by omega]

end Ferrous.Stream
