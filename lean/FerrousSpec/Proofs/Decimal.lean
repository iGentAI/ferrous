import FerrousSpec.Model.Bytes
namespace Ferrous

theorem decVal_append_single (xs : Bytes) (d : Nat) : decVal (xs ++ [d]) = decVal xs * 10 + (d - 48) := by
  simp [decVal, List.foldl_append]

theorem natDigitsF_spec : ∀ (f n : Nat), n ≤ f →
    (natDigitsF f n).all isDigit = true ∧ decVal (natDigitsF f n) = n ∧ natDigitsF f n ≠ []
  | 0, n, h => by cases Nat.le_zero.1 h; decide
  | f + 1, n, h => by
    unfold natDigitsF
    split
    · exact ⟨by simp [isDigit]; omega, by simp [decVal], by simp⟩
    · obtain ⟨h1, h2, _⟩ := natDigitsF_spec f (n / 10) (by omega)
      exact ⟨by rw [List.all_append, h1]; simp [isDigit]; omega, by rw [decVal_append_single, h2]; omega, by simp⟩

theorem natDigits_all (n : Nat) : (natDigits n).all isDigit = true := (natDigitsF_spec n n (Nat.le_refl _)).1
theorem natDigits_val (n : Nat) : decVal (natDigits n) = n := (natDigitsF_spec n n (Nat.le_refl _)).2.1

theorem natDigits_head (n : Nat) : ∃ h t, natDigits n = h :: t ∧ 48 ≤ h ∧ h ≤ 57 := by
  have hall := natDigits_all n
  cases hd : natDigits n with
  | nil => exact absurd hd (natDigitsF_spec n n (Nat.le_refl _)).2.2
  | cons a t =>
    rw [hd] at hall
    simp [isDigit] at hall
    exact ⟨a, t, rfl, hall.1.1, hall.1.2⟩

theorem digitsVal_natDigits (n : Nat) : digitsVal (natDigits n) = some n := by
  obtain ⟨a, t, hd, _⟩ := natDigits_head n
  simp [digitsVal, natDigits_all, natDigits_val, hd ▸ List.cons_ne_nil a t]

theorem parseU64_natDigits (n : Nat) (h : n ≤ 18446744073709551615) : parseU64 (natDigits n) = some n := by
  obtain ⟨a, t, hd, h1, h2⟩ := natDigits_head n
  have hv := digitsVal_natDigits n
  rw [hd] at hv ⊢
  have ha : a ≠ 43 := by omega
  simp [parseU64, ha, hv, h]

theorem parseI64_natDigits (n : Nat) (h : n ≤ 9223372036854775807) : parseI64 (natDigits n) = some (n : Int) := by
  obtain ⟨a, t, hd, h1, h2⟩ := natDigits_head n
  have hv := digitsVal_natDigits n
  rw [hd] at hv ⊢
  have ha : a ≠ 43 := by omega
  have hb : a ≠ 45 := by omega
  simp [parseI64, ha, hb, hv, h]

theorem parseI64_intDigits (i : Int) (h1 : -9223372036854775808 ≤ i) (h2 : i ≤ 9223372036854775807) :
    parseI64 (intDigits i) = some i := by
  unfold intDigits
  split
  · rename_i hneg
    have hv := digitsVal_natDigits i.natAbs
    have hle : i.natAbs ≤ 9223372036854775808 := by omega
    simp [parseI64, hv, hle]
    omega
  · rename_i hpos
    have hle : i.natAbs ≤ 9223372036854775807 := by omega
    rw [parseI64_natDigits _ hle]
    congr 1
    omega

end Ferrous
