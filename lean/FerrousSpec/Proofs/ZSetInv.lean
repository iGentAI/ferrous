/-
  The skip-list invariant and its preservation by `insert` / `remove` for every tower height.
  On a list that satisfies it, `remove` leaves `unlinked` (the member's node filtered out of every level)
  and `insert` is `remove` followed by `spliced` (sorted insertion into the lowest levels); the code's
  comparator `ccmpLt` agrees with the strict total order `centLt` on every comparison these walks make.
-/
import FerrousSpec.Proofs.ZSetOrder
namespace Ferrous.ZSet
open Ferrous Code

abbrev CSorted (l : List CEntry) : Prop := l.Pairwise (fun a b => centLt a b = true)

/-- Every level is a sublist of the level below it. -/
def SubChain : List (List CEntry) → Prop
  | [] => True
  | l :: ls => (∀ u, ls.head? = some u → u.Sublist l) ∧ SubChain ls

/-- The structural invariant of the skip list (for states without NaN). -/
structure Inv (sl : SkipList) : Prop where
  nonempty : sl.levels ≠ []
  sorted : ∀ l ∈ sl.levels, CSorted l
  chain : SubChain sl.levels
  noNaN : ∀ e ∈ level0 sl, e.1 ≠ .nan
  idxSorted : sl.keyIndex.Pairwise (fun a b => keyLt a b = true)
  idxMap : ∀ m s, (m, s) ∈ sl.keyIndex ↔ (s, m) ∈ level0 sl
  len : sl.length = (level0 sl).length

theorem idx_functional {idx : List (Bytes × CScore)} (h : idx.Pairwise (fun a b => keyLt a b = true))
    {m : Bytes} {a b : CScore} (ha : (m, a) ∈ idx) (hb : (m, b) ∈ idx) : a = b :=
  (Prod.mk.inj (eq_of_pairwise_key (key := Prod.fst) h
    (fun x y hxy e => by simp [keyLt, e, bytesLt_irrefl] at hxy) ha hb rfl)).2

theorem idxGet_some_mem {idx : List (Bytes × CScore)} {m : Bytes} {s : CScore}
    (h : idxGet m idx = some s) : (m, s) ∈ idx := by
  obtain ⟨p, hp, rfl, rfl⟩ := lookup_eq_some h
  exact hp

theorem idxGet_eq_none {idx : List (Bytes × CScore)} {m : Bytes} :
    idxGet m idx = none ↔ ∀ s, (m, s) ∉ idx :=
  lookup_eq_none.trans ⟨fun h s hm => h _ hm rfl, fun h p hp e => h p.2 (by rw [← e]; exact hp)⟩

theorem idxGet_eq_some {idx : List (Bytes × CScore)} (hs : idx.Pairwise (fun a b => keyLt a b = true))
    {m : Bytes} {s : CScore} : idxGet m idx = some s ↔ (m, s) ∈ idx := by
  refine ⟨idxGet_some_mem, fun hmem => ?_⟩
  cases hg : idxGet m idx with
  | none => exact absurd hmem (idxGet_eq_none.mp hg s)
  | some s' => rw [idx_functional hs (idxGet_some_mem hg) hmem]

theorem mem_idxDel {idx : List (Bytes × CScore)} {m : Bytes} {p : Bytes × CScore} :
    p ∈ idxDel m idx ↔ p ∈ idx ∧ p.1 ≠ m := by
  simp [idxDel]

theorem mem_idxSet {idx : List (Bytes × CScore)} {m : Bytes} {s : CScore} {p : Bytes × CScore} :
    p ∈ idxSet m s idx ↔ p = (m, s) ∨ (p ∈ idx ∧ p.1 ≠ m) := by
  simp [idxSet, mem_insSorted, mem_idxDel]

theorem sorted_idxDel {idx : List (Bytes × CScore)} (h : idx.Pairwise (fun a b => keyLt a b = true))
    (m : Bytes) : (idxDel m idx).Pairwise (fun a b => keyLt a b = true) :=
  h.filter _

theorem sorted_idxSet {idx : List (Bytes × CScore)} (h : idx.Pairwise (fun a b => keyLt a b = true))
    (m : Bytes) (s : CScore) : (idxSet m s idx).Pairwise (fun a b => keyLt a b = true) := by
  unfold idxSet
  apply pairwise_insSorted
  · intro a b c h1 h2
    exact bytesLt_trans h1 h2
  · exact sorted_idxDel h m
  · intro y hy hlt
    have hne : y.1 ≠ m := (mem_idxDel.mp hy).2
    simp only [keyLt] at hlt ⊢
    cases h2 : bytesLt m y.1
    · exact absurd (bytesLt_total hlt h2) hne
    · rfl

theorem idxSet_idxDel (m : Bytes) (s : CScore) (idx : List (Bytes × CScore)) :
    idxSet m s (idxDel m idx) = idxSet m s idx := by
  simp [idxSet, idxDel, List.filter_filter]

theorem subchain_subset : ∀ {l : List CEntry} {ls : List (List CEntry)},
    SubChain (l :: ls) → ∀ u ∈ ls, ∀ y ∈ u, y ∈ l
  | _, [], _, u, hu => by simp at hu
  | l, v :: rest, hc, u, hu => by
    have hvl : v.Sublist l := hc.1 v rfl
    intro y hy
    rcases List.mem_cons.mp hu with rfl | hu
    · exact hvl.subset hy
    · exact hvl.subset (subchain_subset hc.2 u hu y hy)

theorem levels_subset_level0 {sl : SkipList} (hc : SubChain sl.levels) :
    ∀ l ∈ sl.levels, ∀ y ∈ l, y ∈ level0 sl := by
  unfold level0
  cases hl : sl.levels with
  | nil => simp
  | cons l0 ls =>
    rw [hl] at hc
    intro l hmem y hy
    rcases List.mem_cons.mp hmem with rfl | hmem
    · simpa using hy
    · simpa using subchain_subset hc l hmem y hy

theorem csorted_insSorted {x : CEntry} {l : List CEntry} (hl : CSorted l) (hx : x ∉ l) :
    CSorted (insSorted centLt x l) := by
  apply pairwise_insSorted centLt_strictTotal.trans hl
  intro y hy hlt
  cases h2 : centLt x y
  · have := centLt_strictTotal.total _ _ hlt h2
    exact absurd (this ▸ hy) hx
  · rfl

theorem head?_insLevels_succ (lt : CEntry → CEntry → Bool) (x : CEntry) (n : Nat) (ls : List (List CEntry)) :
    (insLevels lt x (n + 1) ls).head? = some (insSorted lt x (ls.headD [])) := by
  cases ls <;> rfl

/-- One level: `x` goes into `l`, below levels `ls` that have already taken it (`n` of them) or not. -/
theorem insLevels_ok_cons {x : CEntry} {l : List CEntry} {ls : List (List CEntry)} (n : Nat)
    (hl : CSorted l) (hxl : x ∉ l) (hsub : ∀ u, ls.head? = some u → u.Sublist l)
    (ih : (∀ l' ∈ insLevels centLt x n ls, CSorted l') ∧ SubChain (insLevels centLt x n ls)) :
    (∀ l' ∈ insSorted centLt x l :: insLevels centLt x n ls, CSorted l') ∧
      SubChain (insSorted centLt x l :: insLevels centLt x n ls) := by
  refine ⟨?_, ?_, ih.2⟩
  · intro l' hl'
    rcases List.mem_cons.mp hl' with rfl | hl'
    · exact csorted_insSorted hl hxl
    · exact ih.1 l' hl'
  · intro u hu
    cases n with
    | zero => exact (hsub u hu).trans (sublist_insSorted x l)
    | succ n =>
      rw [head?_insLevels_succ] at hu
      cases hu
      have : (ls.headD []).Sublist l := by
        cases ls with
        | nil => exact List.nil_sublist l
        | cons v _ => exact hsub v rfl
      exact sublist_insSorted_both centLt_strictTotal this hl hxl

/-- A tower higher than the list grows it: the missing level counts as an empty one. -/
theorem insLevels_ok (x : CEntry) : ∀ (n : Nat) (ls : List (List CEntry)),
    (∀ l ∈ ls, CSorted l) → SubChain ls → (∀ l ∈ ls, x ∉ l) →
    (∀ l ∈ insLevels centLt x n ls, CSorted l) ∧ SubChain (insLevels centLt x n ls)
  | 0, _, hs, hc, _ => ⟨hs, hc⟩
  | n + 1, [], _, _, _ =>
    insLevels_ok_cons (l := []) n List.Pairwise.nil List.not_mem_nil (fun _ h => nomatch h)
      (insLevels_ok x n [] (fun _ h => nomatch h) trivial (fun _ h => nomatch h))
  | n + 1, l :: ls, hs, hc, hx =>
    insLevels_ok_cons n (hs l List.mem_cons_self) (hx l List.mem_cons_self) hc.1
      (insLevels_ok x n ls (fun u hu => hs u (List.mem_cons_of_mem _ hu)) hc.2
        (fun u hu => hx u (List.mem_cons_of_mem _ hu)))

theorem insLevels_ne_nil (lt : CEntry → CEntry → Bool) (x : CEntry) (n : Nat) (ls : List (List CEntry)) :
    insLevels lt x (n + 1) ls ≠ [] := by
  cases ls <;> simp [insLevels]

/-- `sl` with a node `x` of height `h + 1` spliced into its levels and entered in the key index: what
    `insert` makes of a list that does not hold the member (`insertNode` after `idxSet`).  The comparator
    is a parameter as in `insLevels`. -/
def spliced (lt : CEntry → CEntry → Bool) (h : Nat) (x : CEntry) (sl : SkipList) : SkipList :=
  ⟨insLevels lt x (h + 1) sl.levels, idxSet x.2 x.1 sl.keyIndex, sl.length + 1⟩

theorem level0_spliced (lt : CEntry → CEntry → Bool) (h : Nat) (x : CEntry) (sl : SkipList) :
    level0 (spliced lt h x sl) = insSorted lt x (level0 sl) := by
  unfold level0 spliced
  cases sl.levels <;> simp [insLevels, insSorted]

theorem filter_ne_of_not_mem {q : CEntry} {l : List CEntry} (h : q ∉ l) :
    l.filter (fun e => decide (e ≠ q)) = l := by
  apply List.filter_eq_self.mpr
  intro e he
  simp only [decide_eq_true_eq]
  intro e'; exact h (e' ▸ he)

/-- On a sorted chain the unlink step removes `q` (`some`), or gives up only when `q` is absent (`none`). -/
theorem unlinkAt_spec {q : CEntry} : ∀ {l : List CEntry}, CSorted l →
    match unlinkAt centLt q q l with
    | some l' => l' = l.filter (fun e => decide (e ≠ q))
    | none => q ∉ l
  | [], _ => rfl
  | y :: ys, hs => by
    have hp := List.pairwise_cons.mp hs
    have ih := unlinkAt_spec (q := q) hp.2
    unfold unlinkAt
    by_cases hlt : centLt y q = true
    · have hne : y ≠ q := centLt_strictTotal.ne hlt
      rw [if_pos hlt]
      cases hu : unlinkAt centLt q q ys with
      | none =>
        rw [hu] at ih
        simpa [hne.symm] using ih
      | some r =>
        rw [hu] at ih
        simp [ih, hne]
    · rw [if_neg hlt]
      by_cases heq : y = q
      · subst heq
        rw [if_pos rfl]
        show ys = (y :: ys).filter (fun e => decide (e ≠ y))
        rw [List.filter_cons_of_neg (by simp), filter_ne_of_not_mem (List.nodup_cons.mp (centLt_strictTotal.nodup hs)).1]
      · rw [if_neg heq]
        intro hm
        rcases List.mem_cons.mp hm with e | hm
        · exact heq e.symm
        · exact hlt (hp.1 q hm)

theorem unlinkLevels_eq {q : CEntry} : ∀ {ls : List (List CEntry)},
    (∀ l ∈ ls, CSorted l) → SubChain ls →
    unlinkLevels centLt q q ls = ls.map (List.filter (fun e => decide (e ≠ q)))
  | [], _, _ => rfl
  | l :: ls, hs, hc => by
    have hl := unlinkAt_spec (q := q) (hs l List.mem_cons_self)
    unfold unlinkLevels
    cases hu : unlinkAt centLt q q l with
    | some l' =>
      rw [hu] at hl
      simp only [List.map_cons]
      rw [hl, unlinkLevels_eq (fun u hu => hs u (List.mem_cons_of_mem _ hu)) hc.2]
    | none =>
      rw [hu] at hl
      have hrest : ∀ u ∈ ls, q ∉ u := fun u hu hx => hl (subchain_subset hc u hu q hx)
      simp only [List.map_cons, filter_ne_of_not_mem hl]
      rw [List.map_congr_left (fun u hu => filter_ne_of_not_mem (hrest u hu)), List.map_id']

theorem dropTrailingEmpty_prefix : ∀ ls : List (List CEntry), ∃ t, ls = dropTrailingEmpty ls ++ t
  | [] => ⟨[], rfl⟩
  | l :: ls => by
    obtain ⟨t, ht⟩ := dropTrailingEmpty_prefix ls
    unfold dropTrailingEmpty
    split
    · split
      · exact ⟨l :: ls, rfl⟩
      · exact ⟨ls, rfl⟩
    · exact ⟨t, congrArg (l :: ·) ht⟩

theorem trimLevels_prefix : ∀ ls : List (List CEntry), ∃ t, ls = trimLevels ls ++ t
  | [] => ⟨[], rfl⟩
  | l :: ls => (dropTrailingEmpty_prefix ls).imp fun _ ht => congrArg (l :: ·) ht

theorem SubChain.of_append : ∀ {a b : List (List CEntry)}, SubChain (a ++ b) → SubChain a
  | [], _, _ => trivial
  | [_], _, _ => ⟨fun _ hu => (nomatch hu), trivial⟩
  | _ :: _ :: _, _, h => ⟨h.1, SubChain.of_append h.2⟩

theorem subchain_map_filter (p : CEntry → Bool) : ∀ {ls : List (List CEntry)}, SubChain ls →
    SubChain (ls.map (List.filter p))
  | [], _ => trivial
  | l :: ls, hc => by
    refine ⟨?_, subchain_map_filter p hc.2⟩
    intro u hu
    cases ls with
    | nil => simp at hu
    | cons v rest =>
      simp at hu
      rw [← hu]
      exact (hc.1 v rfl).filter p

theorem removeLevels_ok (p : CEntry → Bool) {ls : List (List CEntry)} (hne : ls ≠ [])
    (hs : ∀ l ∈ ls, CSorted l) (hc : SubChain ls) :
    trimLevels (ls.map (List.filter p)) ≠ [] ∧
    (∀ l ∈ trimLevels (ls.map (List.filter p)), CSorted l) ∧
    SubChain (trimLevels (ls.map (List.filter p))) := by
  have hs' : ∀ l ∈ ls.map (List.filter p), CSorted l := by
    intro l hl
    obtain ⟨v, hv, rfl⟩ := List.mem_map.mp hl
    exact (hs v hv).filter p
  have hc' := subchain_map_filter p hc
  obtain ⟨t, ht⟩ := trimLevels_prefix (ls.map (List.filter p))
  rw [ht] at hc'
  refine ⟨?_, fun l hl => hs' l (by rw [ht]; exact List.mem_append_left t hl), hc'.of_append⟩
  cases ls with
  | nil => exact absurd rfl hne
  | cons l rest => simp [trimLevels]

/-- `sl` with the node `q` unlinked from every level, the emptied top levels dropped and the member taken
    out of the key index: what `remove` leaves when `q` is the member's node. -/
def unlinked (q : CEntry) (sl : SkipList) : SkipList :=
  ⟨trimLevels (sl.levels.map (List.filter fun e => decide (e ≠ q))), idxDel q.2 sl.keyIndex, sl.length - 1⟩

theorem level0_unlinked (q : CEntry) (sl : SkipList) :
    level0 (unlinked q sl) = (level0 sl).filter fun e => decide (e ≠ q) := by
  unfold level0 unlinked
  cases sl.levels <;> rfl

theorem findTarget_mem {q : CEntry} : ∀ {l : List CEntry}, CSorted l → q ∈ l → findTarget centLt q l = some q
  | [], _, h => by simp at h
  | y :: ys, hs, h => by
    unfold findTarget
    split
    · rename_i hlt
      rcases List.mem_cons.mp h with e | h
      · exact absurd e.symm (centLt_strictTotal.ne hlt)
      · exact findTarget_mem (List.pairwise_cons.mp hs).2 h
    · rename_i hnlt
      rcases List.mem_cons.mp h with e | h
      · rw [e]
      · exact absurd ((List.pairwise_cons.mp hs).1 q h) hnlt

theorem findTarget_some {lt : CEntry → CEntry → Bool} {q : CEntry} : ∀ {l : List CEntry} {t : CEntry},
    findTarget lt q l = some t → t ∈ l ∧ lt t q = false
  | [], _, h => by simp [findTarget] at h
  | y :: ys, t, h => by
    unfold findTarget at h
    split at h
    · have := findTarget_some h
      exact ⟨List.mem_cons_of_mem _ this.1, this.2⟩
    · rename_i hnlt
      simp at h
      subst h
      exact ⟨List.mem_cons_self, by simpa using hnlt⟩

/-! ### The code's comparator and the proof order agree wherever the code can get -/

/-- `compare_nodes == Less` is the proof order against `q` for every node that is `q` itself or
    carries another member. -/
theorem ccmp_eq_cent {y q : CEntry} (h : y.2 = q.2 → y = q) : ccmpLt y q = centLt y q := by
  by_cases e : y.2 = q.2
  · rw [h e, ccmpLt_irrefl, centLt_strictTotal.irrefl]
  · exact (centLt_of_ne_member e).symm

theorem ccmpEq_eq {y q : CEntry} (h : y.2 = q.2 → y = q) : ccmpEq y q = decide (y = q) := by
  by_cases e : y.2 = q.2
  · have := h e; subst this; simp [ccmpEq, CScore.eqv_refl]
  · have : y ≠ q := fun e' => e (by rw [e'])
    simp [ccmpEq, e, this]

theorem findTarget_congr {lt lt' : CEntry → CEntry → Bool} {q : CEntry} : ∀ {l : List CEntry},
    (∀ y ∈ l, lt y q = lt' y q) → findTarget lt q l = findTarget lt' q l
  | [], _ => rfl
  | y :: ys, h => by
    simp only [findTarget, h y List.mem_cons_self,
      findTarget_congr (fun z hz => h z (List.mem_cons_of_mem _ hz))]

theorem unlinkAt_congr {lt lt' : CEntry → CEntry → Bool} {q t : CEntry} : ∀ {l : List CEntry},
    (∀ y ∈ l, lt y q = lt' y q) → unlinkAt lt q t l = unlinkAt lt' q t l
  | [], _ => rfl
  | y :: ys, h => by
    simp only [unlinkAt, h y List.mem_cons_self,
      unlinkAt_congr (fun z hz => h z (List.mem_cons_of_mem _ hz))]

theorem unlinkLevels_congr {lt lt' : CEntry → CEntry → Bool} {q t : CEntry} : ∀ {ls : List (List CEntry)},
    (∀ l ∈ ls, ∀ y ∈ l, lt y q = lt' y q) → unlinkLevels lt q t ls = unlinkLevels lt' q t ls
  | [], _ => rfl
  | l :: ls, h => by
    simp only [unlinkLevels, unlinkAt_congr (h l List.mem_cons_self),
      unlinkLevels_congr (fun u hu => h u (List.mem_cons_of_mem _ hu))]

theorem insLevels_congr {lt lt' : CEntry → CEntry → Bool} {x : CEntry} : ∀ (n : Nat) {ls : List (List CEntry)},
    (∀ l ∈ ls, ∀ y ∈ l, lt y x = lt' y x) → insLevels lt x n ls = insLevels lt' x n ls
  | 0, _, _ => rfl
  | n + 1, [], _ => by
    have ih := insLevels_congr (lt := lt) (lt' := lt') (x := x) n (ls := []) (by simp)
    simp only [insLevels]
    rw [ih]
  | n + 1, l :: ls, h => by
    simp only [insLevels, insSorted_congr (h l List.mem_cons_self),
      insLevels_congr n (fun u hu => h u (List.mem_cons_of_mem _ hu))]

theorem level0_mem_levels {sl : SkipList} (hne : sl.levels ≠ []) : level0 sl ∈ sl.levels := by
  unfold level0
  cases hl : sl.levels with
  | nil => exact absurd hl hne
  | cons l ls => simp

theorem removeNode_eq {sl : SkipList} {m : Bytes} {s : Score} (hne : sl.levels ≠ [])
    (hs : ∀ l ∈ sl.levels, CSorted l) (hc : SubChain sl.levels) (hm : (CScore.num s, m) ∈ level0 sl)
    (hu : ∀ y ∈ level0 sl, y.2 = m → y = (CScore.num s, m)) :
    removeNode m (.num s) sl = { unlinked (CScore.num s, m) sl with keyIndex := sl.keyIndex } := by
  have h0 : CSorted (level0 sl) := hs _ (level0_mem_levels hne)
  have hcmp0 : ∀ y ∈ level0 sl, ccmpLt y (CScore.num s, m) = centLt y (CScore.num s, m) :=
    fun y hy => ccmp_eq_cent (hu y hy)
  have hcmp : ∀ l ∈ sl.levels, ∀ y ∈ l, ccmpLt y (CScore.num s, m) = centLt y (CScore.num s, m) :=
    fun l hl y hy => hcmp0 y (levels_subset_level0 hc l hl y hy)
  unfold removeNode
  rw [findTarget_congr hcmp0, findTarget_mem h0 hm]
  simp only [feq, Score.eqv_refl, beq_self_eq_true, Bool.and_self, if_true]
  rw [unlinkLevels_congr hcmp, unlinkLevels_eq hs hc]
  rfl

theorem removeNode_absent {sl : SkipList} {m : Bytes} {s : CScore}
    (hm : ∀ s', (s', m) ∉ level0 sl) : removeNode m s sl = sl := by
  unfold removeNode
  cases hf : findTarget ccmpLt (s, m) (level0 sl) with
  | none => rfl
  | some t =>
    have ht := (findTarget_some hf).1
    simp only
    split
    · rename_i hc
      simp only [Bool.and_eq_true, beq_iff_eq] at hc
      exfalso
      apply hm t.1
      rw [← hc.1]
      exact ht
    · rfl

theorem length_filter_ne {q : CEntry} {l : List CEntry} (hs : CSorted l) (hq : q ∈ l) :
    (l.filter (fun e => decide (e ≠ q))).length = l.length - 1 := by
  have hnd : l.Nodup := centLt_strictTotal.nodup hs
  rw [← List.length_erase_of_mem hq, hnd.erase_eq_filter]
  congr 1
  apply List.filter_congr
  intro e _
  by_cases h : e = q <;> simp [h]

theorem Inv.sorted0 {sl : SkipList} (h : Inv sl) : CSorted (level0 sl) :=
  h.sorted _ (level0_mem_levels h.nonempty)

theorem Inv.member_unique {sl : SkipList} (h : Inv sl) {m : Bytes} {a b : CScore}
    (ha : (a, m) ∈ level0 sl) (hb : (b, m) ∈ level0 sl) : a = b :=
  idx_functional h.idxSorted ((h.idxMap m a).mpr ha) ((h.idxMap m b).mpr hb)

theorem Inv.only_member {sl : SkipList} (h : Inv sl) {m : Bytes} {sc : CScore}
    (hm : (sc, m) ∈ level0 sl) : ∀ y ∈ level0 sl, y.2 = m → y = (sc, m) := by
  intro y hy e
  have h1 : (y.1, m) ∈ level0 sl := by rw [← e]; exact hy
  exact Prod.ext (h.member_unique h1 hm) e

theorem Inv.filter_member {sl : SkipList} (h : Inv sl) {m : Bytes} {old : CScore}
    (hm : (old, m) ∈ level0 sl) :
    (level0 sl).filter (fun e => decide (e ≠ (old, m))) = (level0 sl).filter (fun e => e.2 != m) := by
  apply List.filter_congr
  intro e he
  by_cases hem : e.2 = m
  · simp [h.only_member hm e he hem]
  · have : e ≠ (old, m) := fun e' => hem (by rw [e'])
    simp [this, hem]

theorem inv_unlinked {sl : SkipList} (h : Inv sl) {m : Bytes} {sc : CScore} (hm : (sc, m) ∈ level0 sl) :
    Inv (unlinked (sc, m) sl) := by
  have ok := removeLevels_ok (fun e => decide (e ≠ (sc, m))) h.nonempty h.sorted h.chain
  have hl0 := level0_unlinked (sc, m) sl
  refine ⟨ok.1, ok.2.1, ok.2.2, ?_, sorted_idxDel h.idxSorted m, ?_, ?_⟩
  · intro e he
    rw [hl0] at he
    exact h.noNaN e (List.mem_filter.mp he).1
  · intro m' s'
    show (m', s') ∈ idxDel m sl.keyIndex ↔ _
    rw [hl0, mem_idxDel, List.mem_filter, h.idxMap]
    simp only [decide_eq_true_eq, ne_eq]
    constructor
    · rintro ⟨h1, h2⟩
      exact ⟨h1, fun e => h2 (Prod.mk.inj e).2⟩
    · rintro ⟨h1, h2⟩
      refine ⟨h1, fun e => h2 ?_⟩
      subst e
      rw [h.member_unique h1 hm]
  · show sl.length - 1 = _
    rw [hl0, length_filter_ne h.sorted0 hm, h.len]

theorem inv_spliced {sl : SkipList} (h : Inv sl) (ht : Nat) {m : Bytes} (s : Score)
    (hm : ∀ s', (s', m) ∉ level0 sl) : Inv (spliced centLt ht (CScore.num s, m) sl) := by
  have hxall : ∀ l ∈ sl.levels, (CScore.num s, m) ∉ l :=
    fun l hl hx => hm _ (levels_subset_level0 h.chain l hl _ hx)
  have ok := insLevels_ok (CScore.num s, m) (ht + 1) sl.levels h.sorted h.chain hxall
  have hl0 := level0_spliced centLt ht (CScore.num s, m) sl
  refine ⟨insLevels_ne_nil _ _ _ _, ok.1, ok.2, ?_, sorted_idxSet h.idxSorted m _, ?_, ?_⟩
  · intro e he
    rw [hl0] at he
    rcases mem_insSorted.mp he with rfl | he
    · simp
    · exact h.noNaN e he
  · intro m' s'
    show (m', s') ∈ idxSet m (.num s) sl.keyIndex ↔ _
    rw [hl0, mem_idxSet, mem_insSorted, h.idxMap]
    constructor
    · rintro (e | ⟨h1, _⟩)
      · left; rw [(Prod.mk.inj e).1, (Prod.mk.inj e).2]
      · right; exact h1
    · rintro (e | h1)
      · left; rw [(Prod.mk.inj e).1, (Prod.mk.inj e).2]
      · right
        refine ⟨h1, fun e => hm s' ?_⟩
        rw [← e]; exact h1
  · show sl.length + 1 = _
    rw [hl0, length_insSorted, h.len]

theorem inv_empty : Inv Code.empty := by
  refine ⟨by simp [Code.empty], ?_, ?_, ?_, ?_, ?_, rfl⟩
  · intro l hl
    simp [Code.empty] at hl
    subst hl
    simp [CSorted]
  · exact ⟨by simp, trivial⟩
  · simp [level0, Code.empty]
  · simp [Code.empty]
  · simp [level0, Code.empty]

theorem remove_eq {sl : SkipList} (h : Inv sl) (m : Bytes) :
    (∃ s : Score, (CScore.num s, m) ∈ level0 sl ∧
      remove m sl = (unlinked (CScore.num s, m) sl, some (.num s))) ∨
    ((∀ s', (s', m) ∉ level0 sl) ∧ remove m sl = (sl, none)) := by
  unfold remove
  cases hg : idxGet m sl.keyIndex with
  | none =>
    right
    refine ⟨?_, rfl⟩
    intro s' hs'
    exact idxGet_eq_none.mp hg s' ((h.idxMap m s').mpr hs')
  | some sc =>
    left
    have hmem : (sc, m) ∈ level0 sl := (h.idxMap m sc).mp (idxGet_some_mem hg)
    cases sc with
    | nan => exact absurd rfl (h.noNaN _ hmem)
    | num s =>
      refine ⟨s, hmem, ?_⟩
      simp only
      rw [removeNode_eq (sl := { sl with keyIndex := idxDel m sl.keyIndex }) h.nonempty h.sorted h.chain hmem (h.only_member hmem)]
      rfl

/-- `insert` is `remove` followed by the splice (on a list that holds the member the old node goes first). -/
theorem insert_eq {sl : SkipList} (h : Inv sl) (ht : Nat) (m : Bytes) (s : Score) :
    (Code.insert ht m (.num s) sl).1 = spliced ccmpLt ht (CScore.num s, m) (remove m sl).1 ∧
    (Code.insert ht m (.num s) sl).2 = (remove m sl).2 := by
  rcases remove_eq h m with ⟨old, hmem, hr⟩ | ⟨habs, hr⟩
  · have hg : idxGet m sl.keyIndex = some (.num old) :=
      (idxGet_eq_some h.idxSorted).mpr ((h.idxMap m _).mpr hmem)
    rw [hr]
    unfold Code.insert
    rw [hg]
    simp only
    rw [removeNode_eq h.nonempty h.sorted h.chain hmem (h.only_member hmem)]
    simp only [insertNode, spliced, unlinked, idxSet_idxDel, and_self]
  · have hg : idxGet m sl.keyIndex = none :=
      idxGet_eq_none.mpr (fun s' hs' => habs s' ((h.idxMap m s').mp hs'))
    rw [hr]
    unfold Code.insert
    rw [hg]
    simp only [insertNode, spliced, and_self]

theorem inv_remove {sl : SkipList} (h : Inv sl) (m : Bytes) : Inv (remove m sl).1 := by
  rcases remove_eq h m with ⟨old, hmem, hr⟩ | ⟨_, hr⟩
  · rw [hr]; exact inv_unlinked h hmem
  · rw [hr]; exact h

theorem level0_remove {sl : SkipList} (h : Inv sl) (m : Bytes) :
    level0 (remove m sl).1 = (level0 sl).filter (fun e => e.2 != m) := by
  rcases remove_eq h m with ⟨old, hmem, hr⟩ | ⟨habs, hr⟩
  · rw [hr, ← h.filter_member hmem]
    exact level0_unlinked _ sl
  · rw [hr]
    symm
    apply List.filter_eq_self.mpr
    intro e he
    simp only [bne_iff_ne, ne_eq]
    intro e'
    exact habs e.1 (by rw [← e']; exact he)

theorem not_mem_level0_remove {sl : SkipList} (h : Inv sl) (m : Bytes) :
    ∀ s', (s', m) ∉ level0 (remove m sl).1 := by
  intro s' hs'
  rw [level0_remove h] at hs'
  simp at hs'

/-- Where the member has no node the code's comparator splices as the proof order does. -/
theorem spliced_ccmp {sl : SkipList} (h : Inv sl) {m : Bytes} (hm : ∀ s', (s', m) ∉ level0 sl)
    (sc : CScore) (ht : Nat) : spliced ccmpLt ht (sc, m) sl = spliced centLt ht (sc, m) sl := by
  have : insLevels ccmpLt (sc, m) (ht + 1) sl.levels = insLevels centLt (sc, m) (ht + 1) sl.levels := by
    apply insLevels_congr
    intro l hl y hy
    have hy0 := levels_subset_level0 h.chain l hl y hy
    have hne : y.2 ≠ m := fun e => hm y.1 (by rw [← e]; exact hy0)
    exact (centLt_of_ne_member hne).symm
  rw [spliced, this]
  rfl

theorem inv_insert {sl : SkipList} (h : Inv sl) (ht : Nat) (m : Bytes) (s : Score) :
    Inv (Code.insert ht m (.num s) sl).1 := by
  rw [(insert_eq h ht m s).1, spliced_ccmp (inv_remove h m) (not_mem_level0_remove h m)]
  exact inv_spliced (inv_remove h m) ht s (not_mem_level0_remove h m)

theorem level0_insert {sl : SkipList} (h : Inv sl) (ht : Nat) (m : Bytes) (s : Score) :
    level0 (Code.insert ht m (.num s) sl).1 =
      insSorted centLt (CScore.num s, m) ((level0 sl).filter (fun e => e.2 != m)) := by
  rw [(insert_eq h ht m s).1, spliced_ccmp (inv_remove h m) (not_mem_level0_remove h m), level0_spliced,
    level0_remove h m]

theorem insert_stores {sl : SkipList} (h : Inv sl) (ht : Nat) (m : Bytes) (s : Score) :
    getScore m (Code.insert ht m (.num s) sl).1 = some (.num s) ∧
    (CScore.num s, m) ∈ level0 (Code.insert ht m (.num s) sl).1 ∧
    ∀ s', s' ≠ s → (CScore.num s', m) ∉ level0 (Code.insert ht m (.num s) sl).1 := by
  have hi := inv_insert h ht m s
  have hmem : (CScore.num s, m) ∈ level0 (Code.insert ht m (.num s) sl).1 := by
    rw [level0_insert h]; exact mem_insSorted.mpr (Or.inl rfl)
  exact ⟨(idxGet_eq_some hi.idxSorted).mpr ((hi.idxMap m _).mpr hmem), hmem,
    fun s' hne hm' => hne (CScore.num.inj (hi.member_unique hm' hmem))⟩

theorem inv_run_from (ops : List Op) : ∀ sl, Inv sl → Inv (ops.foldl applyOp sl) := by
  induction ops with
  | nil => intro sl h; exact h
  | cons op ops ih =>
    intro sl h
    apply ih
    cases op with
    | ins ht m s => exact inv_insert h ht m s
    | rem m => exact inv_remove h m

theorem level0_eq_lift_abs {sl : SkipList} (h : Inv sl) : level0 sl = (abs sl).map lift := by
  unfold abs
  have hn := h.noNaN
  generalize level0 sl = l at hn
  induction l with
  | nil => rfl
  | cons e es ih =>
    have ih' := ih (fun x hx => hn x (List.mem_cons_of_mem _ hx))
    obtain ⟨sc, m⟩ := e
    cases sc with
    | nan => exact absurd rfl (hn _ List.mem_cons_self)
    | num s =>
      simp only [List.filterMap_cons, unlift, List.map_cons, lift]
      rw [← ih']

theorem filterMap_unlift_map_lift (z : List Entry) : (z.map lift).filterMap unlift = z := by
  induction z with
  | nil => rfl
  | cons e es ih => simp [lift, unlift, ih]

theorem abs_remove {sl : SkipList} (h : Inv sl) (m : Bytes) :
    abs (remove m sl).1 = Spec.zrem m (abs sl) := by
  show (level0 (remove m sl).1).filterMap unlift = _
  rw [level0_remove h, level0_eq_lift_abs h, List.filter_map, filterMap_unlift_map_lift]
  rfl

theorem abs_insert {sl : SkipList} (h : Inv sl) (ht : Nat) (m : Bytes) (s : Score) :
    abs (Code.insert ht m (.num s) sl).1 = Spec.zadd m s (abs sl) := by
  show (level0 (Code.insert ht m (.num s) sl).1).filterMap unlift = _
  rw [level0_insert h, level0_eq_lift_abs h, List.filter_map]
  show (insSorted centLt (lift (s, m)) (List.map lift _)).filterMap unlift = _
  rw [insSorted_map lift centLt_lift, filterMap_unlift_map_lift]
  rfl

end Ferrous.ZSet
