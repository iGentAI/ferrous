/- Failure atomicity of `KS.step`: the `atomic` half of `stepDb_safe` (Proofs/KsInvCmds.lean), lifted
   from the database to the store. -/
import FerrousSpec.Proofs.KsInvCmds
namespace Ferrous.KS

/-- A refused command leaves the store exactly as every command sees it (expired entries dropped). -/
theorem step_atomic (q : Quirks) (s : Store) (i now : Nat) (cmd : List Bytes) (obs : Option (List Bytes))
    (h : isErr (step q s i now cmd obs).2 = true) :
    (step q s i now cmd obs).1 = s ∨ (step q s i now cmd obs).1 = setDb s i (purge now (getDb s i)) := by
  unfold step at h ⊢
  cases cmd with
  | nil => exact .inl rfl
  | cons n args =>
    dsimp only at h ⊢
    split at h
    · split at h
      · cases h
      · exact .inl (by simp [*])
    · rename_i hname
      rw [if_neg hname]
      exact .inr (congrArg (setDb s i) ((stepDb_safe q _ now _ args obs).atomic h))

end Ferrous.KS
