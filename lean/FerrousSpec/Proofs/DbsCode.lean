/-
  C18 — the switches of the connection machine that reproduce /repo's CURRENT source, read off the
  tables the translator regenerates on every run (Gen/Dispatch.lean).  Imports only the model (Model/Dbs) and
  that generated file, no proof module and no Mathlib: the driver links against this file.
-/
import FerrousSpec.Model.Dbs
import FerrousSpec.Gen.Dispatch
namespace Ferrous.Dbs
open Ferrous

/-- does the dispatch arm of `name` mention `db`? (`false` for a name without an arm) -/
def passesDb (name : String) : Bool :=
  match Gen.Dispatch.dispatch.find? (fun c => c.1 == name) with
  | some c => c.2
  | none => false

/-- the machine as /repo's source has it today -/
def codeSwitches : Switches :=
  { evalshaDb0 := !passesDb "EVALSHA",
    scriptDbCmdsDb0 := !Gen.Dispatch.scriptDatabaseCmdsGetDb,
    execSelectNoop := !Gen.Dispatch.execSelectEffective }

end Ferrous.Dbs
