/-
  Rank-range index arithmetic of `StorageEngine::zrange` against Redis' rule, for all `len > 0`
  and all `start, stop : Int`.  Every window is brought into the form
  `if empty then none else some iv` over the code's normalised indices; two such windows are
  compared by `ite_none_some_eq`, which leaves small facts of linear arithmetic.
-/
import FerrousSpec.Model.ZSet
namespace Ferrous.ZSet
open Ferrous

/-- What `range_by_rank(a, b)` selects on a chain of `len` nodes, as a canonical interval
    (`none` = nothing; otherwise `a ≤ b < len`). -/
def normIv (len : Nat) : Option (Nat × Nat) → Option (Nat × Nat)
  | none => none
  | some (a, b) => if a ≥ len ∨ a > b then none else some (a, min b (len - 1))
/-- Mirror an interval of the reversed list onto the forward list. -/
def flipIv (len : Nat) (p : Nat × Nat) : Nat × Nat := (len - 1 - p.2, len - 1 - p.1)

section Window
variable {α β : Type} {p q : Prop} [Decidable p] [Decidable q]

theorem ite_none_some_eq {x y : α} :
    (if p then none else some x) = (if q then none else some y) ↔ (p ↔ q) ∧ (¬ q → x = y) := by
  by_cases hp : p <;> by_cases hq : q <;> simp [hp, hq]

theorem ite_none_some_eq_some {x y : α} : (if p then none else some x) = some y ↔ ¬ p ∧ x = y := by
  by_cases hp : p <;> simp [hp]

theorem ite_ite_none {x : Option α} :
    (if p then none else if q then none else x) = if p ∨ q then none else x := by
  by_cases hp : p <;> by_cases hq : q <;> simp [hp, hq]

theorem map_ite_none_some (f : α → β) {x : α} :
    (if p then none else some x).map f = if p then none else some (f x) := by
  split <;> rfl

theorem normIv_some (len a b : Nat) :
    normIv len (some (a, b)) = if a ≥ len ∨ a > b then none else some (a, min b (len - 1)) := rfl

theorem normIv_ite_none {len : Nat} {x : Option (Nat × Nat)} :
    normIv len (if p then none else x) = if p then none else normIv len x := by
  split <;> rfl

end Window

theorem normIv_clamped {len a b : Nat} (ha : a < len) (hb : b < len) :
    normIv len (some (a, b)) = if a > b then none else some (a, b) := by
  rw [normIv_some, Nat.min_eq_left (by omega)]
  by_cases h : a > b
  · rw [if_pos h, if_pos (Or.inr h)]
  · rw [if_neg h, if_neg (by omega)]

theorem normIv_flipIv {len a b : Nat} (ha : a < len) (hb : b < len) :
    normIv len (some (flipIv len (a, b))) = (normIv len (some (a, b))).map (flipIv len) := by
  rw [normIv_clamped ha hb, map_ite_none_some]
  show normIv len (some (len - 1 - b, len - 1 - a)) = _
  rw [normIv_clamped (by omega) (by omega)]
  by_cases h : a > b
  · rw [if_pos h, if_pos (by omega)]
  · rw [if_neg h, if_neg (by omega)]
    rfl

theorem normIdx_cases (len : Nat) (i : Int) :
    (0 ≤ i ∧ (Code.normIdx len i : Int) = i) ∨ (i < 0 ∧ (Code.normIdx len i : Int) = max (len + i) 0) := by
  unfold Code.normIdx
  split <;> omega

theorem normIdx_zero (len : Nat) : Code.normIdx len 0 = 0 := rfl

theorem normIdx_neg_one (len : Nat) : Code.normIdx len (-1) = len - 1 := by
  have := normIdx_cases len (-1)
  omega

/-- The start as Redis clamps it is the code's normalised start. -/
theorem normIdx_start (len : Nat) (i : Int) :
    (Code.normIdx len i : Int) =
      if (if i < 0 then i + len else i) < 0 then 0 else (if i < 0 then i + len else i) := by
  unfold Code.normIdx
  by_cases hi : i < 0
  · simp only [hi, if_true]
    split <;> omega
  · simp only [hi, if_false]
    omega

/-- The stop as Redis shifts it either still lies before the first element, or is the code's
    normalised stop. -/
theorem normIdx_stop (len : Nat) (i : Int) :
    ((i < 0 ∧ (len : Int) + i < 0) ∧ (if i < 0 then i + len else i) < 0) ∨
    (¬ (i < 0 ∧ (len : Int) + i < 0) ∧ (if i < 0 then i + len else i) = Code.normIdx len i) := by
  unfold Code.normIdx
  split <;> omega

theorem rangeIdx_norm (len : Nat) (start stop : Int) :
    Spec.rangeIdx len start stop =
      if (stop < 0 ∧ (len : Int) + stop < 0) ∨ Code.normIdx len start > Code.normIdx len stop ∨ Code.normIdx len start ≥ len
      then none else some (Code.normIdx len start, min (Code.normIdx len stop) (len - 1)) := by
  unfold Spec.rangeIdx
  simp only []
  rw [← normIdx_start]
  rcases normIdx_stop len stop with ⟨hP, he⟩ | ⟨hP, he⟩
  · rw [if_pos (Or.inl hP), if_pos (Or.inl (by omega))]
  · rw [he, ite_none_some_eq, Prod.mk.injEq, Int.toNat_natCast]
    refine ⟨by omega, fun _ => ⟨rfl, ?_⟩⟩
    split <;> omega

theorem rangeIdx_eq_some {len : Nat} {start stop : Int} {a b : Nat} :
    Spec.rangeIdx len start stop = some (a, b) ↔
      ¬ ((stop < 0 ∧ (len : Int) + stop < 0) ∨ Code.normIdx len start > Code.normIdx len stop ∨ Code.normIdx len start ≥ len) ∧
      Code.normIdx len start = a ∧ min (Code.normIdx len stop) (len - 1) = b := by
  rw [rangeIdx_norm, ite_none_some_eq_some, Prod.mk.injEq]

theorem rangeIdx_wf {len : Nat} {start stop : Int} {a b : Nat}
    (h : Spec.rangeIdx len start stop = some (a, b)) : a ≤ b ∧ b < len := by
  have := rangeIdx_eq_some.mp h
  omega

/-- Forward: the repair adds the test "stop still negative after adding `len`". -/
theorem zrangeIdx_fwd (fixed : Bool) (len : Nat) (start stop : Int) :
    Code.zrangeIdx fixed false len start stop =
      if (fixed = true ∧ (stop < 0 ∧ (len : Int) + stop < 0)) ∨
          Code.normIdx len start ≥ len ∨ Code.normIdx len start > Code.normIdx len stop
      then none else some (min (Code.normIdx len start) (len - 1), min (Code.normIdx len stop) (len - 1)) := by
  unfold Code.zrangeIdx
  cases fixed <;>
    simp only [Bool.false_and, Bool.true_and, Bool.or_eq_true, decide_eq_true_eq, Bool.false_eq_true, if_false,
      false_and, true_and, false_or, ite_ite_none, or_assoc, or_self]

/-- Reverse: unrepaired, the mirrored clamped indices are passed on whatever they are. -/
theorem zrangeIdx_rev (fixed : Bool) (len : Nat) (start stop : Int) :
    Code.zrangeIdx fixed true len start stop =
      if fixed = true ∧ ((stop < 0 ∧ (len : Int) + stop < 0) ∨
          Code.normIdx len start ≥ len ∨ Code.normIdx len start > Code.normIdx len stop)
      then none else some (flipIv len (min (Code.normIdx len start) (len - 1), min (Code.normIdx len stop) (len - 1))) := by
  unfold Code.zrangeIdx flipIv
  simp only [Bool.and_eq_true, Bool.or_eq_true, decide_eq_true_eq, if_true, or_assoc]

theorem zrangeDev_fwd {len : Nat} (hl : 0 < len) (start stop : Int) :
    Code.zrangeDev false len start stop = false ↔
      ¬ ((stop < 0 ∧ (len : Int) + stop < 0) ∧ Code.normIdx len start = 0) := by
  unfold Code.zrangeDev
  simp only [if_neg (Nat.ne_of_gt hl), Bool.false_eq_true, if_false, ← Bool.not_eq_true, Bool.and_eq_true,
    decide_eq_true_eq]

theorem zrangeDev_rev {len : Nat} (hl : 0 < len) (start stop : Int) :
    Code.zrangeDev true len start stop = false ↔
      ¬ (((stop < 0 ∧ (len : Int) + stop < 0) ∧ (Code.normIdx len start = 0 ∨ len = 1)) ∨
         (Code.normIdx len start ≥ len ∧ Code.normIdx len stop + 1 ≥ len)) := by
  unfold Code.zrangeDev
  simp only [if_neg (Nat.ne_of_gt hl), if_true, ← Bool.not_eq_true, Bool.and_eq_true, Bool.or_eq_true,
    decide_eq_true_eq]

/-- The arithmetic of `StorageEngine::zrange` selects Redis' index interval (mirrored for the reverse
    direction) exactly when it is the repaired one or the arguments lie outside `zrangeDev`. -/
theorem zrangeIdx_iff (len : Nat) (hl : 0 < len) (fixed rev : Bool) (start stop : Int) :
    normIv len (Code.zrangeIdx fixed rev len start stop) =
        (if rev then (Spec.rangeIdx len start stop).map (flipIv len) else Spec.rangeIdx len start stop) ↔
      fixed = true ∨ Code.zrangeDev rev len start stop = false := by
  have hP0 : stop < 0 ∧ (len : Int) + stop < 0 → Code.normIdx len stop = 0 := by
    have := normIdx_cases len stop
    omega
  have hc : ∀ i, min i (len - 1) < len :=
    fun i => Nat.lt_of_le_of_lt (Nat.min_le_right _ _) (Nat.sub_lt hl Nat.one_pos)
  have hcmp : ∀ sa so : Nat, min sa (len - 1) > min so (len - 1) ↔ sa > so ∧ so + 1 < len :=
    fun sa so => by omega
  cases rev
  · rw [zrangeIdx_fwd, normIv_ite_none, normIv_clamped (hc _) (hc _), ite_ite_none, zrangeDev_fwd hl, rangeIdx_norm]
    generalize Code.normIdx len start = sa
    generalize Code.normIdx len stop = so at hP0 ⊢
    simp only [Bool.false_eq_true, if_false]
    have hv : ¬ ((stop < 0 ∧ (len : Int) + stop < 0) ∨ sa > so ∨ sa ≥ len) →
        (min sa (len - 1), min so (len - 1)) = (sa, min so (len - 1)) :=
      fun h => by rw [Nat.min_eq_left (by omega)]
    rw [ite_none_some_eq, and_iff_left hv, hcmp]
    by_cases hP : stop < 0 ∧ (len : Int) + stop < 0
    · have h0 := hP0 hP
      subst h0
      cases fixed
      · simp only [hP, Bool.false_eq_true, false_and, false_or, true_or, iff_true, true_and]
        omega
      · simp only [hP, and_self, true_or]
    · simp only [hP, and_false, false_or, false_and, not_false_eq_true, or_true, iff_true]
      omega
  · rw [zrangeIdx_rev, normIv_ite_none, normIv_flipIv (hc _) (hc _), normIv_clamped (hc _) (hc _), map_ite_none_some,
      ite_ite_none, zrangeDev_rev hl, rangeIdx_norm, map_ite_none_some]
    generalize Code.normIdx len start = sa
    generalize Code.normIdx len stop = so at hP0 ⊢
    simp only [if_true]
    have hv : ¬ ((stop < 0 ∧ (len : Int) + stop < 0) ∨ sa > so ∨ sa ≥ len) →
        flipIv len (min sa (len - 1), min so (len - 1)) = flipIv len (sa, min so (len - 1)) :=
      fun h => by rw [Nat.min_eq_left (by omega)]
    rw [ite_none_some_eq, and_iff_left hv, hcmp]
    by_cases hP : stop < 0 ∧ (len : Int) + stop < 0
    · have h0 := hP0 hP
      subst h0
      cases fixed
      · simp only [hP, Bool.false_eq_true, false_and, false_or, true_or, iff_true, true_and]
        omega
      · simp only [hP, true_or, and_self]
    · cases fixed
      · simp only [hP, Bool.false_eq_true, false_and, false_or]
        omega
      · simp only [hP, true_and, false_or, true_or, iff_true]
        omega

theorem rangeByRank_norm (sl : Code.SkipList) (hlen : sl.length = (Code.level0 sl).length) (a b : Nat) :
    Code.rangeByRank a b sl =
      match normIv sl.length (some (a, b)) with
      | none => []
      | some (a', b') => slice (Code.level0 sl) a' b' := by
  unfold Code.rangeByRank slice
  rw [normIv_some]
  by_cases h1 : a ≥ sl.length
  · simp only [if_pos h1, if_pos (Or.inl h1)]
  · by_cases h2 : a > b
    · simp only [if_neg h1, if_pos (Or.inr h2), Nat.sub_eq_zero_of_le (Nat.le_trans (Nat.min_le_left _ _) h2),
        List.take_zero]
    · have : min (b + 1) sl.length = min b (sl.length - 1) + 1 := by omega
      simp only [if_neg h1, if_neg (not_or.mpr ⟨h1, h2⟩), this]

theorem slice_reverse {α : Type} (l : List α) {a b : Nat} (hab : a ≤ b) (hb : b < l.length) :
    slice l.reverse a b = (slice l (l.length - 1 - b) (l.length - 1 - a)).reverse := by
  -- `a`, `d + 1`, `c`: the numbers of entries before, inside and after the slice of the reversed list
  obtain ⟨d, rfl⟩ := Nat.exists_eq_add_of_le hab
  obtain ⟨c, hc⟩ := Nat.exists_eq_add_of_lt hb
  have e1 : a + d + 1 - a = d + 1 := Nat.sub_eq_of_eq_add (by omega)
  have e2 : l.length - 1 - (a + d) = c := by rw [Nat.sub_sub]; exact Nat.sub_eq_of_eq_add (by omega)
  have e3 : l.length - 1 - a = d + c := by rw [Nat.sub_sub]; exact Nat.sub_eq_of_eq_add (by omega)
  have e4 : l.length - a = d + 1 + c := Nat.sub_eq_of_eq_add (by omega)
  unfold slice
  rw [e1, e2, e3, Nat.add_right_comm d c 1, Nat.add_sub_cancel, List.drop_reverse, List.take_reverse,
    List.length_take, e4, Nat.min_eq_left (by omega), Nat.add_sub_cancel_left, List.drop_take, Nat.add_sub_cancel]

theorem slice_full {α : Type} (l : List α) (h : 0 < l.length) : slice l 0 (l.length - 1) = l := by
  unfold slice
  have : l.length - 1 + 1 - 0 = l.length := by omega
  simp [this]

end Ferrous.ZSet
