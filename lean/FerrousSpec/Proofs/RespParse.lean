/-
  After its type byte `parseFrame (n+1)` is one of seven body parsers (`parseFrame_body`); what is proved of
  each of them goes to `parseFrame n` by induction on the budget: answers other than `need` survive
  appended bytes (`Stable`); an accepted frame spans a minimum of bytes and nests within the budget (`Accepts`).
-/
import FerrousSpec.Model.Resp
import FerrousSpec.Proofs.Decimal
namespace Ferrous

/-- an adjacent `\r\n` occurs in the list -/
def hasCRLF : Bytes → Bool
  | [] => false
  | [_] => false
  | a :: b :: t => (a == 13 && b == 10) || hasCRLF (b :: t)

theorem splitCRLF_eq {d l r : Bytes} (h : splitCRLF d = some (l, r)) : d = l ++ 13 :: 10 :: r := by
  fun_induction splitCRLF d generalizing l with
  | case1 | case2 | case4 => cases h
  | case3 a b t hc => cases h; rw [hc.1, hc.2]; rfl
  | case5 a b t hc l' r' hs ih => cases h; rw [ih hs]; rfl

theorem splitCRLF_append {d l r : Bytes} (e : Bytes) (h : splitCRLF d = some (l, r)) :
    splitCRLF (d ++ e) = some (l, r ++ e) := by
  fun_induction splitCRLF d generalizing l with
  | case1 | case2 | case4 => cases h
  | case3 a b t hc => cases h; simp only [List.cons_append, splitCRLF, hc, and_self, if_true]
  | case5 a b t hc l' r' hs ih =>
    cases h
    have := ih hs
    simp only [List.cons_append] at this ⊢
    simp only [splitCRLF, hc, this, if_false]

theorem splitCRLF_length {d l r : Bytes} (h : splitCRLF d = some (l, r)) : r.length + 2 ≤ d.length := by
  rw [splitCRLF_eq h, List.length_append]
  exact Nat.le_add_left _ _

theorem splitCRLF_line (l rest : Bytes) (h : hasCRLF l = false) :
    splitCRLF (l ++ 13 :: 10 :: rest) = some (l, rest) := by
  fun_induction hasCRLF l with
  | case1 => simp [splitCRLF]
  | case2 a => simp [splitCRLF]
  | case3 a b t ih =>
    simp only [Bool.or_eq_false_iff] at h
    have hc : ¬(a = 13 ∧ b = 10) := fun hh => by simp [hh.1, hh.2] at h
    have ih' := ih h.2
    simp only [List.cons_append] at ih' ⊢
    simp only [splitCRLF, hc, ih', if_false]

theorem hasCRLF_of_all_digits (l : Bytes) (h : l.all isDigit = true) : hasCRLF l = false := by
  fun_induction hasCRLF l with
  | case1 | case2 => rfl
  | case3 a b t ih =>
    simp only [List.all_cons, Bool.and_eq_true] at h
    have : a ≠ 13 := by have := h.1; simp [isDigit] at this; omega
    simp only [List.all_cons, Bool.and_eq_true, h.2, and_self, true_implies] at ih
    simp [this, ih]

mutual
/-- nesting depth (a scalar has depth 1) -/
def Frame.depth : Frame → Nat
  | .array xs => depthList xs + 1
  | .map xs => depthList xs + 1
  | .set xs => depthList xs + 1
  | _ => 1
def depthList : List Frame → Nat
  | [] => 0
  | f :: fs => max f.depth (depthList fs)
end

/-- After its type byte `parseFrame (n+1)` is one of seven body parsers: a property that holds of
    each of them holds of `parseFrame (n+1)`. -/
theorem parseFrame_body {Q : (Bytes → Res) → Prop} (n t : Nat)
    (line : ∀ mk, (∀ l f, mk l = some f → f.depth = 1) → Q (parseLineWith mk))
    (bulk : Q parseBulk) (null : Q parseNull) (bool : Q parseBool)
    (array : Q (parseArray (parseFrame n)))
    (agg : ∀ m, Q (parseAgg (parseFrame n) m))
    (other : Q fun _ => .err) :
    Q fun body => parseFrame (n + 1) (t :: body) := by
  -- once `t` is a literal, `fun body => parseFrame (n+1) (t :: body)` unfolds to its arm
  by_cases h1 : t = 43
  · subst h1; exact line (fun l => some (.simple l)) fun _ _ h => by cases h; rfl
  by_cases h2 : t = 45
  · subst h2; exact line (fun l => some (.error l)) fun _ _ h => by cases h; rfl
  by_cases h3 : t = 58
  · subst h3; exact line (fun l => (parseI64 l).map .int) fun l f h => by
      cases hp : parseI64 l <;> rw [hp] at h <;> cases h; rfl
  by_cases h4 : t = 36
  · subst h4; exact bulk
  by_cases h5 : t = 42
  · subst h5; exact array
  by_cases h6 : t = 95
  · subst h6; exact null
  by_cases h7 : t = 35
  · subst h7; exact bool
  by_cases h8 : t = 44
  · subst h8; exact line (fun l => if isF64Literal l then some (.double l) else none) fun l f h => by
      split at h <;> cases h; rfl
  by_cases h9 : t = 37
  · subst h9; exact agg true
  by_cases h10 : t = 126
  · subst h10; exact agg false
  have : (fun body => parseFrame (n + 1) (t :: body)) = fun _ => .err :=
    funext fun body => by simp only [parseFrame, h1, h2, h3, h4, h5, h6, h7, h8, h9, h10, if_false]
  rw [this]; exact other

def Res.ext (e : Bytes) : Res → Res
  | .ok f r => .ok f (r ++ e)
  | .err => .err
  | .need => .need

def ERes.ext (e : Bytes) : ERes → ERes
  | .ok fs r => .ok fs (r ++ e)
  | .err => .err
  | .need => .need

def Stable (e : Bytes) (h : Bytes → Res) : Prop := ∀ d, h d ≠ .need → h (d ++ e) = (h d).ext e

variable {e : Bytes} {p : Bytes → Res}

theorem parseElemsWith_stable (hp : Stable e p) :
    ∀ k d, parseElemsWith p k d ≠ .need →
      parseElemsWith p k (d ++ e) = (parseElemsWith p k d).ext e
  | 0, _, _ => rfl
  | k + 1, d, h => by
    unfold parseElemsWith at h ⊢
    have hd : p d ≠ .need := fun hd => h (by rw [hd])
    rw [hp d hd]
    cases hpd : p d with
    | need => exact absurd hpd hd
    | err => rfl
    | ok f r =>
      simp only [hpd] at h
      have hk : parseElemsWith p k r ≠ .need := fun hk => h (by rw [hk])
      simp only [Res.ext, parseElemsWith_stable hp k r hk]
      cases parseElemsWith p k r <;> rfl

/-- The four parsers that begin with a header line are, by unfolding, `afterLine k`: read the line,
    continue with `k` on it and on what follows. -/
def afterLine (k : Bytes → Bytes → Res) (d : Bytes) : Res :=
  match splitCRLF d with
  | none => .need
  | some (l, r) => k l r

theorem afterLine_stable {k : Bytes → Bytes → Res} (hk : ∀ l, Stable e (k l)) : Stable e (afterLine k) := by
  intro d h
  unfold afterLine at h ⊢
  cases hs : splitCRLF d with
  | none => rw [hs] at h; exact absurd rfl h
  | some lr => obtain ⟨l, r⟩ := lr; rw [splitCRLF_append e hs]; rw [hs] at h; exact hk l r h

theorem parseLineWith_stable (mk : Bytes → Option Frame) : Stable e (parseLineWith mk) :=
  afterLine_stable fun l r _ => by cases mk l <;> rfl

theorem parseBulk_stable : Stable e parseBulk :=
  afterLine_stable fun l r h => by
    cases hq : parseI64 l with
    | none => rfl
    | some n =>
      simp only [hq] at h ⊢
      split
      · rfl
      split
      · rfl
      next h1 h2 =>
        rw [if_neg h1, if_neg h2] at h
        generalize n.toNat = k at h ⊢
        have h3 : k + 2 ≤ r.length := Nat.le_of_not_lt fun h3 => h (if_pos h3)
        rw [if_neg (Nat.not_lt.2 h3), if_neg (by rw [List.length_append]; omega),
          List.drop_append_of_le_length (by omega), List.take_append_of_le_length (by rw [List.length_drop]; omega),
          List.take_append_of_le_length (by omega), List.drop_append_of_le_length h3]
        split <;> rfl

theorem parseArray_stable (hp : Stable e p) : Stable e (parseArray p) :=
  afterLine_stable fun l r h => by
    cases hq : parseI64 l with
    | none => rfl
    | some n =>
      simp only [hq] at h ⊢
      split
      · rfl
      split
      · rfl
      next h1 h2 =>
        have hk : parseElemsWith p n.toNat r ≠ .need := fun hk => h (by rw [if_neg h1, if_neg h2, hk])
        rw [parseElemsWith_stable hp _ _ hk]
        cases parseElemsWith p n.toNat r <;> rfl

theorem parseAgg_stable (hp : Stable e p) (m : Bool) : Stable e (parseAgg p m) :=
  afterLine_stable fun l r h => by
    cases hq : parseU64 l with
    | none => rfl
    | some n =>
      simp only [hq] at h ⊢
      generalize (if m = true then 2 * n else n) = k at h ⊢
      have hk : parseElemsWith p k r ≠ .need := fun hk => h (by rw [hk])
      rw [parseElemsWith_stable hp _ _ hk]
      cases parseElemsWith p k r <;> rfl

theorem parseNull_stable : Stable e parseNull
  | a :: b :: r, _ => by simp only [List.cons_append, parseNull]; split <;> rfl
  | [], h | [_], h => absurd rfl h

theorem parseBool_stable : Stable e parseBool
  | a :: b :: c :: r, _ => by
    simp only [List.cons_append, parseBool]
    split
    · rfl
    · split <;> rfl
  | [], h | [_], h | [_, _], h => absurd rfl h

theorem parseFrame_stable (e : Bytes) : ∀ n, Stable e (parseFrame n)
  | 0, d, _ => by cases d <;> rfl
  | _ + 1, [], h => absurd rfl h
  | n + 1, t :: body, h =>
    parseFrame_body (Q := Stable e) n t (fun mk _ => parseLineWith_stable mk) parseBulk_stable
      parseNull_stable parseBool_stable (parseArray_stable (parseFrame_stable e n))
      (parseAgg_stable (parseFrame_stable e n)) (fun _ _ => rfl) body h

def Accepts (k n : Nat) (p : Bytes → Res) : Prop :=
  ∀ d f r, p d = .ok f r → r.length + k ≤ d.length ∧ f.depth ≤ n

variable {j n : Nat}

theorem Accepts.mono {n' : Nat} (hn : n ≤ n') (h : Accepts j n p) : Accepts j n' p :=
  fun d f r hd => ⟨(h d f r hd).1, Nat.le_trans (h d f r hd).2 hn⟩

theorem parseElemsWith_accepts (hp : Accepts j n p) :
    ∀ k d fs r, parseElemsWith p k d = .ok fs r → r.length ≤ d.length ∧ depthList fs ≤ n
  | 0, d, fs, r, h => by cases h; exact ⟨Nat.le_refl _, Nat.zero_le _⟩
  | k + 1, d, fs, r, h => by
    unfold parseElemsWith at h
    split at h
    · cases h
    · cases h
    next f r1 hpd =>
      split at h <;> cases h
      next fs' hk =>
        have h1 := hp d f r1 hpd
        have h2 := parseElemsWith_accepts hp k r1 fs' r hk
        exact ⟨by omega, Nat.max_le.2 ⟨h1.2, h2.2⟩⟩

theorem afterLine_accepts {k : Bytes → Bytes → Res} (hk : ∀ l, Accepts 0 n (k l)) : Accepts 2 n (afterLine k) := by
  intro d f r h
  unfold afterLine at h
  split at h
  · cases h
  next l r1 hs =>
    have := splitCRLF_length hs
    have := hk l r1 f r h
    exact ⟨by omega, this.2⟩

theorem parseLineWith_accepts {mk : Bytes → Option Frame} (hmk : ∀ l f, mk l = some f → f.depth = 1) :
    Accepts 2 1 (parseLineWith mk) :=
  afterLine_accepts fun l r1 f r h => by
    split at h <;> cases h
    next hm => exact ⟨Nat.le_refl _, Nat.le_of_eq (hmk l f hm)⟩

theorem parseBulk_accepts : Accepts 2 1 parseBulk :=
  afterLine_accepts fun l r1 f r h => by
    split at h
    · cases h
    split at h
    · cases h; exact ⟨Nat.le_refl _, Nat.le_refl 1⟩
    split at h
    · cases h
    split at h
    · cases h
    split at h <;> cases h
    exact ⟨by rw [List.length_drop]; omega, Nat.le_refl 1⟩

theorem parseArray_accepts (hp : Accepts j n p) : Accepts 2 (n + 1) (parseArray p) :=
  afterLine_accepts fun l r1 f r h => by
    split at h
    · cases h
    split at h
    · cases h; exact ⟨Nat.le_refl _, Nat.le_add_left 1 n⟩
    split at h
    · cases h
    split at h <;> cases h
    next hk =>
      have := parseElemsWith_accepts hp _ _ _ _ hk
      exact ⟨this.1, Nat.succ_le_succ this.2⟩

theorem parseAgg_accepts (hp : Accepts j n p) (m : Bool) : Accepts 2 (n + 1) (parseAgg p m) :=
  afterLine_accepts fun l r1 f r h => by
    split at h
    · cases h
    split at h <;> cases h
    next hk =>
      have := parseElemsWith_accepts hp _ _ _ _ hk
      exact ⟨this.1, by cases m <;> exact Nat.succ_le_succ this.2⟩

theorem parseNull_accepts : Accepts 2 1 parseNull := by
  intro d f r h
  unfold parseNull at h
  split at h
  · split at h <;> cases h
    exact ⟨Nat.le_refl _, Nat.le_refl 1⟩
  · cases h

theorem parseBool_accepts : Accepts 2 1 parseBool := by
  intro d f r h
  unfold parseBool at h
  split at h
  · split at h
    · cases h; exact ⟨Nat.le_succ _, Nat.le_refl 1⟩
    · split at h <;> cases h
      exact ⟨Nat.le_succ _, Nat.le_refl 1⟩
  · cases h

theorem parseFrame_accepts : ∀ n, Accepts 3 n (parseFrame n)
  | 0, d, _, _, h => by cases d <;> cases h
  | _ + 1, [], _, _, h => by cases h
  | n + 1, t :: body, f, r, h => by
    have h1 : 1 ≤ n + 1 := Nat.le_add_left 1 n
    have := parseFrame_body (Q := Accepts 2 (n + 1)) n t
      (fun _ hmk => (parseLineWith_accepts hmk).mono h1) (parseBulk_accepts.mono h1)
      (parseNull_accepts.mono h1) (parseBool_accepts.mono h1) (parseArray_accepts (parseFrame_accepts n))
      (parseAgg_accepts (parseFrame_accepts n)) (fun _ _ _ h => by cases h) body f r h
    exact ⟨Nat.succ_le_succ this.1, this.2⟩

theorem parseFrame_shrinks (n : Nat) (d : Bytes) (f : Frame) (r : Bytes) (h : parseFrame n d = .ok f r) :
    r.length + 3 ≤ d.length :=
  (parseFrame_accepts n d f r h).1

theorem parseFrame_depth (n : Nat) (d : Bytes) (f : Frame) (r : Bytes) (h : parseFrame n d = .ok f r) :
    f.depth ≤ n :=
  (parseFrame_accepts n d f r h).2

end Ferrous
