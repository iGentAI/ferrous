/-
  The well-formedness invariant `DbOk` of a database, and the facts about `lookup` / `insert` / `erase` and
  the set and hash helpers from which every command is shown to keep it (Proofs/KsInvCmds.lean).
-/
import FerrousSpec.Model.Keyspace
namespace Ferrous.KS

/-- a stored value is well-formed: collections are non-empty, sets have no duplicate member,
    hashes no duplicate field -/
def valOk : Val → Prop
  | .list xs => xs ≠ []
  | .set xs => xs ≠ [] ∧ xs.Nodup
  | .hash fs => fs ≠ [] ∧ (fs.map (·.1)).Nodup
  | _ => True

/-- the same without non-emptiness (what `putColl` needs: it removes the key when the collection is empty) -/
def valPre : Val → Prop
  | .set xs => xs.Nodup
  | .hash fs => (fs.map (·.1)).Nodup
  | _ => True

def DbOk (db : Db) : Prop := (db.map (·.1)).Nodup ∧ ∀ p ∈ db, valOk p.2.val

theorem DbOk_nil : DbOk [] := ⟨.nil, nofun⟩

theorem lookup_mem {db : Db} {k : Bytes} {e : Entry} (h : lookup db k = some e) : (k, e) ∈ db := by
  fun_induction lookup db k with
  | case1 => cases h
  | case2 => cases h; exact List.mem_cons_self ..
  | case3 k' e' t hk ih => exact List.mem_cons_of_mem _ (ih h)

theorem lookup_eq_none {db : Db} {k : Bytes} (h : k ∉ db.map (·.1)) : lookup db k = none := by
  fun_induction lookup db k with
  | case1 => rfl
  | case2 => exact absurd (List.mem_cons_self ..) h
  | case3 k' e' t hk ih => exact ih fun hm => h (List.mem_cons_of_mem _ hm)

theorem lookup_insert_self (db : Db) (k : Bytes) (e : Entry) : lookup (insert db k e) k = some e := by
  fun_induction insert db k e with
  | case1 => simp [lookup]
  | case2 => simp [lookup]
  | case3 k' e' t hk ih => simp [lookup, hk, ih]

theorem lookup_insert_other (db : Db) (k k' : Bytes) (e : Entry) (h : k' ≠ k) :
    lookup (insert db k e) k' = lookup db k' := by
  fun_induction insert db k e with
  | case1 => simp [lookup, h.symm]
  | case2 => simp [lookup, h.symm]
  | case3 k2 e2 t hk ih => simp only [lookup, ih]

theorem lookup_erase_self (db : Db) (k : Bytes) (h : (db.map (·.1)).Nodup) : lookup (erase db k) k = none := by
  fun_induction erase db k with
  | case1 => rfl
  | case2 => exact lookup_eq_none (List.nodup_cons.mp h).1
  | case3 k' e' t hk ih => simp [lookup, hk, ih (List.nodup_cons.mp h).2]

theorem lookup_erase_other (db : Db) (k k' : Bytes) (h : k' ≠ k) : lookup (erase db k) k' = lookup db k' := by
  fun_induction erase db k with
  | case1 => rfl
  | case2 => simp [lookup, h.symm]
  | case3 k2 e2 t hk ih => simp only [lookup, ih]

theorem erase_sublist (db : Db) (k : Bytes) : (erase db k).Sublist db := by
  fun_induction erase db k with
  | case1 => exact .slnil
  | case2 => exact List.sublist_cons_self ..
  | case3 k' e' t hk ih => exact ih.cons_cons _

theorem mem_insert {db : Db} {k : Bytes} {e : Entry} {p : Bytes × Entry} (h : p ∈ insert db k e) :
    p = (k, e) ∨ p ∈ db := by
  fun_induction insert db k e with
  | case1 => exact .inl (List.mem_singleton.mp h)
  | case2 => exact (List.mem_cons.mp h).imp_right (List.mem_cons_of_mem _)
  | case3 k' e' t hk ih =>
    rcases List.mem_cons.mp h with h | h
    · exact .inr (h ▸ List.mem_cons_self ..)
    · exact (ih h).imp_right (List.mem_cons_of_mem _)

/-- `insert` overwrites in place or appends: the key list changes only for a new key. -/
theorem keys_insert (db : Db) (k : Bytes) (e : Entry) :
    (insert db k e).map (·.1) = if k ∈ db.map (·.1) then db.map (·.1) else db.map (·.1) ++ [k] := by
  fun_induction insert db k e with
  | case1 => rfl
  | case2 => simp
  | case3 k' e' t hk ih =>
    simp only [List.map_cons, ih, List.mem_cons, Ne.symm hk, false_or]
    split <;> rfl

theorem lookup_valOk {db : Db} {k : Bytes} {e : Entry} (hdb : DbOk db) (h : lookup db k = some e) : valOk e.val :=
  hdb.2 (k, e) (lookup_mem h)

theorem list_ne_nil {db : Db} {k : Bytes} {xs : List Bytes} {d : Option Nat} (hdb : DbOk db)
    (h : lookup db k = some ⟨.list xs, d⟩) : xs ≠ [] :=
  lookup_valOk hdb h

theorem set_nodup {db : Db} {k : Bytes} {xs : List Bytes} {d : Option Nat} (hdb : DbOk db)
    (h : lookup db k = some ⟨.set xs, d⟩) : xs.Nodup :=
  (lookup_valOk hdb h).2

theorem hash_nodup {db : Db} {k : Bytes} {fs : List (Bytes × Bytes)} {d : Option Nat} (hdb : DbOk db)
    (h : lookup db k = some ⟨.hash fs, d⟩) : (fs.map (·.1)).Nodup :=
  (lookup_valOk hdb h).2

theorem DbOk.sublist {db l : Db} (hdb : DbOk db) (h : l.Sublist db) : DbOk l :=
  ⟨hdb.1.sublist (h.map _), fun p hp => hdb.2 p (h.subset hp)⟩

theorem nodup_snoc {l : List Bytes} {k : Bytes} (h : l.Nodup) (hk : k ∉ l) : (l ++ [k]).Nodup :=
  List.nodup_append.mpr ⟨h, List.pairwise_singleton _ k, fun _ ha _ hb hab =>
    hk (List.mem_singleton.mp hb ▸ hab ▸ ha)⟩

theorem DbOk_insert {db : Db} (k : Bytes) (e : Entry) (hdb : DbOk db) (he : valOk e.val) : DbOk (insert db k e) := by
  refine ⟨?_, fun p hp => ?_⟩
  · rw [keys_insert]
    split
    · exact hdb.1
    · exact nodup_snoc hdb.1 ‹_›
  · rcases mem_insert hp with rfl | h
    · exact he
    · exact hdb.2 p h

theorem DbOk_erase {db : Db} (k : Bytes) (hdb : DbOk db) : DbOk (erase db k) :=
  hdb.sublist (erase_sublist db k)

theorem DbOk_purge (now : Nat) {db : Db} (hdb : DbOk db) : DbOk (purge now db) :=
  hdb.sublist List.filter_sublist

theorem DbOk_putColl {db : Db} (k : Bytes) (old : Entry) (v : Val) (hdb : DbOk db) (hv : valPre v) :
    DbOk (putColl db k old v) := by
  match v with
  | .list [] | .set [] | .hash [] => exact DbOk_erase k hdb
  | .list (_ :: _) => exact DbOk_insert k _ hdb (List.cons_ne_nil _ _)
  | .set (_ :: _) | .hash (_ :: _) => exact DbOk_insert k _ hdb ⟨List.cons_ne_nil _ _, hv⟩
  | .str _ | .zset _ | .stream _ => exact DbOk_insert k _ hdb trivial

theorem contains_iff (s : List Bytes) (m : Bytes) : s.contains m = true ↔ m ∈ s := by
  simp

theorem addAll_nodup : ∀ (ms s : List Bytes), s.Nodup → (addAll s ms).1.Nodup := by
  intro ms
  induction ms with
  | nil => intro s h; exact h
  | cons m r ih =>
    intro s h
    unfold addAll
    split
    · exact ih s h
    · rename_i hc
      exact ih _ (nodup_snoc h fun hm => hc (List.elem_eq_true_of_mem hm))

theorem addAll_ne_nil : ∀ (ms s : List Bytes), (s ≠ [] ∨ ms ≠ []) → (addAll s ms).1 ≠ [] := by
  intro ms
  induction ms with
  | nil => intro s h; exact h.resolve_right fun h => h rfl
  | cons m r ih =>
    intro s h
    unfold addAll
    split
    · rename_i hc
      exact ih s (.inl fun hs => by simp [hs] at hc)
    · exact ih _ (.inl (by simp))

theorem removeAll_nodup : ∀ (ms s : List Bytes), s.Nodup → (removeAll s ms).1.Nodup := by
  intro ms
  induction ms with
  | nil => intro s h; simpa [removeAll] using h
  | cons m r ih =>
    intro s h
    unfold removeAll
    split
    · simp only
      exact ih _ (List.Nodup.sublist List.filter_sublist h)
    · exact ih s h

theorem hput_keys (fs : List (Bytes × Bytes)) (f v : Bytes) :
    (hput fs f v).map (·.1) = if f ∈ fs.map (·.1) then fs.map (·.1) else fs.map (·.1) ++ [f] := by
  fun_induction hput fs f v with
  | case1 => rfl
  | case2 => simp
  | case3 f' v' t hk ih =>
    simp only [List.map_cons, ih, List.mem_cons, Ne.symm hk, false_or]
    split <;> rfl

theorem hput_nodup (fs : List (Bytes × Bytes)) (f v : Bytes) (h : (fs.map (·.1)).Nodup) :
    ((hput fs f v).map (·.1)).Nodup := by
  rw [hput_keys]
  split
  · exact h
  · exact nodup_snoc h ‹_›

theorem hput_ne_nil (fs : List (Bytes × Bytes)) (f v : Bytes) : hput fs f v ≠ [] := by
  fun_cases hput fs f v <;> exact List.cons_ne_nil _ _

theorem hsetPairs_nodup (fs : List (Bytes × Bytes)) (ps : List Bytes) (n : Nat)
    (h : (fs.map (·.1)).Nodup) : ((hsetPairs fs ps n).1.map (·.1)).Nodup := by
  fun_induction hsetPairs fs ps n with
  | case1 fs f v r n hc ih => exact ih (hput_nodup fs f v h)
  | case2 fs f v r n hc ih => exact ih (hput_nodup fs f v h)
  | case3 => exact h

theorem hsetPairs_ne_nil (fs : List (Bytes × Bytes)) (ps : List Bytes) (n : Nat)
    (h : fs ≠ [] ∨ 2 ≤ ps.length) : (hsetPairs fs ps n).1 ≠ [] := by
  fun_induction hsetPairs fs ps n with
  | case1 fs f v r n hc ih => exact ih (.inl (hput_ne_nil fs f v))
  | case2 fs f v r n hc ih => exact ih (.inl (hput_ne_nil fs f v))
  | case3 ps fs n hne =>
    refine h.resolve_right fun h2 => ?_
    match ps, h2, hne with
    | [], h2, _ | [_], h2, _ => simp at h2
    | f :: v :: r, _, hne => exact hne f v r rfl

theorem hdelFields_nodup (fs : List (Bytes × Bytes)) (ds : List Bytes) (n : Nat)
    (h : (fs.map (·.1)).Nodup) : ((hdelFields fs ds n).1.map (·.1)).Nodup := by
  fun_induction hdelFields fs ds n with
  | case1 fs n => exact h
  | case2 fs f r n hc ih =>
    exact ih (List.Nodup.sublist (List.Sublist.map _ List.filter_sublist) h)
  | case3 fs f r n hc ih => exact ih h

end Ferrous.KS
