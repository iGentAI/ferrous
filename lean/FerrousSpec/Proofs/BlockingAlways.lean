/-
  Blocking pops — what holds for EVERY history and every quirk setting.

  * The service line of a key is FIFO: whatever happens, clients already in line keep their relative order and
    newcomers join behind them (`fifo_runFrom`), and a wake-up delivery goes to the head of the line
    (`wakeOne_serves_head`).
  * The wake queue is empty between events (`quiet_run`) as soon as every place that queues a request also carries
    out all queued requests before it returns: `wakeAtPush` + `drainAll` (the drain after a command) and `serveDrains`
    (each round of `serve_key`).  The measure: `wake_client` removes the request it handles, and queues at most one
    new request, which it takes out of the registry — so `|wake queue| + |registry|` goes down by at least one per
    request handled, and the fuel `|wake queue| + |registry|` of a full drain is enough.
-/
import FerrousSpec.Proofs.BlockingBasic
namespace Ferrous.Blk

/-- `l'` arises from `l` by removing some clients and appending newcomers at the tail. -/
def FifoStep (l l' : List Conn) : Prop := ∃ keep new, keep.Sublist l ∧ l' = keep ++ new

theorem FifoStep.refl (l : List Conn) : FifoStep l l := ⟨l, [], List.Sublist.refl l, by simp⟩

theorem FifoStep.of_eq {l l' : List Conn} (h : l' = l) : FifoStep l l' := h ▸ FifoStep.refl l

theorem FifoStep.of_sublist {l l' : List Conn} (h : l'.Sublist l) : FifoStep l l' := ⟨l', [], h, by simp⟩

theorem FifoStep.of_append {l new : List Conn} : FifoStep l (l ++ new) := ⟨l, new, List.Sublist.refl l, rfl⟩

theorem FifoStep.trans {l₁ l₂ l₃ : List Conn} (h₁ : FifoStep l₁ l₂) (h₂ : FifoStep l₂ l₃) : FifoStep l₁ l₃ := by
  obtain ⟨k₁, n₁, hs₁, rfl⟩ := h₁
  obtain ⟨k₂, n₂, hs₂, rfl⟩ := h₂
  obtain ⟨a, b, rfl, ha, hb⟩ := List.sublist_append_iff.mp hs₂
  exact ⟨a, b ++ n₂, ha.trans hs₁, by simp⟩

theorem lineOf_congr {s t : State} (h1 : t.wakeQ = s.wakeQ) (h2 : t.registry = s.registry) (k : Key) :
    lineOf t k = lineOf s k := by
  unfold lineOf; rw [h1, h2]

theorem lineOf_sublist {s t : State} (h1 : t.wakeQ.Sublist s.wakeQ) (h2 : t.registry.Sublist s.registry) (k : Key) :
    (lineOf t k).Sublist (lineOf s k) :=
  List.Sublist.append ((h1.filter _).map _) ((h2.filter _).map _)

/-- The waiter that `notify` turns into a request was the first of its key in the registry and is the last in the
    wake queue: its place in the line is the same. -/
theorem lineOf_notify (k k' : Key) (s : State) : lineOf (notify k s) k' = lineOf s k' := by
  rcases notify_cases k s with ⟨_, h⟩ | ⟨a, e, b, h1, hek, ha, h⟩
  · rw [h]
  · rw [h]
    simp only [lineOf, h1, List.filter_append, List.map_append, List.filter_cons, List.filter_nil]
    by_cases hk : k' = k
    · subst hk
      have ha' : a.filter (keyIs k') = [] := List.filter_eq_nil_iff.mpr fun y hy => by simp [keyIs_false_iff.mpr (ha y hy)]
      simp [ha', keyIs_iff.mpr hek]
    · have h5 : keyIs k' e = false := keyIs_false_iff.mpr (hek ▸ fun h => hk h.symm)
      have h6 : (k == k') = false := by simpa using fun h => hk h.symm
      simp [h5, h6]

theorem fifoSteps (k : Key) : Steps fun s t => FifoStep (lineOf s k) (lineOf t k) where
  refl _ := .refl _
  trans := .trans
  unblock _ _ := .of_eq (lineOf_congr (by simp) (by simp) k)
  emit _ _ _ _ := .of_eq (lineOf_congr (by simp) (by simp) k)
  deliver _ _ _ _ _ _ _ _ := .of_eq (lineOf_congr (by simp) (by simp) k)
  lose _ _ _ _ _ := .refl _
  notify k' s := .of_eq (lineOf_notify k' k s)
  dequeue s w rest hw :=
    .of_sublist (lineOf_sublist (s := s) (t := { s with wakeQ := rest }) (by rw [hw]; exact List.sublist_cons_self w rest)
      (List.Sublist.refl _) k)
  unreg s r' hr := .of_sublist (lineOf_sublist (s := s) (t := { s with registry := r' }) (List.Sublist.refl _) hr k)
  tx _ _ _ _ := .refl _
  block _ _ _ := .of_eq (lineOf_congr (by simp) (by simp) k)
  push _ _ _ _ := .refl _
  register s new := by
    simp only [lineOf, List.filter_append, List.map_append, ← List.append_assoc]
    exact .of_append

theorem fifo_runFrom (q : Quirks) (k : Key) (evs : List Event) (s : State) :
    FifoStep (lineOf s k) (lineOf (runFrom q s evs) k) :=
  steps_runFrom (fifoSteps k) (fun _ _ _ => .refl _) q evs s

/-- A wake-up delivery (`pair k v` written to `c`) goes to the head of the line of `k`. -/
theorem wakeOne_serves_head (q : Quirks) (s : State) (c : Conn) (k : Key) (v : Elem)
    (h : (wakeOne q s).out = s.out ++ [(c, .pair k v)]) : (lineOf s k).head? = some c := by
  have hne : ∀ (l : List (Conn × Reply)) x, l ≠ l ++ [x] := by
    intro l x hh
    have := congrArg List.length hh
    simp at this
  unfold wakeOne at h
  split at h
  · exact absurd h (hne _ _)
  · next w rest hw =>
    simp only [] at h
    split at h
    · split at h
      · rw [notify_out] at h; exact absurd h (hne _ _)
      · exact absurd h (hne _ _)
    split at h
    · split at h
      · rw [notify_out] at h; simp only [setBlocked_out] at h; exact absurd h (hne _ _)
      · simp only [setBlocked_out] at h; exact absurd h (hne _ _)
    split at h
    · exact absurd h (hne _ _)
    · next e st' hp =>
      obtain ⟨_, _, _, _, hek⟩ := popElem_some hp
      have hout : (emit { s with wakeQ := rest, store := st' } w.conn (.pair e.1 e.2)).out = s.out ++ [(c, .pair k v)] := by
        split at h
        · split at h
          · simpa using h
          · simpa using h
        · exact absurd h (hne _ _)
      unfold emit at hout
      split at hout
      · exact absurd hout (hne _ _)
      · simp only [List.append_cancel_left_eq, List.cons.injEq, Prod.mk.injEq, Reply.pair.injEq, and_true] at hout
        obtain ⟨hc, hk, _⟩ := hout
        have hwk : w.key = k := by rw [← hek, hk]
        simp [lineOf, hw, hwk, hc]

def wakeMeasure (s : State) : Nat := s.wakeQ.length + s.registry.length

theorem measureSteps : WakeSteps fun s t => wakeMeasure t ≤ wakeMeasure s where
  refl _ := Nat.le_refl _
  trans h₁ h₂ := Nat.le_trans h₂ h₁
  unblock _ _ := by simp [wakeMeasure]
  emit _ _ _ _ := by simp [wakeMeasure]
  deliver _ _ _ _ _ _ _ _ := by simp [wakeMeasure]
  lose _ _ _ _ _ := Nat.le_refl _
  notify k s := by
    rcases notify_cases k s with ⟨_, h⟩ | ⟨a, e, b, h1, _, _, h⟩ <;> rw [h]
    · exact Nat.le_refl _
    · simp only [wakeMeasure, h1, List.length_append, List.length_cons, List.length_nil]; omega
  dequeue _ _ _ hw := by simp only [wakeMeasure, hw, List.length_cons]; omega
  unreg _ _ hr := Nat.add_le_add_left hr.length_le _

/-- Every branch of `wake_client` — stale request, vanished client, empty list, served, dropped — uses the request up. -/
theorem wakeOne_wakeMeasure (q : Quirks) {s : State} {w : Wake} {rest : List Wake} (hw : s.wakeQ = w :: rest) :
    wakeMeasure (wakeOne q s) < wakeMeasure s := by
  have := steps_wakeOne_cons measureSteps q hw
  simp only [wakeMeasure, hw, List.length_cons] at this ⊢
  omega

/-- A drain with fuel `|wake queue| + |registry|` leaves no request behind — whatever the state. -/
theorem iter_wakeOne_empties (q : Quirks) : ∀ n s, wakeMeasure s ≤ n → (iter (wakeOne q) n s).wakeQ = []
  | 0, s, h => List.length_eq_zero_iff.mp (by unfold wakeMeasure at h; show s.wakeQ.length = 0; omega)
  | n + 1, s, h => by
    cases hq : s.wakeQ with
    | nil => rw [iter_wakeOne_nil q _ s hq]; exact hq
    | cons w rest =>
      have := wakeOne_wakeMeasure q hq
      exact iter_wakeOne_empties q n _ (by omega)

/-- Every place that queues a wake-up request carries out all queued requests before it returns. -/
def AlwaysDrains (q : Quirks) : Prop := q.wakeAtPush = true ∧ q.drainAll = true ∧ q.serveDrains = true

instance (q : Quirks) : Decidable (AlwaysDrains q) := by unfold AlwaysDrains; infer_instance

theorem quiet_dataCmd (q : Quirks) (hq : AlwaysDrains q) (now : Nat) (c cid : Conn) (s : State) (cmd : Cmd) :
    (dataCmd q now c cid s cmd).wakeQ = [] := by
  unfold dataCmd drain
  simp only [hq.1, hq.2.1, if_true]
  exact iter_wakeOne_empties q _ _ (Nat.le_refl _)

theorem quiet_foldl (q : Quirks) (hq : AlwaysDrains q) (now : Nat) (c cid : Conn) (cmds : List Cmd) :
    ∀ s, s.wakeQ = [] → (cmds.foldl (dataCmd q now c cid) s).wakeQ = [] := by
  induction cmds with
  | nil => intro s h; exact h
  | cons cmd r ih => intro s _; exact ih _ (quiet_dataCmd q hq now c cid s cmd)

theorem quiet_serveKey (q : Quirks) (hq : AlwaysDrains q) (k : Key) : ∀ n s, s.wakeQ = [] → (serveKey q k n s).wakeQ = []
  | 0, _, h => h
  | n + 1, s, h => by
    simp only [serveKey]
    split
    · simp only [hq.2.2, if_true]
      exact quiet_serveKey q hq k n _ (iter_wakeOne_empties q _ _ (Nat.le_refl _))
    · exact h

theorem quiet_serveKeys (q : Quirks) (hq : AlwaysDrains q) (ks : List Key) : ∀ s, s.wakeQ = [] → (serveKeys q ks s).wakeQ = [] := by
  unfold serveKeys
  induction ks with
  | nil => intro s h; exact h
  | cons k r ih => intro s h; exact ih _ (quiet_serveKey q hq k _ s h)

theorem quiet_topCmd (q : Quirks) (hq : AlwaysDrains q) (now : Nat) (c : Conn) (s : State) (cmd : Cmd) (h : s.wakeQ = []) :
    (topCmd q now c s cmd).wakeQ = [] := by
  cases cmd
  case multi => simp only [topCmd]; split <;> simp [h]
  case exec =>
    simp only [topCmd]; split
    · have h2 := quiet_foldl q hq now c 0 (s.conns c).queue
        (emit (setConn s c fun cs => { cs with inTx := false, queue := [] }) c (.arrHdr (s.conns c).queue.length)) (by simp [h])
      split
      · exact quiet_serveKeys q hq _ _ h2
      · exact h2
    · simp [h]
  all_goals
    simp only [topCmd]; split
    · simp [h]
    · exact quiet_dataCmd q hq now c c s _

theorem quiet_runBatch (q : Quirks) (hq : AlwaysDrains q) (now : Nat) (c : Conn) (cmds : List Cmd) :
    ∀ s, s.wakeQ = [] → (runBatch q now c cmds s).wakeQ = [] := by
  induction cmds with
  | nil => intro s h; exact h
  | cons cmd r ih =>
    intro s h
    simp only [runBatch]
    split
    · exact quiet_topCmd q hq now c s cmd h
    · exact ih _ (quiet_topCmd q hq now c s cmd h)

theorem quiet_step (q : Quirks) (hq : AlwaysDrains q) (s : State) (e : Event) (h : s.wakeQ = []) : (step q s e).wakeQ = [] := by
  cases e
  case wakeups =>
    show (iter (wakeOne q) wakeBatch s).wakeQ = []
    rw [iter_wakeOne_nil q _ s h]; exact h
  case conn c now cmds =>
    simp only [step]
    split
    · exact quiet_runBatch q hq now c _ _ h
    · split
      · exact quiet_runBatch q hq now c _ _ h
      · exact h
  case timeouts now => exact (iter_expireOne_wakeQ now _ s).trans h
  all_goals simp only [step]; split <;> exact h

theorem quiet_run (q : Quirks) (hq : AlwaysDrains q) (evs : List Event) : (run q evs).wakeQ = [] := by
  have : ∀ s, s.wakeQ = [] → (runFrom q s evs).wakeQ = [] := by
    unfold runFrom
    induction evs with
    | nil => intro s h; exact h
    | cons e r ih => intro s h; exact ih _ (quiet_step q hq s e h)
  exact this init rfl

end Ferrous.Blk
