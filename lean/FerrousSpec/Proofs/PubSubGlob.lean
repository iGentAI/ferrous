/-
  The star-backtracking matcher `globLoop` computes the declarative meaning `Spec.glob`.
  Invariant of the loop (`globLoop_spec`): with `star` on record,
    result = Spec.glob p s  ||  "`*ps` matches `ss` minus its first byte"   (`alt star`)
  where `(p, s)` lies a number of single-byte tokens after `star = some (ps, ss)` (`Linked`).
  Forgetting earlier stars is sound because a later `*` absorbs whatever an earlier one could
  have skipped (`Linked.backtrack`).
-/
import FerrousSpec.Model.PubSub
namespace Ferrous.PubSub
open Spec

theorem someSuffix_iff (g : Bytes → Bool) (s : Bytes) :
    someSuffix g s = true ↔ ∃ k, g (s.drop k) = true := by
  induction s with
  | nil => simp [someSuffix]
  | cons c s ih =>
    simp only [someSuffix, Bool.or_eq_true, ih]
    constructor
    · rintro (h | ⟨k, h⟩)
      · exact ⟨0, h⟩
      · exact ⟨k + 1, h⟩
    · rintro ⟨k, h⟩
      cases k with
      | zero => exact Or.inl h
      | succ k => exact Or.inr ⟨k, h⟩

theorem someSuffix_self {g : Bytes → Bool} {s : Bytes} (h : g s = true) : someSuffix g s = true :=
  (someSuffix_iff g s).2 ⟨0, h⟩

theorem someSuffix_of_drop {g : Bytes → Bool} {s : Bytes} (k : Nat)
    (h : someSuffix g (s.drop k) = true) : someSuffix g s = true := by
  obtain ⟨j, hj⟩ := (someSuffix_iff g _).1 h
  rw [List.drop_drop] at hj
  exact (someSuffix_iff g s).2 ⟨k + j, hj⟩

theorem classParse_cons (a : Nat) (q : Bytes) : classParse (a :: q) =
    if a = 92 then
      match q with
      | x :: q' => (.one x :: (classParse q').1, (classParse q').2)
      | [] => ([.one 92], [])
    else if a = 93 then ([], q)
    else if isRange q then
      match q with
      | _ :: b :: q' => (.range a b :: (classParse q').1, (classParse q').2)
      | _ => ([], [])
    else (.one a :: (classParse q).1, (classParse q).2) := by
  conv => lhs; rw [classParse.eq_def]
  rfl

theorem classParse_length (q : Bytes) : (classParse q).2.length ≤ q.length := by
  fun_induction classParse q <;> simp [*] <;> omega

theorem isRange_cases {q : Bytes} (h : isRange q = true) : ∃ d b q', q = d :: b :: q' := by
  match q, h with
  | d :: b :: q', _ => exact ⟨d, b, q', rfl⟩

theorem classGo_eq (c : Nat) (q : Bytes) (m : Bool) :
    classGo c q m = (m || (classParse q).1.any (·.has c), (classParse q).2) := by
  fun_induction classGo c q m with
  | case1 => simp [classParse]
  | case2 m x q' ih => rw [classParse_cons]; simp [ih, Item.has, Bool.or_assoc]
  | case3 => rw [classParse_cons]; simp [Item.has]
  | case4 => rw [classParse_cons]; simp
  | case5 a m h92 h93 d b q' hr ih => rw [classParse_cons]; simp [ih, Item.has, Bool.or_assoc, h92, h93, hr]
  | case6 a q m h92 h93 hr hq => obtain ⟨d, b, q', rfl⟩ := isRange_cases hr; exact (hq d b q' rfl).elim
  | case7 a q m h92 h93 hr ih => rw [classParse_cons]; simp [ih, Item.has, Bool.or_assoc, h92, h93, hr]

theorem head_nil : head [] = .done := rfl

theorem head_cons (a : Nat) (p : Bytes) : head (a :: p) =
    if a = 42 then .star p
    else if a = 63 then .tok .any p
    else if a = 91 then
      .tok (.cls (p.head? == some 94) (classParse (if (p.head? == some 94) = true then p.tail else p)).1)
        (classParse (if (p.head? == some 94) = true then p.tail else p)).2
    else if a = 92 then
      match p with
      | x :: p' => .tok (.lit x) p'
      | [] => .tok (.lit 92) []
    else .tok (.lit a) p := rfl

theorem head_cons_cases (a : Nat) (p : Bytes) :
    (a = 42 ∧ head (a :: p) = .star p) ∨
    (a ≠ 42 ∧ ∃ t p', head (a :: p) = .tok t p' ∧ p'.length ≤ p.length) := by
  rw [head_cons]
  by_cases h42 : a = 42
  · exact Or.inl ⟨h42, if_pos h42⟩
  · refine Or.inr ⟨h42, ?_⟩
    rw [if_neg h42]
    by_cases h63 : a = 63
    · exact ⟨_, _, if_pos h63, Nat.le_refl _⟩
    · rw [if_neg h63]
      by_cases h91 : a = 91
      · refine ⟨_, _, if_pos h91, Nat.le_trans (classParse_length _) ?_⟩
        split
        · rw [List.length_tail]; exact Nat.sub_le _ _
        · exact Nat.le_refl _
      · rw [if_neg h91]
        by_cases h92 : a = 92
        · rw [if_pos h92]
          cases p with
          | nil => exact ⟨_, _, rfl, Nat.le_refl _⟩
          | cons x p' => exact ⟨_, _, rfl, Nat.le_succ _⟩
        · exact ⟨_, _, if_neg h92, Nat.le_refl _⟩

theorem head_star {p p' : Bytes} (h : head p = .star p') : p = 42 :: p' := by
  match p with
  | [] => cases h
  | a :: q =>
    rcases head_cons_cases a q with ⟨rfl, e⟩ | ⟨_, t, q', e, _⟩ <;> rw [e] at h
    · injection h with h; rw [h]
    · cases h

theorem head_done {p : Bytes} (h : head p = .done) : p = [] := by
  match p with
  | [] => rfl
  | a :: q => rcases head_cons_cases a q with ⟨_, e⟩ | ⟨_, t, q', e, _⟩ <;> rw [e] at h <;> cases h

theorem head_tok_length {p p' : Bytes} {t : Tok} (h : head p = .tok t p') : p'.length < p.length := by
  match p with
  | [] => cases h
  | a :: q =>
    rcases head_cons_cases a q with ⟨_, e⟩ | ⟨_, t', q', e, hl⟩ <;> rw [e] at h
    · cases h
    · injection h with _ h; subst h; exact Nat.lt_succ_of_le hl

theorem globF_fuel : ∀ (n m : Nat) (p s : Bytes), p.length < n → p.length < m → globF n p s = globF m p s := by
  intro n
  induction n with
  | zero => intro m p s h; omega
  | succ n ih =>
    intro m p s hn hm
    cases m with
    | zero => omega
    | succ m =>
      simp only [globF]
      cases hh : head p with
      | done => rfl
      | star p' =>
        have hp := head_star hh
        subst hp
        simp only [List.length_cons] at hn hm
        have : globF n p' = globF m p' := funext fun t => ih m p' t (by omega) (by omega)
        simp only [this]
      | tok t p' =>
        have hl := head_tok_length hh
        cases s with
        | nil => rfl
        | cons c s' => simp only; rw [ih m p' s' (by omega) (by omega)]

theorem glob_unfold (p s : Bytes) : glob p s =
    match head p with
    | .done => s.isEmpty
    | .star p' => someSuffix (glob p') s
    | .tok t p' =>
      match s with
      | [] => false
      | c :: s' => t.takes c && glob p' s' := by
  show globF (p.length + 1) p s = _
  rw [globF]
  cases hh : head p with
  | done => rfl
  | star p' =>
    have hp := head_star hh
    subst hp
    rfl
  | tok t p' =>
    have hl := head_tok_length hh
    cases s with
    | nil => rfl
    | cons c s' =>
      simp only
      rw [globF_fuel p.length (p'.length + 1) p' s' hl (by omega)]
      rfl

theorem glob_nil (s : Bytes) : glob [] s = s.isEmpty := by rw [glob_unfold, head_nil]

theorem glob_star (p s : Bytes) : glob (42 :: p) s = someSuffix (glob p) s := by
  rw [glob_unfold]; rfl

theorem glob_star_cons (p : Bytes) (c : Nat) (s : Bytes) :
    glob (42 :: p) (c :: s) = (glob p (c :: s) || glob (42 :: p) s) := by
  rw [glob_star, glob_star, someSuffix]

theorem glob_star_nil (p : Bytes) : glob (42 :: p) [] = glob p [] := by
  rw [glob_star, someSuffix]

theorem glob_empty (p : Bytes) : glob p [] = (p.dropWhile (· == 42)).isEmpty := by
  induction p with
  | nil => rfl
  | cons a p ih =>
    rcases head_cons_cases a p with ⟨rfl, _⟩ | ⟨h, t, p', ht, _⟩
    · rw [glob_star_nil, ih]; rfl
    · rw [glob_unfold, ht, List.dropWhile_cons_of_neg (by simpa using h)]; rfl

theorem gstep_eq (p : Bytes) (c : Nat) : gstep p c =
    match head p with
    | .done => .mismatch
    | .star p' => .star p'
    | .tok t p' => if t.takes c then .advance p' else .mismatch := by
  cases p with
  | nil => rfl
  | cons a q =>
    rw [head_cons]
    unfold gstep
    by_cases h63 : a = 63
    · subst h63; simp [Tok.takes]
    · by_cases h42 : a = 42
      · subst h42; simp
      · by_cases h91 : a = 91
        · subst h91
          simp only [h63, h42, if_false, if_true]
          rw [classGo_eq]
          simp only [Bool.false_or, Tok.takes]
          rfl
        · by_cases h92 : a = 92
          · subst h92
            simp only [h63, h42, h91, if_false, if_true]
            cases q with
            | nil => simp [Tok.takes]
            | cons x q' => simp [Tok.takes]
          · simp [h63, h42, h91, h92, Tok.takes]

theorem gstep_spec (p : Bytes) (c : Nat) :
    match gstep p c with
    | .advance p' => ∃ t, head p = .tok t p' ∧ ∀ s, glob p (c :: s) = glob p' s
    | .star p' => p = 42 :: p'
    | .mismatch => ∀ s, glob p (c :: s) = false := by
  rw [gstep_eq]
  cases hh : head p with
  | done => intro s; rw [glob_unfold, hh]; rfl
  | star p' => exact head_star hh
  | tok t p' =>
    simp only
    cases ht : t.takes c with
    | true => exact ⟨t, rfl, fun s => by rw [glob_unfold, hh]; simp only [ht, Bool.true_and]⟩
    | false => intro s; rw [glob_unfold, hh]; simp only [ht, Bool.false_and]

/-- What back-tracking to the star on record can still achieve. -/
def alt : Option (Bytes × Bytes) → Bool
  | some (ps, _ :: ss') => glob (42 :: ps) ss'
  | _ => false

/-- The star on record, if any, lies `n` single-byte tokens before the current position: the text has lost
    `n` bytes since, and whatever the star's pattern matches, the current pattern matches `n` bytes later. -/
def Linked (p s : Bytes) : Option (Bytes × Bytes) → Prop
  | none => True
  | some (ps, ss) => ∃ n, s = ss.drop n ∧ n + s.length = ss.length ∧
      ∀ t, glob ps t = true → n ≤ t.length ∧ glob p (t.drop n) = true

theorem Linked.fresh (p s : Bytes) : Linked p s (some (p, s)) :=
  ⟨0, rfl, Nat.zero_add _, fun _ ht => ⟨Nat.zero_le _, ht⟩⟩

theorem Linked.step {p p' s : Bytes} {c : Nat} {t : Tok} {star : Option (Bytes × Bytes)}
    (h : Linked p (c :: s) star) (hh : head p = .tok t p') : Linked p' s star := by
  match star, h with
  | none, _ => trivial
  | some (ps, ss), ⟨n, hs, hlen, hg⟩ =>
    refine ⟨n + 1, by rw [← List.drop_drop, ← hs]; rfl, by rw [List.length_cons] at hlen; omega, fun u hu => ?_⟩
    obtain ⟨hn, hgl⟩ := hg u hu
    rw [glob_unfold, hh] at hgl
    cases hd : u.drop n with
    | nil => rw [hd] at hgl; cases hgl
    | cons d v =>
      rw [hd] at hgl
      have hl : (u.drop n).length = v.length + 1 := by rw [hd]; rfl
      rw [List.length_drop] at hl
      refine ⟨by omega, ?_⟩
      rw [← List.drop_drop, hd]
      exact (Bool.and_eq_true _ _ ▸ hgl).2

/-- An alternative of the star on record puts the current pattern on a later suffix of the
    current text.  Hence a `*` met now absorbs it, and at the end of the text there is none. -/
theorem Linked.backtrack {p s : Bytes} {star : Option (Bytes × Bytes)} (h : Linked p s star)
    (ha : alt star = true) : 0 < s.length ∧ ∃ k, glob p (s.drop (k + 1)) = true := by
  match star, h, ha with
  | some (ps, x :: ss'), ⟨n, hs, hlen, hg⟩, ha =>
    simp only [alt, glob_star] at ha
    obtain ⟨k, hk⟩ := (someSuffix_iff _ _).1 ha
    obtain ⟨hn, hgl⟩ := hg _ hk
    rw [List.length_drop] at hn
    rw [List.length_cons] at hlen
    refine ⟨by omega, k, ?_⟩
    rw [hs, List.drop_drop, Nat.add_comm n, Nat.add_right_comm, List.drop_succ_cons, ← List.drop_drop]
    exact hgl

theorem or_eq_of_imp {a b c : Bool} (h1 : c = true → a = true) (h2 : b = true → a = true)
    (h3 : a = true → b = true ∨ c = true) : a = (b || c) := by
  cases a <;> cases b <;> cases c <;> simp_all

theorem globLoop_nil (fuel : Nat) (p : Bytes) (star : Option (Bytes × Bytes)) :
    globLoop (fuel + 1) p [] star = glob p [] := (glob_empty p).symm

theorem globLoop_cons (fuel : Nat) (p : Bytes) (c : Nat) (s : Bytes) (star : Option (Bytes × Bytes)) :
    globLoop (fuel + 1) p (c :: s) star =
      match gstep p c with
      | .advance p' => globLoop fuel p' s star
      | .star p' => globLoop fuel p' (c :: s) (some (p', c :: s))
      | .mismatch =>
        match star with
        | some (ps, _ :: ss') => globLoop fuel ps ss' (some (ps, ss'))
        | _ => false := rfl

/-- Loop invariant: the answer is a match from here or an alternative of the star on record.
    Every pass lowers `|p| + (P+1)·k`, where `P` bounds the pattern lengths and `k` the text and the number
    of text positions the star on record can still be moved over: advancing and recording a star shorten
    `p`, back-tracking lowers `k` and resets `p` to at most `P`. -/
theorem globLoop_spec (P : Nat) : ∀ (fuel k : Nat) (p s : Bytes) (star : Option (Bytes × Bytes)),
    Linked p s star → p.length ≤ P → s.length ≤ k →
    (∀ ps ss, star = some (ps, ss) → ps.length ≤ P ∧ ss.length ≤ k) →
    p.length + (P + 1) * k < fuel → globLoop fuel p s star = (glob p s || alt star)
  | 0, _, _, _, _, _, _, _, _, hf => absurd hf (Nat.not_lt_zero _)
  | fuel + 1, _, p, [], star, hl, _, _, _, _ => by
    rw [globLoop_nil]
    cases ha : alt star with
    | false => rw [Bool.or_false]
    | true => exact absurd (hl.backtrack ha).1 (Nat.lt_irrefl 0)
  | fuel + 1, k, p, c :: s, star, hl, hp, hs, hst, hf => by
    rw [globLoop_cons]
    have hsp := gstep_spec p c
    cases hg : gstep p c with
    | advance p' =>
      rw [hg] at hsp
      obtain ⟨t, hh, hgl⟩ := hsp
      have hlt := head_tok_length hh
      simp only
      rw [globLoop_spec P fuel k p' s star (hl.step hh) (by omega) (Nat.le_of_succ_le hs) hst (by omega), hgl]
    | star p' =>
      rw [hg] at hsp
      subst hsp
      simp only [List.length_cons] at hp hf
      simp only
      rw [globLoop_spec P fuel k p' (c :: s) (some (p', c :: s)) (.fresh _ _) (by omega) hs
        (fun _ _ e => by cases e; exact ⟨by omega, hs⟩) (by omega)]
      -- the new star absorbs the alternatives of the one on record
      rw [show (glob p' (c :: s) || alt (some (p', c :: s))) = glob (42 :: p') (c :: s) from (glob_star_cons p' c s).symm]
      cases ha : alt star with
      | false => rw [Bool.or_false]
      | true =>
        obtain ⟨_, j, hj⟩ := hl.backtrack ha
        rw [glob_star] at hj ⊢
        rw [someSuffix_of_drop (j + 1) hj]; rfl
    | mismatch =>
      rw [hg] at hsp
      simp only
      rw [hsp s, Bool.false_or]
      match star, hst with
      | none, _ => rfl
      | some (ps, []), _ => rfl
      | some (ps, x :: ss'), hst =>
        obtain ⟨hps, hss⟩ := hst _ _ rfl
        simp only
        cases k with
        | zero => exact absurd hss (Nat.not_succ_le_zero _)
        | succ k =>
          rw [Nat.mul_succ] at hf
          have hss' := Nat.le_of_succ_le_succ hss
          rw [globLoop_spec P fuel k ps ss' (some (ps, ss')) (.fresh _ _) hps hss'
            (fun _ _ e => by cases e; exact ⟨hps, hss'⟩) (by omega)]
          cases ss' with
          | nil => exact (Bool.or_false _).trans (glob_star_nil ps).symm
          | cons y ss'' => exact (glob_star_cons ps y ss'').symm

theorem globLoop_eq_glob {p s : Bytes} {fuel : Nat} (h : globFuel p s ≤ fuel) : globLoop fuel p s none = glob p s := by
  refine (globLoop_spec p.length fuel s.length p s none trivial (Nat.le_refl _) (Nat.le_refl _) nofun ?_).trans
    (Bool.or_false _)
  have h1 : (p.length + 1) * s.length ≤ (p.length + s.length + 2) * (s.length + 1) :=
    Nat.mul_le_mul (by omega) (Nat.le_succ _)
  have h2 : globFuel p s = (p.length + s.length + 2) * (s.length + 1) + (p.length + s.length + 2) := by
    rw [globFuel, Nat.mul_comm, Nat.mul_succ]
  omega

/-- **The matcher of pubsub.rs computes the declarative meaning of the pattern.** -/
theorem globBytes_eq_spec (p s : Bytes) : globBytes p s = glob p s := globLoop_eq_glob (Nat.le_refl _)

theorem Glob.star_drop {p' s : Bytes} (k : Nat) (h : Glob p' (s.drop k)) : Glob (42 :: p') s := by
  induction k generalizing s with
  | zero => exact .starSkip rfl h
  | succ k ih =>
    cases s with
    | nil => exact .starSkip rfl h
    | cons c s => exact .starEat c rfl (ih h)

theorem glob_of_Glob {p s : Bytes} (h : Glob p s) : glob p s = true := by
  induction h with
  | done hh => rw [glob_unfold, hh]; rfl
  | starSkip hh _ ih => rw [glob_unfold, hh]; exact someSuffix_self ih
  | starEat c hh _ ih =>
    rw [glob_unfold, hh] at ih ⊢
    simp only [someSuffix, ih, Bool.or_true]
  | tok c hh ht _ ih => rw [glob_unfold, hh]; simp only [ht, ih, Bool.and_self]

theorem Glob_of_glob : ∀ (n : Nat) (p : Bytes), p.length ≤ n → ∀ s, glob p s = true → Glob p s := by
  intro n
  induction n with
  | zero =>
    intro p hp s h
    cases p with
    | nil =>
      cases s with
      | nil => exact .done head_nil
      | cons c s => cases h
    | cons a q => cases hp
  | succ n ih =>
    intro p hp s h
    rw [glob_unfold] at h
    cases hh : head p with
    | done =>
      rw [hh] at h
      rw [List.isEmpty_iff.1 h]
      exact .done hh
    | star p' =>
      rw [hh] at h
      have hp' := head_star hh
      subst hp'
      obtain ⟨k, hk⟩ := (someSuffix_iff _ _).1 h
      exact Glob.star_drop k (ih p' (Nat.le_of_succ_le_succ hp) _ hk)
    | tok t p' =>
      rw [hh] at h
      have hl := head_tok_length hh
      cases s with
      | nil => cases h
      | cons c s' =>
        simp only [Bool.and_eq_true] at h
        exact .tok c hh h.1 (ih p' (by omega) s' h.2)

theorem glob_iff_Glob (p s : Bytes) : glob p s = true ↔ Glob p s :=
  ⟨Glob_of_glob p.length p (Nat.le_refl _) s, glob_of_Glob⟩

end Ferrous.PubSub
