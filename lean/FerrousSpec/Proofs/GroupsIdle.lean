/-
  C16: the explicit idle test of XCLAIM and FORCE (`Code.claimT`).
-/
import FerrousSpec.Proofs.GroupsAgree
namespace Ferrous.Grp
open Code

theorem lastOf_setLast (ts : Times) (id : Id) (t : Nat) : lastOf (setLast ts id t) id = t := by
  simp [lastOf, setLast]

theorem idleOk_within {now last T : Nat} (h : now - last < T) : idleOk now last T false = false := by
  simp [idleOk]; omega

theorem claimStepT_refused (q : Quirks) (c : Name) (now T : Nat) (stream : List Id) (s : Group × Times) (id : Id)
    (h : now - lastOf s.2 id < T) : claimStepT q c now T false stream s id = (s, false) := by
  unfold claimStepT
  cases pelFind id s.1.byId with
  | some e => simp only [Bool.false_and, idleOk_within h, claimOne_false]; simp
  | none => simp

theorem claimT_refused (q : Quirks) (stream : List Id) (g : Group) (ts : Times) (c : Name) (now T : Nat) (id : Id)
    (h : now - lastOf ts id < T) : claimT q stream (g, ts) c now T false [id] = ((createConsumer g c, ts), []) := by
  simp only [claimT, claimLoopT, claimStepT_refused q c now T stream (createConsumer g c, ts) id h]
  rfl

theorem claimStepT_stamp {q : Quirks} {c : Name} {now T : Nat} {force : Bool} {stream : List Id} {s : Group × Times}
    {id : Id} (h : (claimStepT q c now T force stream s id).2 = true) :
    lastOf (claimStepT q c now T force stream s id).1.2 id = now := by
  unfold claimStepT at h ⊢
  cases hf : pelFind id s.1.byId with
  | some e =>
    rw [hf] at h; simp only at h ⊢
    simp only [h, if_true]; exact lastOf_setLast s.2 id now
  | none =>
    rw [hf] at h; simp only at h ⊢
    split
    · exact lastOf_setLast s.2 id now
    · rename_i hc; rw [if_neg hc] at h; cases h

theorem claimT_single_claimed {q : Quirks} {stream : List Id} {g : Group} {ts : Times} {c : Name} {now T : Nat}
    {force : Bool} {id : Id} (h : (claimT q stream (g, ts) c now T force [id]).2 = [id]) :
    (claimStepT q c now T force stream (createConsumer g c, ts) id).2 = true := by
  cases hx : (claimStepT q c now T force stream (createConsumer g c, ts) id).2 with
  | true => rfl
  | false =>
    have h' : (if (claimStepT q c now T force stream (createConsumer g c, ts) id).2 then [id] else []) = [id] := h
    rw [hx] at h'; cases h'

theorem claimStepT_idle (q : Quirks) (c : Name) (now T : Nat) (stream : List Id) (s : Group × Times) (id : Id)
    (e : PEntry) (hp : pelFind id s.1.byId = some e) (hT : T ≤ now - lastOf s.2 id) :
    claimStepT q c now T false stream s id = (((claimOne c true s.1 id).1, setLast s.2 id now), true) := by
  have hok : idleOk now (lastOf s.2 id) T false = true := by simp [idleOk, hT]
  unfold claimStepT
  simp only [hp, Bool.false_and, hok, claimOne_some hp, if_true]

theorem claimStepT_refused_force (q : Quirks) (hq : q.forceFix = true) (c : Name) (now T : Nat) (force : Bool)
    (stream : List Id) (s : Group × Times) (id : Id) (e : PEntry) (hp : pelFind id s.1.byId = some e)
    (h : now - lastOf s.2 id < T) : claimStepT q c now T force stream s id = (s, false) := by
  unfold claimStepT
  simp only [hp, hq, Bool.not_true, Bool.and_false, idleOk_within h, claimOne_false]
  simp

/-- with a uniform outcome of the idle test (min-idle 0, or a threshold nothing can reach) and no row creation
    (no FORCE, or the pinned tree) the timed claim is the Boolean one -/
theorem claimLoopT_uniform (q : Quirks) (c : Name) (now minIdle : Nat) (force b : Bool) (stream : List Id)
    (h : ∀ l, idleOk now l minIdle (force && !q.forceFix) = b) (hnc : (q.forceFix && force) = false)
    (ids : List Id) : ∀ (s : Group × Times),
    (claimLoopT q c now minIdle force stream s ids).1.1 = (claimLoop c b s.1 ids).1 ∧
    (claimLoopT q c now minIdle force stream s ids).2 = (claimLoop c b s.1 ids).2 := by
  induction ids with
  | nil => intro s; exact ⟨rfl, rfl⟩
  | cons id ids ih =>
    intro s
    have hstep : (claimStepT q c now minIdle force stream s id).1.1 = (claimOne c b s.1 id).1 ∧
        (claimStepT q c now minIdle force stream s id).2 = (claimOne c b s.1 id).2 := by
      unfold claimStepT
      cases hf : pelFind id s.1.byId with
      | some e => simp only [h]; simp
      | none =>
        simp only [hnc, Bool.false_and, Bool.false_eq_true, if_false]
        simp [claimOne, hf]
    simp only [claimLoopT, claimLoop]
    obtain ⟨h1, h2⟩ := ih (claimStepT q c now minIdle force stream s id).1
    rw [h1, h2, hstep.1, hstep.2]
    exact ⟨rfl, rfl⟩

theorem claimStepT_agree (q : Quirks) (c : Name) (now minIdle : Nat) (force : Bool) (stream : List Id)
    (s : Group × Times) (id : Id) (h : Agree s.1) (hc : (alGet c s.1.consumers).isSome) :
    Agree (claimStepT q c now minIdle force stream s id).1.1 ∧
    (alGet c (claimStepT q c now minIdle force stream s id).1.1.consumers).isSome ∧
    (claimStepT q c now minIdle force stream s id).1.1.lastDelivered = s.1.lastDelivered := by
  unfold claimStepT
  cases hf : pelFind id s.1.byId with
  | some e =>
    simp only
    obtain ⟨_, f2, _, f4⟩ := claimOne_frame c (idleOk now (lastOf s.2 id) minIdle (force && !q.forceFix)) s.1 id
    exact ⟨agree_claimOne h c _ id hc, f4 hc, f2⟩
  | none =>
    simp only
    split
    · exact ⟨agree_addOne h hc (pelFind_none.mp hf), isSome_consAdjust hc, rfl⟩
    · exact ⟨h, hc, rfl⟩

theorem claimLoopT_agree (q : Quirks) (c : Name) (now minIdle : Nat) (force : Bool) (stream : List Id)
    (ids : List Id) : ∀ (s : Group × Times), Agree s.1 → (alGet c s.1.consumers).isSome →
    Agree (claimLoopT q c now minIdle force stream s ids).1.1 ∧
    (claimLoopT q c now minIdle force stream s ids).1.1.lastDelivered = s.1.lastDelivered := by
  induction ids with
  | nil => intro s h _; exact ⟨h, rfl⟩
  | cons id ids ih =>
    intro s h hc
    simp only [claimLoopT]
    obtain ⟨a1, a2, a3⟩ := claimStepT_agree q c now minIdle force stream s id h hc
    obtain ⟨b1, b2⟩ := ih _ a1 a2
    exact ⟨b1, by rw [b2, a3]⟩

end Ferrous.Grp
