/-
  Blocking pops — every event of an `AllowedFixed` history keeps `InvR` (`InvB` between the commands of its batches);
  every event of an `Allowed` history keeps `InvA`, which implies `Inv`; and what follows from the invariant.

  An atomic EXEC (`execAtomic`): the queued commands neither notify nor wake; afterwards every key they pushed to is
  served while it has both waiters and elements (`serveKeys`).  Inside the transaction the counting part of the
  invariant is suspended for the keys pushed so far (`InvX dirty`); serving them restores it.  That the queued commands
  see the lists alone is `Sim`.
-/
import FerrousSpec.Proofs.BlockingFixInv
namespace Ferrous.Blk

/-- The slack that makes the counting clause of `InvG` hold by itself when the wake queue is empty. -/
def autoSlack (s : State) : Key → Nat := fun k => if 0 < cntR s k then cntL s k else 0

/-- Registry, wake queue (empty), blocked states unchanged: the invariant holds again with the automatic slack. -/
theorem InvG.reslack {sl st} {s t : State} (hI : InvG sl st s)
    (hr : t.registry = s.registry) (hw : t.wakeQ = s.wakeQ) (hl : t.lost = s.lost)
    (hc : ∀ c, (t.conns c).blocked = (s.conns c).blocked ∧ (t.conns c).gone = (s.conns c).gone)
    (hq : s.wakeQ = []) : InvG (autoSlack t) st t := by
  refine hI.congr hr hw hl hc ?_
  intro k
  have hW : cntW t k = 0 := cntW_quiet (hw.trans hq) k
  simp only [hW, autoSlack, Nat.zero_add]
  split
  · exact ⟨Nat.le_refl _, fun _ => rfl⟩
  · next h => exact ⟨Nat.zero_le _, fun h' => absurd h' h⟩

/-- Inside an atomic EXEC: everything but the counting clause, an empty wake queue, and the counting clause for
    the keys not pushed to so far. -/
structure InvX (dirty : Key → Prop) (s : State) : Prop where
  inv : ∃ sl, InvG sl noStale s
  quiet : s.wakeQ = []
  calm : Calm s
  clean : ∀ k, ¬ dirty k → 0 < cntR s k → cntL s k = 0

theorem InvB.toX {s : State} (hB : InvB s) : InvX (fun _ => False) s := by
  refine ⟨⟨noSlack, hB.inv⟩, hB.quiet, hB.calm, ?_⟩
  intro k _ hR
  have := (hB.inv.counts k).2 hR
  have hW : cntW s k = 0 := cntW_quiet hB.quiet k
  simpa [hW, noSlack] using this

/-- All keys are clean again: the invariant between commands. -/
theorem InvX.toB {dirty} {s : State} (hX : InvX dirty s) (hall : ∀ k, 0 < cntR s k → cntL s k = 0) : InvB s := by
  obtain ⟨sl, hI⟩ := hX.inv
  refine ⟨hI.congr rfl rfl rfl (fun _ => ⟨rfl, rfl⟩) ?_, hX.quiet, hX.calm⟩
  intro k
  have hW : cntW s k = 0 := cntW_quiet hX.quiet k
  simp only [hW, noSlack, Nat.add_zero]
  exact ⟨Nat.zero_le _, fun h => hall k h⟩

/-- Fewer keys clean: a weaker statement. -/
theorem InvX.mono {dirty dirty' : Key → Prop} {s : State} (hX : InvX dirty s) (h : ∀ k, dirty k → dirty' k) : InvX dirty' s :=
  ⟨hX.inv, hX.quiet, hX.calm, fun k hk => hX.clean k fun hd => hk (h k hd)⟩

theorem InvX.congr {dirty dirty' : Key → Prop} {s t : State} (hX : InvX dirty s)
    (hr : t.registry = s.registry) (hw : t.wakeQ = s.wakeQ) (hl : t.lost = s.lost)
    (hc : ∀ c, (t.conns c).blocked = (s.conns c).blocked ∧ (t.conns c).gone = (s.conns c).gone ∧
      (t.conns c).peerClosed = (s.conns c).peerClosed)
    (hclean : ∀ k, ¬ dirty' k → 0 < cntR t k → cntL t k = 0) : InvX dirty' t := by
  obtain ⟨sl, hI⟩ := hX.inv
  refine ⟨⟨_, hI.reslack hr hw hl (fun c => ⟨(hc c).1, (hc c).2.1⟩) hX.quiet⟩, by rw [hw]; exact hX.quiet, ?_, hclean⟩
  intro c hb
  rw [(hc c).1] at hb
  rw [(hc c).2.2]
  exact hX.calm c hb

theorem InvX_emit {dirty} {s : State} {c : Conn} (hX : InvX dirty s) (h : (s.conns c).peerClosed = false) (r : Reply) :
    InvX dirty (emit s c r) := by
  obtain ⟨sl, hI⟩ := hX.inv
  refine ⟨⟨sl, InvG_emit hI h r⟩, by simp [hX.quiet], by unfold Calm; rw [emit_conns]; exact hX.calm, ?_⟩
  intro k hk hR
  have : cntR (emit s c r) k = cntR s k := by unfold cntR; simp
  have hL : cntL (emit s c r) k = cntL s k := by unfold cntL; simp
  rw [hL]; rw [this] at hR
  exact hX.clean k hk hR

theorem InvX_pop {dirty} {s : State} (hX : InvX dirty s) {op : Op} {k : Key} {e : Key × Elem} {st' : List (Key × Elem)}
    (hp : popElem op k s.store = some (e, st')) : InvX dirty { s with store := st' } := by
  obtain ⟨a, b, h1, h2, _⟩ := popElem_some hp
  refine hX.congr rfl rfl rfl (fun _ => ⟨rfl, rfl, rfl⟩) ?_
  intro k' hk' hR
  have h0 := hX.clean k' hk' hR
  have hL : cntL s k' = st'.countP (keyIs k') + (if k' = e.1 then 1 else 0) := by
    unfold cntL; rw [h1, h2]; exact countP_keyIs_remove _ _ _ _
  show st'.countP (keyIs k') = 0
  omega

theorem InvX_dataCore (q : Quirks) (hx : q.execAtomic = true) (hrit : q.refuseBlockingInTx = true)
    (now : Nat) (c : Conn) {dirty} (s : State) (cmd : Cmd) (hX : InvX dirty s) (hcp : (s.conns c).peerClosed = false) :
    InvX (fun k => dirty k ∨ k ∈ pushKeys [cmd]) (dataCore q now c 0 s cmd) := by
  have hmono : ∀ {t : State}, InvX dirty t → InvX (fun k => dirty k ∨ k ∈ pushKeys [cmd]) t := fun h => h.mono fun _ => .inl
  cases cmd with
  | push op k vs =>
    simp only [dataCore]
    split
    · exact hmono (InvX_emit hX hcp _)
    · simp only [hx, true_and, if_true]
      refine InvX_emit ?_ (by exact hcp) _
      refine hX.congr rfl rfl rfl (fun _ => ⟨rfl, rfl, rfl⟩) ?_
      intro k' hk' hR
      have hne : k' ≠ k := by
        intro e; exact hk' (.inr (by simp [pushKeys, e]))
      have hd : ¬ dirty k' := fun h => hk' (.inl h)
      have h0 := hX.clean k' hd hR
      show (pushElems op k vs s.store).countP (keyIs k') = 0
      rw [countP_pushElems]
      simp only [hne, if_false, Nat.add_zero]
      exact h0
  | pop op k =>
    simp only [dataCore]
    split
    · next e st' hp => exact hmono (InvX_emit (InvX_pop hX hp) hcp _)
    · exact hmono (InvX_emit hX hcp _)
  | bpop op keys t =>
    simp only [dataCore]
    split
    · exact hmono (InvX_emit hX hcp _)
    · split
      · next e st' hp =>
        obtain ⟨k, _, hp'⟩ := firstNonEmpty_some hp
        exact hmono (InvX_emit (InvX_pop hX hp') hcp _)
      · simp only [hrit, and_self, if_true]
        exact hmono (InvX_emit hX hcp _)
  | multi => exact hmono hX
  | exec => exact hmono hX

theorem drain_quiet (q : Quirks) (s : State) (h : s.wakeQ = []) : drain q s = s := by
  unfold drain
  split
  · exact iter_wakeOne_nil q _ s h
  · rfl

/-- Only a push that notifies queues wake-up requests: any push, unless an atomic EXEC executes it. -/
theorem dataCore_wakeQ (q : Quirks) (now : Nat) (c cid : Conn) (s : State) (cmd : Cmd)
    (h : ∀ op k vs, cmd = .push op k vs → q.execAtomic = true ∧ cid = 0) : (dataCore q now c cid s cmd).wakeQ = s.wakeQ := by
  cases cmd with
  | push op k vs =>
    simp only [dataCore, if_pos (h op k vs rfl)]
    split <;> simp
  | pop op k => simp only [dataCore]; split <;> simp
  | bpop op keys t =>
    simp only [dataCore]
    split
    · simp
    · split
      · simp
      · split <;> simp
  | multi => rfl
  | exec => rfl

/-- …so, on an empty wake queue, a command executed by an atomic EXEC is the handler alone. -/
theorem dataCmd_atomic_quiet (q : Quirks) (hx : q.execAtomic = true) (now : Nat) (c : Conn) (s : State) (cmd : Cmd)
    (h : s.wakeQ = []) : dataCmd q now c 0 s cmd = dataCore q now c 0 s cmd := by
  unfold dataCmd
  exact drain_quiet q _ (by rw [dataCore_wakeQ q now c 0 s cmd fun _ _ _ _ => ⟨hx, rfl⟩]; exact h)

theorem pushKeys_cons (cmd : Cmd) (r : List Cmd) : pushKeys (cmd :: r) = pushKeys [cmd] ++ pushKeys r := by
  cases cmd <;> simp [pushKeys]

theorem InvX_foldl (q : Quirks) (hx : q.execAtomic = true) (hrit : q.refuseBlockingInTx = true)
    (now : Nat) (c : Conn) (cmds : List Cmd) : ∀ {dirty} (s : State), InvX dirty s → (s.conns c).peerClosed = false →
      InvX (fun k => dirty k ∨ k ∈ pushKeys cmds) (cmds.foldl (dataCmd q now c 0) s) := by
  induction cmds with
  | nil =>
    intro dirty s hX _
    exact hX.mono fun _ => .inl
  | cons cmd r ih =>
    intro dirty s hX hcp
    simp only [List.foldl_cons]
    have hd : dataCmd q now c 0 s cmd = dataCore q now c 0 s cmd := dataCmd_atomic_quiet q hx now c s cmd hX.quiet
    rw [hd]
    have h1 := InvX_dataCore q hx hrit now c s cmd hX hcp
    have hcp' : ((dataCore q now c 0 s cmd).conns c).peerClosed = false := by
      rw [(steps_dataCore lifeSteps q now c 0 s cmd c).2]; exact hcp
    refine (ih _ h1 hcp').mono fun k hk => ?_
    rw [pushKeys_cons]
    rcases hk with (hk | hk) | hk
    · exact .inl hk
    · exact .inr (List.mem_append_left _ hk)
    · exact .inr (List.mem_append_right _ hk)

theorem any_keyIs_iff_pos {α : Type} (k : Key) (l : List (Key × α)) : l.any (keyIs k) = true ↔ 0 < l.countP (keyIs k) := by
  rw [List.countP_pos_iff, List.any_eq_true]

theorem cntR_notify (k k' : Key) (s : State) :
    cntR (notify k s) k' ≤ cntR s k' ∧ (k' = k → 0 < cntR s k → cntR (notify k s) k < cntR s k) := by
  rcases notify_cases k s with ⟨hp, h⟩ | ⟨a, e, b, h1, hek, _, h⟩ <;> rw [h]
  · have := cntR_zero_of_popFirst_none hp
    exact ⟨Nat.le_refl _, fun _ _ => by omega⟩
  · unfold cntR
    show (a ++ b).countP (keyIs k') ≤ _ ∧ (_ → _ → (a ++ b).countP (keyIs k) < _)
    rw [h1, countP_keyIs_remove, countP_keyIs_remove, hek]
    exact ⟨Nat.le_add_right _ _, fun _ _ => by simp⟩

/-- `wake_client` adds neither elements nor waiters. -/
theorem cntSteps : WakeSteps fun s t => ∀ k, cntL t k ≤ cntL s k ∧ cntR t k ≤ cntR s k where
  refl _ _ := ⟨Nat.le_refl _, Nat.le_refl _⟩
  trans h₁ h₂ k := ⟨Nat.le_trans (h₂ k).1 (h₁ k).1, Nat.le_trans (h₂ k).2 (h₁ k).2⟩
  unblock _ _ _ := by simp [cntL, cntR]
  emit _ _ _ _ _ := by simp [cntL, cntR]
  deliver _ _ _ _ _ _ _ h1 _ := by simp only [cntL, cntR, emit_store, emit_registry, h1, countP_keyIs_remove]; omega
  lose _ _ _ _ h1 _ := by simp only [cntL, cntR, h1, countP_keyIs_remove]; omega
  notify k s k' := ⟨by simp [cntL], (cntR_notify k k' s).1⟩
  dequeue _ _ _ _ _ := ⟨Nat.le_refl _, Nat.le_refl _⟩
  unreg _ _ hr _ := ⟨Nat.le_refl _, hr.countP_le⟩

/-- Carrying out the one queued request empties the queue: further `process_wakeups` calls do nothing. -/
theorem iter_wakeOne_of_quiet (q : Quirks) (n : Nat) (s : State) (h : (wakeOne q s).wakeQ = []) (hn : 0 < n) :
    iter (wakeOne q) n s = wakeOne q s := by
  cases n with
  | zero => omega
  | succ n => simp only [iter]; exact iter_wakeOne_nil q n _ h

theorem serveRound (q : Quirks) (huas : q.unregisterAllOnServe = true) (k : Key) {sl} (s : State)
    (hI : InvG sl noStale s) (hq : s.wakeQ = []) (hcalm : Calm s) (hR : 0 < cntR s k) (hL : 0 < cntL s k) :
    InvG (decAt sl k) noStale (wakeOne q (notify k s)) ∧ (wakeOne q (notify k s)).wakeQ = [] ∧ Calm (wakeOne q (notify k s)) ∧
      (∀ k', cntL (wakeOne q (notify k s)) k' ≤ cntL s k' ∧ cntR (wakeOne q (notify k s)) k' ≤ cntR s k') ∧
      cntR (wakeOne q (notify k s)) k < cntR s k ∧ (notify k s).wakeQ ≠ [] := by
  have hpos : 0 < sl k := by
    have := (hI.counts k).2 hR
    have hW : cntW s k = 0 := cntW_quiet hq k
    omega
  have h1 := InvG_notify_sl k hI hpos (Apart.of_quiet hq)
  obtain ⟨l, hl, h3, _⟩ := notify_wakeQ k s
  have hcalm' : Calm (notify k s) := by unfold Calm; rw [notify_conns]; exact hcalm
  have hcnt := steps_wakeOne cntSteps q (notify k s)
  have hne : (notify k s).wakeQ ≠ [] := by
    rcases notify_cases k s with ⟨hp, _⟩ | ⟨a, e, b, _, _, _, h⟩
    · have := cntR_zero_of_popFirst_none hp; omega
    · rw [h]; simp
  refine ⟨InvG_wakeOne q _ h1 (.inl huas) hcalm', ?_, Calm_wakeOne q _ hcalm', ?_, ?_, hne⟩
  · cases hwq : (notify k s).wakeQ with
    | nil => exact absurd hwq hne
    | cons x r =>
      obtain ⟨e, st', _, heq⟩ := h1.wakeOne_served hcalm' q hwq
      rw [hwq, hq, List.nil_append] at hl
      rw [heq]
      show r = []
      exact List.length_eq_zero_iff.mp (by rw [← hl, List.length_cons] at h3; omega)
  · intro k'
    have hL' : cntL (notify k s) k' = cntL s k' := by unfold cntL; rw [notify_store]
    exact ⟨hL' ▸ (hcnt k').1, Nat.le_trans (hcnt k').2 (cntR_notify k k' s).1⟩
  · exact Nat.lt_of_le_of_lt (hcnt k).2 ((cntR_notify k k s).2 rfl hR)

theorem serveKey_spec (q : Quirks) (huas : q.unregisterAllOnServe = true) (k : Key) :
    ∀ (n : Nat) (s : State), (∃ sl, InvG sl noStale s) → s.wakeQ = [] → Calm s → cntR s k ≤ n →
      (∃ sl, InvG sl noStale (serveKey q k n s)) ∧ (serveKey q k n s).wakeQ = [] ∧ Calm (serveKey q k n s) ∧
      (∀ k', cntL (serveKey q k n s) k' ≤ cntL s k' ∧ cntR (serveKey q k n s) k' ≤ cntR s k') ∧
      (cntR (serveKey q k n s) k = 0 ∨ cntL (serveKey q k n s) k = 0) := by
  intro n
  induction n with
  | zero =>
    intro s hI hq hc hn
    exact ⟨hI, hq, hc, fun _ => ⟨Nat.le_refl _, Nat.le_refl _⟩, .inl (by simp only [serveKey]; omega)⟩
  | succ n ih =>
    intro s hI hq hcalm hn
    simp only [serveKey]
    split
    · next hc =>
      simp only [Bool.and_eq_true] at hc
      have hR : 0 < cntR s k := (any_keyIs_iff_pos k s.registry).mp hc.1
      obtain ⟨sl, hI⟩ := hI
      obtain ⟨g1, g2, gc, g3, g4, gne⟩ := serveRound q huas k s hI hq hcalm hR ((any_keyIs_iff_pos k s.store).mp hc.2)
      have hall : (if q.serveDrains = true then
            iter (wakeOne q) ((notify k s).wakeQ.length + (notify k s).registry.length) (notify k s)
          else wakeOne q (notify k s)) = wakeOne q (notify k s) := by
        split
        · exact iter_wakeOne_of_quiet q _ _ g2 (Nat.lt_of_lt_of_le (List.length_pos_iff.mpr gne) (Nat.le_add_right _ _))
        · rfl
      rw [hall]
      obtain ⟨f1, f2, fc, f3, f4⟩ := ih _ ⟨_, g1⟩ g2 gc (by omega)
      refine ⟨f1, f2, fc, ?_, f4⟩
      intro k'
      exact ⟨Nat.le_trans (f3 k').1 (g3 k').1, Nat.le_trans (f3 k').2 (g3 k').2⟩
    · next hc =>
      refine ⟨hI, hq, hcalm, fun _ => ⟨Nat.le_refl _, Nat.le_refl _⟩, ?_⟩
      simp only [Bool.and_eq_true, not_and] at hc
      by_cases hR : 0 < cntR s k
      · right
        have : ¬ (s.store.any (keyIs k) = true) := hc ((any_keyIs_iff_pos k s.registry).mpr hR)
        have : ¬ 0 < cntL s k := fun h => this ((any_keyIs_iff_pos k s.store).mpr h)
        omega
      · left; omega

/-- After serving the keys `ks`: every one of them, and every key that was clean, is clean. -/
theorem serveKeys_spec (q : Quirks) (huas : q.unregisterAllOnServe = true) (ks : List Key) :
    ∀ (s : State) (dirty : Key → Prop), InvX dirty s →
      InvX (fun k => dirty k ∧ k ∉ ks) (serveKeys q ks s) := by
  unfold serveKeys
  induction ks with
  | nil =>
    intro s dirty hX
    exact hX.mono fun _ hd => ⟨hd, List.not_mem_nil⟩
  | cons k r ih =>
    intro s dirty hX
    simp only [List.foldl_cons]
    obtain ⟨g1, g2, gc, g3, g4⟩ := serveKey_spec q huas k s.registry.length s hX.inv hX.quiet hX.calm List.countP_le_length
    have hX1 : InvX (fun k' => dirty k' ∧ k' ≠ k) (serveKey q k s.registry.length s) := by
      refine ⟨g1, g2, gc, ?_⟩
      intro k' hk' hR
      by_cases hkk : k' = k
      · subst hkk
        rcases g4 with h | h
        · omega
        · exact h
      · have hd : ¬ dirty k' := fun hd => hk' ⟨hd, hkk⟩
        have hR0 : 0 < cntR s k' := Nat.lt_of_lt_of_le hR (g3 k').2
        have := hX.clean k' hd hR0
        have := (g3 k').1
        omega
    exact (ih _ _ hX1).mono fun k' ⟨⟨hd, hne⟩, hnr⟩ => ⟨hd, by simp [hne, hnr]⟩

/-- Same lists, same replies so far, same connection table — registry and wake queue may differ. -/
structure Sim (s t : State) : Prop where
  store : s.store = t.store
  out : s.out = t.out
  conns : s.conns = t.conns
  lost : s.lost = t.lost
  /-- no wake-up request is waiting on either side (a left-over request would be carried out by the drain that
      follows each queued command) -/
  quietL : s.wakeQ = []
  quietR : t.wakeQ = []

theorem Sim_emit {s t : State} (h : Sim s t) (c : Conn) (r : Reply) : Sim (emit s c r) (emit t c r) := by
  have hc : (s.conns c).peerClosed = (t.conns c).peerClosed := by rw [h.conns]
  unfold emit
  rw [hc]
  split
  · split
    · exact ⟨h.store, h.out, h.conns, by show s.lost ++ _ = t.lost ++ _; rw [h.lost], h.quietL, h.quietR⟩
    · exact h
  · exact ⟨h.store, by show s.out ++ _ = t.out ++ _; rw [h.out], h.conns, h.lost, h.quietL, h.quietR⟩

theorem Sim_store {s t : State} (h : Sim s t) (st' : List (Key × Elem)) (pu pu' : List (Key × Elem)) :
    Sim { s with store := st', pushed := pu } { t with store := st', pushed := pu' } :=
  ⟨rfl, h.out, h.conns, h.lost, h.quietL, h.quietR⟩

theorem Sim_dataCore (q : Quirks) (hx : q.execAtomic = true) (now : Nat) (c : Conn) {s t : State} (h : Sim s t) (cmd : Cmd) :
    Sim (dataCore q now c 0 s cmd) (dataCore q now c 0 t cmd) := by
  cases cmd with
  | push op k vs =>
    simp only [dataCore, hx, true_and, if_true]
    split
    · exact Sim_emit h c _
    · rw [h.store]
      exact Sim_emit (Sim_store h _ _ _) c _
  | pop op k =>
    simp only [dataCore]
    rw [h.store]
    split
    · exact Sim_emit (Sim_store h _ _ _) c _
    · exact Sim_emit h c _
  | bpop op keys tm =>
    simp only [dataCore]
    rw [h.store]
    split
    · exact Sim_emit h c _
    · split
      · exact Sim_emit (Sim_store h _ _ _) c _
      · split
        · exact Sim_emit h c _
        · simp only [setBlocked, if_true]
          exact ⟨rfl, h.out, h.conns, h.lost, h.quietL, h.quietR⟩
  | multi => exact h
  | exec => exact h

theorem Sim_foldl (q : Quirks) (hx : q.execAtomic = true) (now : Nat) (c : Conn) (cmds : List Cmd) :
    ∀ {s t : State}, Sim s t → Sim (cmds.foldl (dataCmd q now c 0) s) (cmds.foldl (dataCmd q now c 0) t) := by
  induction cmds with
  | nil => intro s t h; exact h
  | cons cmd r ih =>
    intro s t h
    simp only [List.foldl_cons]
    rw [dataCmd_atomic_quiet q hx now c s cmd h.quietL, dataCmd_atomic_quiet q hx now c t cmd h.quietR]
    exact ih (Sim_dataCore q hx now c h cmd)

theorem InvB_drain (q : Quirks) (hq : Repaired q) (s : State) (hI : InvF s) (hcalm : Calm s)
    (hlen : q.drainAll = true ∨ s.wakeQ.length ≤ wakeBatch) : InvB (drain q s) := by
  obtain ⟨_, hwap, huas, _, _⟩ := hq
  unfold drain
  simp only [hwap, if_true]
  obtain ⟨h1, h2, h3⟩ := InvF_iter_wakeOne q huas (if q.drainAll = true then s.wakeQ.length + s.registry.length else wakeBatch) s hI hcalm (by
    split
    · omega
    · next h =>
      rcases hlen with h' | h'
      · exact absurd h' h
      · exact h')
  exact ⟨h1, h3, h2⟩

theorem Calm_setConn_tx {s : State} (hc : Calm s) (c : Conn) (f : ConnSt → ConnSt) (hf : TxOnly f) : Calm (setConn s c f) :=
  Calm_setConn hc c f (.inl ⟨(hf _).1, (hf _).2.2⟩)

@[simp] theorem notifyN_conns (n : Nat) (k : Key) (s : State) : (notifyN n k s).conns = s.conns := by
  induction n generalizing s with
  | zero => rfl
  | succ n ih => simp only [notifyN]; rw [ih, notify_conns]

/-- A handler leaves the connection table alone, unless it is a blocking pop that blocks. -/
theorem dataCore_conns (q : Quirks) (now : Nat) (c cid : Conn) (s : State) (cmd : Cmd) :
    (dataCore q now c cid s cmd).conns = s.conns ∨
    ∃ op keys t, cmd = .bpop op keys t ∧ (dataCore q now c cid s cmd).conns =
      (setBlocked s cid (some ⟨regKeys q keys, if t = 0 then none else some (now + t), op⟩)).conns := by
  cases cmd with
  | push op k vs =>
    left; simp only [dataCore]
    split
    · simp
    · split <;> simp
  | pop op k => left; simp only [dataCore]; split <;> simp
  | bpop op keys t =>
    simp only [dataCore]
    split
    · left; simp
    · split
      · left; simp
      · split
        · left; simp
        · right
          refine ⟨op, keys, t, rfl, ?_⟩
          unfold setBlocked
          split <;> rfl
  | multi => exact .inl rfl
  | exec => exact .inl rfl

/-- A handler blocks nobody but the connection it runs for, which has a peer. -/
theorem Calm_dataCore (q : Quirks) (now : Nat) (c cid : Conn) (s : State) (cmd : Cmd)
    (hcalm : Calm s) (ho : Open s c) (hcid : cid = c ∨ cid = 0) : Calm (dataCore q now c cid s cmd) := by
  rcases dataCore_conns q now c cid s cmd with h | ⟨_, _, _, _, h⟩
  · exact hcalm.of_conns h
  · intro c' hb
    rw [h] at hb ⊢
    rw [setBlocked_peerClosed]
    rcases hcid with e | e
    · by_cases hcc : c' = cid
      · rw [hcc, e]; exact ho.2.2
      · rw [setBlocked_conns_ne _ _ _ _ hcc] at hb; exact hcalm c' hb
    · have e' : ∀ b, setBlocked s cid b = s := fun b => by unfold setBlocked; rw [if_pos e]
      rw [e'] at hb; exact hcalm c' hb

theorem InvF_dataCore (q : Quirks) (hq : Repaired q) (now : Nat) (c cid : Conn) (s : State) (cmd : Cmd)
    (hnx : ¬ (q.execAtomic = true ∧ cid = 0))
    (hB : InvB s) (ho : Open s c) (hcid : cid = c ∨ cid = 0) (hok : dataOkF q s cid cmd = true) :
    InvF (dataCore q now c cid s cmd) ∧
      (q.drainAll = true ∨ (dataCore q now c cid s cmd).wakeQ.length ≤ wakeBatch) := by
  obtain ⟨hI, hquiet, _⟩ := hB
  obtain ⟨hnpe, _, _, hrit, hddk⟩ := hq
  have hlen : (∀ op k vs, cmd ≠ .push op k vs) →
      q.drainAll = true ∨ (dataCore q now c cid s cmd).wakeQ.length ≤ wakeBatch := fun h => .inr (by
    rw [dataCore_wakeQ q now c cid s cmd fun op k vs e => absurd e (h op k vs), hquiet]; exact Nat.zero_le _)
  cases cmd with
  | push op k vs =>
    simp only [dataCore]
    split
    · exact ⟨InvG_emit hI ho.2.2 _, .inr (by simp [hquiet])⟩
    · obtain ⟨g1, g2⟩ := InvF_push hI ho.2.2 op k vs (.int (listOf (pushElems op k vs s.store) k).length)
        (.inl fun w hw => by rw [hquiet] at hw; cases hw)
      simp only [dataOkF, Bool.or_eq_true, decide_eq_true_eq] at hok
      have hq0 : s.wakeQ.length = 0 := by rw [hquiet]; rfl
      exact ⟨g1, hok.imp id fun h => by omega⟩
  | pop op k => exact ⟨InvF_popCmd hI ho.2.2 q now cid op k (cntW_quiet hquiet k), hlen nofun⟩
  | bpop op keys t =>
    simp only [dataOkF, Bool.or_eq_true, beq_iff_eq, Option.isNone_iff_eq_none] at hok
    exact ⟨InvF_bpopCmd hI ho q now cid op keys t hcid (fun _ => hrit) hok.resolve_left (fun k _ => cntW_quiet hquiet k)
      (by rw [regKeys, if_pos hddk]; exact nodup_dedupL keys), hlen nofun⟩
  | multi => exact ⟨hI, hlen nofun⟩
  | exec => exact ⟨hI, hlen nofun⟩

theorem InvB_dataCmd (q : Quirks) (hq : Repaired q) (now : Nat) (c cid : Conn) (s : State) (cmd : Cmd)
    (hnx : ¬ (q.execAtomic = true ∧ cid = 0))
    (hB : InvB s) (ho : Open s c) (hcid : cid = c ∨ cid = 0) (hok : dataOkF q s cid cmd = true) :
    InvB (dataCmd q now c cid s cmd) := by
  obtain ⟨h1, h2⟩ := InvF_dataCore q hq now c cid s cmd hnx hB ho hcid hok
  unfold dataCmd
  exact InvB_drain q hq _ h1 (Calm_dataCore q now c cid s cmd hB.calm ho hcid) h2

theorem InvB_foldl_dataCmd (q : Quirks) (hq : Repaired q) (now : Nat) (c cid : Conn) (hcid : cid = c ∨ cid = 0)
    (hnx : ¬ (q.execAtomic = true ∧ cid = 0)) (cmds : List Cmd) :
    ∀ s, InvB s → Open s c → dataSeqOkF q now c cid s cmds = true → InvB (cmds.foldl (dataCmd q now c cid) s) := by
  induction cmds with
  | nil => intro s h _ _; exact h
  | cons cmd r ih =>
    intro s h ho hok
    simp only [dataSeqOkF, Bool.and_eq_true] at hok
    exact ih _ (InvB_dataCmd q hq now c cid s cmd hnx h ho hcid hok.1) (Open_dataCmd ho) hok.2

theorem InvB_tx {s : State} {c : Conn} (hB : InvB s) (ho : Open s c) (f : ConnSt → ConnSt) (r : Reply) (hf : TxOnly f) :
    InvB (emit (setConn s c f) c r) :=
  ⟨InvG_emit (InvG_setConn_tx hB.inv c f hf) (Open_setConn_tx ho c f hf).2.2 r, by simp [hB.quiet],
    (Calm_setConn_tx hB.calm c f hf).of_conns (by simp)⟩

theorem InvB_topCmd (q : Quirks) (hq : Repaired q) (now : Nat) (c : Conn) (s : State) (cmd : Cmd)
    (hB : InvB s) (ho : Open s c) (hok : topOkF q now c s cmd = true) : InvB (topCmd q now c s cmd) := by
  have hemit : ∀ r, InvB (emit s c r) := fun r => ⟨InvG_emit hB.inv ho.2.2 r, by simp [hB.quiet], hB.calm.of_conns (by simp)⟩
  cases cmd
  case multi =>
    simp only [topCmd]; split
    · exact hemit _
    · exact InvB_tx hB ho _ _ (fun _ => ⟨rfl, rfl, rfl⟩)
  case exec =>
    simp only [topCmd]
    simp only [topOkF] at hok
    split
    · next hin =>
      simp only [hin, if_true] at hok
      have hB1 : InvB (emit (setConn s c fun cs => { cs with inTx := false, queue := [] }) c (.arrHdr (s.conns c).queue.length)) :=
        InvB_tx hB ho _ _ (fun _ => ⟨rfl, rfl, rfl⟩)
      have hO1 : Open (emit (setConn s c fun cs => { cs with inTx := false, queue := [] }) c (.arrHdr (s.conns c).queue.length)) c :=
        Open_tx ho c _ _ (fun _ => ⟨rfl, rfl, rfl⟩)
      by_cases hx : q.execAtomic = true
      · -- atomic EXEC: no notification, no wake-up inside; the pushed keys are served afterwards
        simp only [hx, if_true]
        have h2 := InvX_foldl q hx hq.2.2.2.1 now c (s.conns c).queue _ hB1.toX hO1.2.2
        have h3 := serveKeys_spec q hq.2.2.1 (pushKeys (s.conns c).queue) _ _ h2
        apply h3.toB
        intro k hR
        by_cases hk : k ∈ pushKeys (s.conns c).queue
        · exact h3.clean k (fun h => h.2 hk) hR
        · refine h3.clean k (fun h => ?_) hR
          rcases h.1 with h' | h'
          · exact h'
          · exact hk h'
      · simp only [hx]
        exact InvB_foldl_dataCmd q hq now c 0 (.inr rfl) (fun h => hx h.1) _ _ hB1 hO1 hok
    · exact hemit _
  all_goals
    simp only [topCmd]; simp only [topOkF] at hok
    split
    · exact InvB_tx hB ho _ _ (fun _ => ⟨rfl, rfl, rfl⟩)
    · next hin => simp only [hin] at hok; exact InvB_dataCmd q hq now c c s _ (fun h => ho.1 h.2) hB ho (.inl rfl) hok

theorem InvB_setConn_tx {s : State} (hB : InvB s) (c : Conn) (f : ConnSt → ConnSt)
    (hf : TxOnly f) :
    InvB (setConn s c f) :=
  ⟨InvG_setConn_tx hB.inv c f hf, by simp [hB.quiet], Calm_setConn_tx hB.calm c f hf⟩

theorem InvB_runBatch (q : Quirks) (hq : Repaired q) (now : Nat) (c : Conn) (cmds : List Cmd) :
    ∀ s, InvB s → Open s c → batchOkF q now c cmds s = true → InvB (runBatch q now c cmds s) := by
  induction cmds with
  | nil => intro s h _ _; exact h
  | cons cmd r ih =>
    intro s h ho hok
    simp only [batchOkF, Bool.and_eq_true] at hok
    simp only [runBatch]
    split
    · exact InvB_setConn_tx (InvB_topCmd q hq now c s cmd h ho hok.1) c _ (fun _ => ⟨rfl, rfl, rfl⟩)
    · next hd =>
      have h2 := hok.2
      simp only [hd, if_false] at h2
      exact ih _ (InvB_topCmd q hq now c s cmd h ho hok.1) (Open_topCmd ho) h2

/-- With an empty wake queue, `calmReg` says that who is blocked has a peer. -/
theorem Calm_of_calmReg {s : State} (hR : InvR s) (h : calmReg s = true) : Calm s := by
  intro c hb
  cases hbc : (s.conns c).blocked with
  | none => exact absurd hbc hb
  | some b =>
    obtain ⟨k, hk⟩ := List.exists_mem_of_ne_nil _ (hR.inv.keysNe c b hbc)
    rcases mem_slots_iff.mp (hR.inv.cover c b hbc k hk) with ⟨w, hw, hwc⟩ | ⟨w, hw, _, _⟩
    · have := List.all_eq_true.mp h (k, w) hw
      simp only [hwc, hbc, Option.isSome_some, Bool.and_true, Bool.not_eq_true'] at this
      exact this
    · rw [hR.quiet] at hw; cases hw

theorem InvR_step (q : Quirks) (hq : Repaired q) (s : State) (e : Event) (hR : InvR s) (hok : eventOkF q s e = true) :
    InvR (step q s e) := by
  cases e with
  | wakeups =>
    show InvR (iter (wakeOne q) wakeBatch s)
    rw [iter_wakeOne_nil q _ s hR.quiet]; exact hR
  | conn c now cmds =>
    simp only [step]
    simp only [eventOkF, Bool.and_eq_true] at hok
    split
    · next hcr =>
      have hok2 := hok.2
      simp only [hcr, if_true] at hok2
      have hB : InvB s := ⟨hR.inv, hR.quiet, Calm_of_calmReg hR hok.1⟩
      exact (InvB_runBatch q hq now c _ _ (InvB_setConn_tx hB c (fun cs => { cs with pending := [] }) (fun _ => ⟨rfl, rfl, rfl⟩))
        (Open_setConn_tx (Open_of_canRun hcr) c (fun cs => { cs with pending := [] }) (fun _ => ⟨rfl, rfl, rfl⟩)) hok2).toR
    · next hcr =>
      have hok2 := hok.2
      simp only [hcr, Bool.false_eq_true, if_false, Bool.not_eq_true'] at hok2
      simp only [hok2, Bool.false_eq_true, if_false]
      exact hR
  | timeouts now =>
    exact ⟨InvF_timeouts now s hR.inv (.of_quiet hR.quiet), by
      show (iter (expireOne now) s.registry.length s).wakeQ = []
      rw [iter_expireOne_wakeQ]; exact hR.quiet⟩
  | hangup c =>
    simp only [step]
    split
    · exact ⟨InvF_setConn_life s c _ hR.inv rfl rfl, by simp [hR.quiet]⟩
    · exact hR
  | reap c =>
    simp only [step]
    split
    · exact ⟨InvF_reap s c hR.inv (fun w hw => by rw [hR.quiet] at hw; cases hw), hR.quiet⟩
    · exact hR
  | kill c =>
    simp only [step]
    simp only [eventOkF, Option.isNone_iff_eq_none] at hok
    split
    · exact ⟨InvF_setConn_life s c _ hR.inv (by rw [hok]) rfl, by simp [hR.quiet]⟩
    · exact hR
  | hangupDirty c =>
    simp only [step]
    split
    · exact ⟨InvF_setConn_life s c _ hR.inv rfl rfl, by simp [hR.quiet]⟩
    · exact hR

theorem InvR_runFrom (q : Quirks) (hq : Repaired q) (evs : List Event) :
    ∀ s, InvR s → allowedFixedFrom q s evs = true → InvR (runFrom q s evs) := by
  induction evs with
  | nil => intro s h _; exact h
  | cons e r ih =>
    intro s h hok
    simp only [allowedFixedFrom, Bool.and_eq_true] at hok
    exact ih _ (InvR_step q hq s e h hok.1) hok.2

theorem InvR_run (q : Quirks) (hq : Repaired q) (evs : List Event) (h : AllowedFixed q evs) : InvR (run q evs) :=
  InvR_runFrom q hq evs init InvB_init.toR h

/-- `Inv` says of single-key waits what `InvF` says of any. -/
theorem InvA.toInv {s : State} (h : InvA s) : Inv s := by
  obtain ⟨hI, hC, hS⟩ := h
  have hline : line s = (slotsOf s).map (·.2) := by simp [line, slotsOf, List.map_append, Function.comp_def]
  have hslot : ∀ {k c}, (k, c) ∈ slotsOf s → ∃ b, (s.conns c).blocked = some b ∧ b.keys = [k] := by
    intro k c hm
    rcases mem_slots_iff.mp hm with ⟨w, hw, rfl⟩ | ⟨w, hw, rfl, rfl⟩
    · obtain ⟨b, hb, hk, _⟩ := hI.reg_blocked hw
      obtain ⟨k', hk'⟩ := hS _ b hb
      rw [hk', List.mem_singleton] at hk
      exact ⟨b, hb, hk ▸ hk'⟩
    · obtain ⟨b, hb, hk, _⟩ := hI.wakeOk w hw
      obtain ⟨k', hk'⟩ := hS _ b hb
      rw [hk', List.mem_singleton] at hk
      exact ⟨b, hb, hk ▸ hk'⟩
  refine ⟨?_, ?_, ?_, ?_, ?_, hI.counts, hI.lost⟩
  · intro k w hw
    obtain ⟨b, hb, _, hdl, hop⟩ := hI.reg_blocked hw
    obtain ⟨b', hb', hk⟩ := hslot (mem_slots_reg hw)
    rw [hb] at hb'
    obtain rfl := Option.some.inj hb'
    rw [hb, hdl, hop, ← hk]
  · intro w hw
    obtain ⟨b, hb, _, hop⟩ := hI.wakeOk w hw
    obtain ⟨b', hb', hk⟩ := hslot (mem_slots_wake hw)
    rw [hb] at hb'
    obtain rfl := Option.some.inj hb'
    exact ⟨b.deadline, by rw [hb, hop, ← hk]⟩
  · -- two slots of one connection are slots for its one key: the same slot
    rw [hline]
    refine List.pairwise_map.mpr (hI.slots.imp_of_mem ?_)
    intro x y hx hy hxy hc
    obtain ⟨b, hb, hk⟩ := hslot (k := x.1) (c := x.2) hx
    obtain ⟨b', hb', hk'⟩ := hslot (k := y.1) (c := y.2) hy
    rw [hc, hb'] at hb
    obtain rfl := Option.some.inj hb
    exact hxy (Prod.ext (List.cons.inj (hk.symm.trans hk')).1 hc)
  · intro c hc
    cases hb : (s.conns c).blocked with
    | none => exact absurd hb hc
    | some b =>
      obtain ⟨k, hk⟩ := hS c b hb
      rw [hline]
      exact List.mem_map.mpr ⟨(k, c), hI.cover c b hb k (by rw [hk]; simp), rfl⟩
  · intro c hc
    exact ⟨(hI.alive c hc).1, (hI.alive c hc).2, hC c hc⟩

theorem InvA.apart {p} {s : State} (h : InvA s) : Apart p s := h.inv.apart_of_single h.single

theorem InvA_init : InvA init := ⟨InvB_init.inv, InvB_init.calm, fun _ _ h => by cases h⟩

theorem InvA_wakeOne (q : Quirks) (s : State) (h : InvA s) : InvA (wakeOne q s) :=
  ⟨InvG_wakeOne q s h.inv (.inr h.single) h.calm, Calm_wakeOne q s h.calm, h.single.of_steps (steps_wakeOne unblockSteps q s)⟩

theorem InvA_iter {f : State → State} (hf : ∀ s, InvA s → InvA (f s)) : ∀ n s, InvA s → InvA (iter f n s)
  | 0, _, h => h
  | n + 1, s, h => InvA_iter hf n _ (hf s h)

theorem InvA_emit {s : State} {c : Conn} (h : InvA s) (hp : (s.conns c).peerClosed = false) (r : Reply) : InvA (emit s c r) :=
  ⟨InvG_emit h.inv hp r, h.calm.of_conns (emit_conns ..), h.single.of_conns (emit_conns ..)⟩

theorem InvA_setConn_tx {s : State} (h : InvA s) (c : Conn) (f : ConnSt → ConnSt) (hf : TxOnly f) : InvA (setConn s c f) :=
  ⟨InvG_setConn_tx h.inv c f hf, Calm_setConn_tx h.calm c f hf, Single_setConn h.single c f (.inl (hf _).1)⟩

theorem InvA_tx {s : State} {c : Conn} (h : InvA s) (ho : Open s c) (f : ConnSt → ConnSt) (r : Reply) (hf : TxOnly f) :
    InvA (emit (setConn s c f) c r) :=
  InvA_emit (InvA_setConn_tx h c f hf) (Open_setConn_tx ho c f hf).2.2 r

theorem InvA_dataCmd (q : Quirks) (hx : q.execAtomic = false) (now : Nat) (c cid : Conn) (s : State) (cmd : Cmd)
    (h : InvA s) (ho : Open s c) (hcid : cid = c ∨ cid = 0) (hok : dataOk s cid cmd = true) :
    InvA (dataCmd q now c cid s cmd) := by
  obtain ⟨hI, hC, hS⟩ := h
  obtain ⟨hc0, hcg, hcp⟩ := ho
  have hcore : InvA (dataCore q now c cid s cmd) := by
    refine ⟨?_, Calm_dataCore q now c cid s cmd hC ⟨hc0, hcg, hcp⟩ hcid, ?_⟩
    · cases cmd with
      | push op k vs =>
        simp only [dataOk, beq_iff_eq] at hok
        obtain ⟨v, rfl⟩ := List.length_eq_one_iff.mp hok
        simp only [dataCore, List.isEmpty_cons, Bool.false_eq_true, if_false, List.length_cons, List.length_nil,
          Nat.zero_add, ite_self, hx, false_and]
        exact (InvF_push hI hcp op k [v] _ (.inr hS)).1
      | pop op k => exact InvF_popCmd hI hcp q now cid op k (cntW_zero_of_noWakeFor hok)
      | bpop op keys t =>
        simp only [dataOk, Bool.and_eq_true, bne_iff_ne, ne_eq, beq_iff_eq, Option.isNone_iff_eq_none] at hok
        obtain ⟨⟨⟨hcid0, hlen⟩, hnb⟩, hall⟩ := hok
        obtain ⟨k, rfl⟩ := List.length_eq_one_iff.mp hlen
        exact InvF_bpopCmd hI ⟨hc0, hcg, hcp⟩ q now cid op [k] t hcid (fun h => absurd h hcid0) (fun _ => hnb)
          (fun k' hk' => cntW_zero_of_noWakeFor (List.all_eq_true.mp hall k' hk')) (by rw [regKeys_single]; simp)
      | multi => exact hI
      | exec => exact hI
    · rcases dataCore_conns q now c cid s cmd with e | ⟨op, keys, t, rfl, e⟩
      · exact hS.of_conns e
      · simp only [dataOk, Bool.and_eq_true, bne_iff_ne, ne_eq, beq_iff_eq] at hok
        obtain ⟨k, rfl⟩ := List.length_eq_one_iff.mp hok.1.1.2
        intro c' b hb
        rw [e] at hb
        by_cases hcc : c' = cid
        · subst hcc
          rw [setBlocked_blocked_self _ _ _ hok.1.1.1] at hb
          obtain rfl := Option.some.inj hb
          exact ⟨k, regKeys_single q k⟩
        · rw [setBlocked_conns_ne _ _ _ _ hcc] at hb
          exact hS c' b hb
  unfold dataCmd drain
  split
  · exact InvA_iter (InvA_wakeOne q) _ _ hcore
  · exact hcore

theorem InvA_foldl_dataCmd (q : Quirks) (hx : q.execAtomic = false) (now : Nat) (c cid : Conn) (hcid : cid = c ∨ cid = 0) (cmds : List Cmd) :
    ∀ s, InvA s → Open s c → dataSeqOk q now c cid s cmds = true → InvA (cmds.foldl (dataCmd q now c cid) s) := by
  induction cmds with
  | nil => intro s h _ _; exact h
  | cons cmd r ih =>
    intro s h ho hok
    simp only [dataSeqOk, Bool.and_eq_true] at hok
    exact ih _ (InvA_dataCmd q hx now c cid s cmd h ho hcid hok.1) (Open_dataCmd ho) hok.2

theorem InvA_topCmd (q : Quirks) (hx : q.execAtomic = false) (now : Nat) (c : Conn) (s : State) (cmd : Cmd)
    (hI : InvA s) (ho : Open s c) (hok : topOk q now c s cmd = true) : InvA (topCmd q now c s cmd) := by
  cases cmd
  case multi =>
    simp only [topCmd]; split
    · exact InvA_emit hI ho.2.2 _
    · exact InvA_tx hI ho _ _ (fun _ => ⟨rfl, rfl, rfl⟩)
  case exec =>
    simp only [topCmd]
    simp only [topOk] at hok
    split
    · next hin =>
      simp only [hin, if_true] at hok
      simp only [hx, Bool.false_eq_true, if_false]
      exact InvA_foldl_dataCmd q hx now c 0 (.inr rfl) _ _ (InvA_tx hI ho _ _ (fun _ => ⟨rfl, rfl, rfl⟩))
        (Open_tx ho c _ _ (fun _ => ⟨rfl, rfl, rfl⟩)) hok
    · exact InvA_emit hI ho.2.2 _
  all_goals
    simp only [topCmd]; simp only [topOk] at hok
    split
    · exact InvA_tx hI ho _ _ (fun _ => ⟨rfl, rfl, rfl⟩)
    · next hin => simp only [hin] at hok; exact InvA_dataCmd q hx now c c s _ hI ho (.inl rfl) hok

theorem InvA_runBatch (q : Quirks) (hx : q.execAtomic = false) (now : Nat) (c : Conn) (cmds : List Cmd) :
    ∀ s, InvA s → Open s c → batchOk q now c cmds s = true → InvA (runBatch q now c cmds s) := by
  induction cmds with
  | nil => intro s h _ _; exact h
  | cons cmd r ih =>
    intro s h ho hok
    simp only [batchOk, Bool.and_eq_true] at hok
    simp only [runBatch]
    split
    · exact InvA_setConn_tx (InvA_topCmd q hx now c s cmd h ho hok.1) c _ (fun _ => ⟨rfl, rfl, rfl⟩)
    · next hd =>
      have h2 := hok.2
      simp only [hd, if_false] at h2
      exact ih _ (InvA_topCmd q hx now c s cmd h ho hok.1) (Open_topCmd ho) h2

/-- An update of an unblocked connection that leaves it unblocked and in the table (hang-up, CLIENT KILL). -/
theorem InvA_unblocked_upd {s : State} (h : InvA s) (c : Conn) (f : ConnSt → ConnSt) (hnb : (s.conns c).blocked = none)
    (hf : (f (s.conns c)).blocked = none) (hg : (f (s.conns c)).gone = (s.conns c).gone) : InvA (setConn s c f) :=
  ⟨InvF_setConn_life s c f h.inv (hf.trans hnb.symm) hg, Calm_setConn h.calm c f (.inr hf), Single_setConn h.single c f (.inr hf)⟩

theorem InvA_step (q : Quirks) (hx : q.execAtomic = false) (s : State) (e : Event) (hI : InvA s) (hok : eventOk q s e = true) :
    InvA (step q s e) := by
  cases e with
  | wakeups => exact InvA_iter (InvA_wakeOne q) _ _ hI
  | conn c now cmds =>
    simp only [step]
    simp only [eventOk] at hok
    split
    · next hcr =>
      simp only [hcr, if_true] at hok
      exact InvA_runBatch q hx now c _ _ (InvA_setConn_tx hI c _ (fun _ => ⟨rfl, rfl, rfl⟩))
        (Open_setConn_tx (Open_of_canRun hcr) c _ (fun _ => ⟨rfl, rfl, rfl⟩)) hok
    · next hcr =>
      simp only [hcr, Bool.false_eq_true, if_false, Bool.not_eq_true'] at hok
      simp only [hok, Bool.false_eq_true, if_false]
      exact hI
  | timeouts now =>
    exact ⟨InvF_timeouts now s hI.inv hI.apart,
      hI.calm.of_steps (steps_iter unblockSteps (steps_expireOne unblockSteps now) _ s)
        (steps_iter lifeSteps.toWakeSteps (steps_expireOne lifeSteps.toWakeSteps now) _ s),
      hI.single.of_steps (steps_iter unblockSteps (steps_expireOne unblockSteps now) _ s)⟩
  | hangup c =>
    simp only [step]
    simp only [eventOk, Option.isNone_iff_eq_none] at hok
    split
    · exact InvA_unblocked_upd hI c _ hok hok rfl
    · exact hI
  | reap c =>
    simp only [step]
    split
    · next hc =>
      simp only [Bool.and_eq_true] at hc
      -- the peer of a blocked client is there: the connection reaped is not blocked
      have hnb : (s.conns c).blocked = none := by
        cases hb : (s.conns c).blocked with
        | none => rfl
        | some b => rw [hI.calm c (by rw [hb]; simp)] at hc; cases hc.1.2
      exact ⟨InvF_reap s c hI.inv (fun w hw => hI.inv.no_wake_of_unblocked hnb hw),
        (Calm_setConn hI.calm c (fun cs => { cs with gone := true, blocked := none }) (.inr rfl)).of_conns rfl,
        (Single_setConn hI.single c (fun cs => { cs with gone := true, blocked := none }) (.inr rfl)).of_conns rfl⟩
    · exact hI
  | kill c =>
    simp only [step]
    simp only [eventOk, Option.isNone_iff_eq_none] at hok
    split
    · exact InvA_unblocked_upd hI c _ hok rfl rfl
    · exact hI
  | hangupDirty c =>
    simp only [step]
    simp only [eventOk, Option.isNone_iff_eq_none] at hok
    split
    · exact InvA_unblocked_upd hI c _ hok hok rfl
    · exact hI

theorem InvA_runFrom (q : Quirks) (hx : q.execAtomic = false) (evs : List Event) :
    ∀ s, InvA s → allowedFrom q s evs = true → InvA (runFrom q s evs) := by
  induction evs with
  | nil => intro s h _; exact h
  | cons e r ih =>
    intro s h hok
    simp only [allowedFrom, Bool.and_eq_true] at hok
    exact ih _ (InvA_step q hx s e h hok.1) hok.2

theorem InvA_run (q : Quirks) (hx : q.execAtomic = false) (evs : List Event) (h : Allowed q evs) : InvA (run q evs) :=
  InvA_runFrom q hx evs init InvA_init h

theorem InvR.not_stranded {s : State} (hB : InvR s) {c : Conn} {k : Key} (hb : blockedOn s c k) :
    listOf s.store k = [] := by
  obtain ⟨b, hb, hk⟩ := hb
  rcases mem_slots_iff.mp (hB.inv.cover c b hb k hk) with ⟨w, hw, _⟩ | ⟨w, hw, _, _⟩
  · have hR : 0 < cntR s k := by
      unfold cntR
      exact List.countP_pos_iff.mpr ⟨(k, w), hw, by simp [keyIs]⟩
    have hc := (hB.inv.counts k).2 hR
    have hW : cntW s k = 0 := cntW_quiet hB.quiet k
    simp only [hW, noSlack, Nat.add_zero] at hc
    unfold listOf
    have : s.store.filter (keyIs k) = [] := by
      apply List.filter_eq_nil_iff.mpr
      intro y hy
      have := List.countP_eq_zero.mp hc y hy
      simpa using this
    rw [this]; rfl
  · rw [hB.quiet] at hw; cases hw

theorem InvR.registry_iff {s : State} (hB : InvR s) (c : Conn) (k : Key) :
    inRegistry s k c ↔ blockedOn s c k := by
  constructor
  · rintro ⟨w, hw, rfl⟩
    obtain ⟨b, hb, hk, _⟩ := hB.inv.reg_blocked hw
    exact ⟨b, hb, hk⟩
  · rintro ⟨b, hb, hk⟩
    rcases mem_slots_iff.mp (hB.inv.cover c b hb k hk) with ⟨w, hw, hwc⟩ | ⟨w, hw, _, _⟩
    · exact ⟨w, hw, hwc⟩
    · rw [hB.quiet] at hw; cases hw

theorem InvG.no_leftover {sl} {s : State} (hI : InvG sl noStale s) {c : Conn} (hc : (s.conns c).blocked = none) :
    c ∉ line s := by
  intro h
  rcases mem_line_iff.mp h with ⟨k, w, hw, hwc⟩ | ⟨w, hw, hwc⟩
  · exact hI.no_reg_of_unblocked hc hw hwc
  · exact hI.no_wake_of_unblocked hc hw hwc

/-- One step of the scan releases `c` only if the deadline of the call `c` is blocked in has passed. -/
theorem expireOne_blocked_scan (now : Nat) (s : State) (hI : InvG noSlack (staleAt now) s) (c : Conn) (b : Blocked)
    (hb : (s.conns c).blocked = some b) :
    ((expireOne now s).conns c).blocked = some b ∨ ∃ d, b.deadline = some d ∧ d ≤ now := by
  unfold expireOne
  split
  · exact .inl hb
  · next e reg' hp =>
    obtain ⟨a, b', h1, _, h3, _⟩ := popFirst_some hp
    by_cases hc : c = e.2.conn
    · right
      have hemem : (e.1, e.2) ∈ s.registry := by rw [h1]; simp
      rcases hI.regOk e.1 e.2 hemem with ⟨b0, hb0, _, hdl, _⟩ | ⟨hn, _⟩
      · rw [← hc, hb] at hb0
        obtain rfl := Option.some.inj hb0
        unfold isExpired at h3
        split at h3
        · next d hd => exact ⟨d, by rw [← hdl, hd], by simpa using h3⟩
        · cases h3
      · rw [← hc, hb] at hn; cases hn
    · left
      unfold timeoutConn
      split
      · rw [setBlocked_conns_ne _ _ _ _ hc, emit_conns]; exact hb
      · exact hb

/-- The deadline scan releases a client only at or after the deadline of the call it is blocked in. -/
theorem InvG.never_early_nil {s : State} (hI : InvF s) (now : Nat) (hfree : Apart (staleAt now) s) (c : Conn) (b : Blocked)
    (hb : (s.conns c).blocked = some b)
    (hn : ((iter (expireOne now) s.registry.length s).conns c).blocked = none) : ∃ d, b.deadline = some d ∧ d ≤ now := by
  have : ∀ n s, InvG noSlack (staleAt now) s → Apart (staleAt now) s → (s.conns c).blocked = some b →
      ((iter (expireOne now) n s).conns c).blocked = none → ∃ d, b.deadline = some d ∧ d ≤ now := by
    intro n
    induction n with
    | zero => intro s _ _ hb hn; simp only [iter] at hn; rw [hb] at hn; cases hn
    | succ n ih =>
      intro s hI hq hb hn
      rcases expireOne_blocked_scan now s hI c b hb with h | h
      · exact ih _ (InvScan_expireOne now s hI hq) (hq.shrink (expireOne_sublist now s) (expireOne_wakeQ now s)) h hn
      · exact h
  exact this _ s (hI.toScan now) hfree hb hn

/-- And it does release it: after the scan at `now` no client whose deadline has passed, and that has no wake-up under
    way, is still blocked. -/
theorem InvG.timeout_fires {s : State} (hI : InvF s) (now : Nat) (hfree : Apart (staleAt now) s) (c : Conn) (b : Blocked) (d : Nat)
    (hb : (s.conns c).blocked = some b) (hd : b.deadline = some d) (hle : d ≤ now)
    (hw : ∀ w, w ∈ s.wakeQ → w.conn ≠ c) :
    ((iter (expireOne now) s.registry.length s).conns c).blocked = none := by
  rcases steps_iter unblockSteps (steps_expireOne unblockSteps now) s.registry.length s c with h | h
  · exfalso
    have hI' : InvF (iter (expireOne now) s.registry.length s) := InvF_timeouts now s hI hfree
    have hb' : ((iter (expireOne now) s.registry.length s).conns c).blocked = some b := h.trans hb
    obtain ⟨k, hk⟩ := List.exists_mem_of_ne_nil _ (hI'.keysNe c b hb')
    rcases mem_slots_iff.mp (hI'.cover c b hb' k hk) with ⟨w, hw', hwc⟩ | ⟨w, hw', _, hwc⟩
    · obtain ⟨b1, hb1, _, hdl, _⟩ := hI'.reg_blocked hw'
      rw [hwc, hb'] at hb1
      obtain rfl := Option.some.inj hb1
      have hexp : isExpired now (k, w) = true := by
        unfold isExpired
        show (match w.deadline with | some d => decide (d ≤ now) | none => false) = true
        rw [hdl, hd]
        simpa using hle
      exact List.countP_eq_zero.mp (iter_expireOne_count now s.registry.length s List.countP_le_length) (k, w) hw' hexp
    · rw [iter_expireOne_wakeQ] at hw'
      exact hw w hw' hwc
  · exact h

end Ferrous.Blk
