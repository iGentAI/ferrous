/-
  C16: on agreeing states the code's XACK / XCLAIM / XPENDING are the prescribed ones
  (refinement of `Spec` through the abstraction `abs`); the cases of XGROUP CREATE / DESTROY.
-/
import FerrousSpec.Proofs.GroupsAgree
namespace Ferrous.Grp
open Code

theorem acknowledge_refines (g : Group) (ids : List Id) (hs : Sorted g.byId) :
    abs (acknowledge g ids).1 = (Spec.ack (abs g) ids).1 ∧ (acknowledge g ids).2 = (Spec.ack (abs g) ids).2 := by
  obtain ⟨h1, h2⟩ := ackLoop_byId g ids 0 hs
  constructor
  · simp only [abs, acknowledge, Spec.ack, ackLoop_last, h1]
    congr 1
    rw [List.filter_map]; rfl
  · simp only [abs, acknowledge, Spec.ack, h2, Nat.zero_add]
    rw [List.filter_map, List.length_map]; rfl

theorem claimOne_byId (c : Name) (g : Group) (id : Id) :
    (claimOne c true g id).1.byId = pelSetOwner id c g.byId ∧
    (claimOne c true g id).2 = (pelFind id g.byId).isSome := by
  cases hf : pelFind id g.byId with
  | none => rw [claimOne_none hf]; exact ⟨(pelSetOwner_of_not_mem (pelFind_none.mp hf)).symm, rfl⟩
  | some e => rw [claimOne_some hf]; exact ⟨rfl, rfl⟩

def claimMap (c : Name) (ids : List Id) (x : Id × Name) : Id × Name := if ids.contains x.1 then (x.1, c) else x

theorem claimLoop_byId (c : Name) (g : Group) (ids : List Id) :
    (claimLoop c true g ids).1.byId.map (fun e => (e.id, e.owner)) =
      (g.byId.map (fun e => (e.id, e.owner))).map (claimMap c ids) ∧
    (claimLoop c true g ids).2 = ids.filter (fun i => (pelFind i g.byId).isSome) := by
  induction ids generalizing g with
  | nil =>
    simp only [claimLoop, List.filter_nil, and_true]
    conv => lhs; rw [← List.map_id (g.byId.map _)]
    apply List.map_congr_left
    intro x _; simp [claimMap]
  | cons id ids ih =>
    simp only [claimLoop]
    obtain ⟨hb, hr⟩ := claimOne_byId c g id
    obtain ⟨h1, h2⟩ := ih (claimOne c true g id).1
    constructor
    · rw [h1, hb]
      simp only [pelSetOwner, List.map_map]
      apply List.map_congr_left
      intro e _
      simp only [Function.comp, claimMap, List.contains_cons]
      by_cases he : e.id = id
      · subst he; simp
      · have : (e.id == id) = false := by simpa using he
        simp [he, this]
    · rw [h2, hr, hb, List.filter_cons]
      have : ids.filter (fun i => (pelFind i (pelSetOwner id c g.byId)).isSome) =
          ids.filter (fun i => (pelFind i g.byId).isSome) := by
        apply List.filter_congr; intro i _; exact pelFind_pelSetOwner_isSome i id c g.byId
      rw [this]

theorem owner_abs (g : Group) (i : Id) :
    (Spec.owner (abs g).pending i).isSome = (pelFind i g.byId).isSome := by
  simp only [Spec.owner, abs, pelFind, List.find?_map, Option.isSome_map]
  rfl

theorem claim_refines (g : Group) (c : Name) (elig : Bool) (ids : List Id) :
    abs (claim g c elig ids).1 = (Spec.claim (abs g) c elig ids).1 ∧
    (claim g c elig ids).2 = (Spec.claim (abs g) c elig ids).2 := by
  cases elig with
  | false =>
    have : ∀ (g : Group), (claimLoop c false g ids) = (g, []) := by
      intro g
      induction ids generalizing g with
      | nil => rfl
      | cons id ids ih => simp only [claimLoop, claimOne_false, ih]; rfl
    simp only [claim, this, Spec.claim]
    exact ⟨rfl, by simp⟩
  | true =>
    obtain ⟨h1, h2⟩ := claimLoop_byId c (createConsumer g c) ids
    constructor
    · simp only [abs, Spec.claim, if_true, (claim_frame g c true ids).2.1]
      simp only [claim, h1]
      rfl
    · simp only [claim, Spec.claim, if_true, h2]
      apply List.filter_congr
      intro i _
      exact (owner_abs g i).symm

theorem countOf_abs (g : Group) (c : Name) :
    Spec.countOf (abs g).pending c = (g.byId.filter (fun e => e.owner == c)).length := by
  simp only [Spec.countOf, abs, List.filter_map, List.length_map]
  rfl

theorem pendingInfo_rows {g : Group} (h : AgreeCore g) (c : Name) (n : Nat) :
    (c, n) ∈ g.consumers.filter (fun p => p.2 > 0) ↔
      (∃ e ∈ g.byId, e.owner = c) ∧ n = (g.byId.filter (fun e => e.owner == c)).length := by
  have hr := h.rep
  have hlen := hr.vec_length c
  have hcnt := hr.count c
  rw [List.mem_filter, decide_eq_true_eq, ← alGet_eq_some_iff hr.csKeys]
  constructor
  · rintro ⟨hn, hpos⟩
    rw [cnt, hn] at hcnt
    have hcnt : n = (vec g.byConsumer c).length := hcnt
    obtain ⟨i, hi⟩ := List.exists_mem_of_length_pos (show 0 < (vec g.byConsumer c).length by omega)
    obtain ⟨e, he, _, ho⟩ := (hr.mem c i).mp hi
    exact ⟨⟨e, he, ho⟩, hcnt.trans hlen⟩
  · rintro ⟨⟨e, he, ho⟩, hn⟩
    have hpos := List.length_pos_of_mem ((hr.mem_vec he c).mpr ho)
    have hn' : cnt g.consumers c = n := by omega
    exact ⟨alGet_of_cnt hn' (by omega), by show 0 < n; omega⟩

theorem specInfo_rows (g : Group) (c : Name) (n : Nat) :
    (c, n) ∈ (((abs g).pending.map (·.2)).eraseDups.map (fun c => (c, Spec.countOf (abs g).pending c))) ↔
      (∃ e ∈ g.byId, e.owner = c) ∧ n = (g.byId.filter (fun e => e.owner == c)).length := by
  simp only [List.mem_map, List.mem_eraseDups, Prod.mk.injEq, countOf_abs]
  constructor
  · rintro ⟨c', ⟨x, hx, hxc⟩, hc, hn⟩
    subst hc
    simp only [abs, List.mem_map] at hx
    obtain ⟨e, he, rfl⟩ := hx
    exact ⟨⟨e, he, hxc⟩, hn.symm⟩
  · rintro ⟨⟨e, he, ho⟩, hn⟩
    refine ⟨c, ⟨(e.id, e.owner), ?_, ho⟩, rfl, hn.symm⟩
    simp only [abs, List.mem_map]
    exact ⟨e, he, rfl⟩

/-- a range whose bounds are in order is not the reversed range the code rejects -/
theorem not_reversed {s e : Option Id} (hse : ∀ lo hi, s = some lo → e = some hi → idLe lo hi = true) (hi : Id)
    (he : e = some hi) : idLt hi (s.getD (0, 0)) = false := by
  cases s with
  | none => exact not_idLt_iff.mpr (idLe_zero hi)
  | some lo => exact not_idLt_iff.mpr (hse lo hi rfl he)

theorem idLe_getD_zero (s : Option Id) (i : Id) :
    idLe (s.getD (0, 0)) i = (match s with | some lo => idLe lo i | none => true) := by
  cases s with
  | none => exact idLe_zero i
  | some lo => rfl

theorem pendingRange_eq (q : Quirks) (g : Group) {s e : Option Id} (count : Nat)
    (hse : ∀ lo hi, s = some lo → e = some hi → idLe lo hi = true) :
    pendingRange q g s e count none =
      .entries (((g.byId.filter (fun x => inRange s e x.id)).take count).map showEntry) := by
  unfold pendingRange
  cases e with
  | none => simp only [inRange, idLe_getD_zero]; rfl
  | some hi => simp only [not_reversed hse hi rfl, inRange, idLe_getD_zero, Bool.false_eq_true, if_false]; rfl

theorem pendingRange_consumer_eq (q : Quirks) (hq : q.filterFix = true) (g : Group) {s e : Option Id} (count : Nat)
    (c : Name) (hse : ∀ lo hi, s = some lo → e = some hi → idLe lo hi = true) :
    pendingRange q g s e count (some c) =
      .entries (((g.byId.filter (fun x => inRange s e x.id && x.owner == c)).take count).map showEntry) := by
  unfold pendingRange
  cases e with
  | none => simp only [hq, if_true, Bool.false_eq_true, if_false]
  | some hi => simp only [hq, if_true, not_reversed hse hi rfl, Bool.false_eq_true, if_false]

theorem specPendingRange_abs (g : Group) (s e : Option Id) (count : Nat) (c : Option Name) :
    Spec.pendingRange (abs g) s e count c =
      .entries (((g.byId.filter (fun x => inRange s e x.id &&
        (match c with | some c => x.owner == c | none => true))).take count).map (fun x => (x.id, x.owner, 0))) := by
  simp only [Spec.pendingRange, abs, List.filter_map, ← List.map_take, List.map_map]
  rfl

/-- no id that fits in 64 bits lies after `StreamId::max()` -/
theorem readHist_maxId (g : Spec.Group) (c : Name) (count : Option Nat)
    (hb : ∀ x ∈ g.pending, x.1.1 < 18446744073709551616 ∧ x.1.2 < 18446744073709551616) :
    Spec.readHist g c maxId count = [] := by
  have : g.pending.filter (fun x => x.2 == c && idLt maxId x.1) = [] := by
    rw [List.filter_eq_nil_iff]
    intro x hx hp
    have h1 := (Bool.and_eq_true _ _ ▸ hp).2
    rw [idLt_iff] at h1
    have := hb x hx
    simp only [maxId] at h1
    omega
  unfold Spec.readHist
  rw [this]
  cases count <;> simp

theorem St.create_absent (q : Quirks) {s : St} {g : Name} (start : Id) (h : alGet g s.groups = none) :
    (St.create q s g start).1 = { s with groups := alSet g (newGroup q start) s.groups, keyExists := true } := by
  simp only [St.create, h]

theorem St.create_present (q : Quirks) {s : St} {g : Name} {grp : Group} (start : Id)
    (h : alGet g s.groups = some grp) : St.create q s g start = (s, .busy) := by
  simp only [St.create, h]

theorem St.destroy_present {s : St} {g : Name} {grp : Group} (h : alGet g s.groups = some grp) :
    (St.destroy s g).1 = { s with groups := alErase g s.groups } := by
  simp only [St.destroy, h]

end Ferrous.Grp
