/-
  C18 — SELECT's argument, the wake-queue invariant, concrete command names, and "the code is the Spec
  outside the three deviations".
-/
import FerrousSpec.Proofs.DbsMachine
import FerrousSpec.Proofs.Decimal
namespace Ferrous.Dbs
open Ferrous Ferrous.KS

theorem selectArg_single (a : Bytes) :
    selectArg [a] = (parseU64 a).bind fun n => if n < numDbs then some n else none := by
  simp only [selectArg]
  cases parseU64 a <;> rfl

theorem selectArg_none_iff (a : Bytes) :
    selectArg [a] = none ↔ (parseU64 a = none ∨ ∃ n, parseU64 a = some n ∧ numDbs ≤ n) := by
  rw [selectArg_single]
  cases h : parseU64 a with
  | none => simp
  | some n =>
    by_cases hn : n < numDbs
    · simp [hn]
    · simp [hn]; omega

theorem selectArg_some_lt {args : List Bytes} {n : Nat} (h : selectArg args = some n) : n < numDbs := by
  unfold selectArg at h
  split at h
  · split at h
    · split at h
      · simp at h; omega
      · simp at h
    · simp at h
  · simp at h

theorem selectArg_arity (args : List Bytes) (h : args.length ≠ 1) : selectArg args = none := by
  unfold selectArg
  split
  · simp at h
  · rfl

/-- the decimal text of `n` selects database `n` iff `n < 16` — for EVERY natural number (also beyond 2^64) -/
theorem selectArg_natDigits (n : Nat) : selectArg [natDigits n] = if n < numDbs then some n else none := by
  unfold selectArg
  by_cases hb : n ≤ 18446744073709551615
  · simp only [parseU64_natDigits n hb]
  · have hp : parseU64 (natDigits n) = none := by
      obtain ⟨h, t, e, h1, h2⟩ := natDigits_head n
      unfold parseU64
      rw [e]
      have h43 : ¬ h = 43 := by omega
      simp only [h43, if_false]
      rw [← e, digitsVal_natDigits]
      simp [hb]
    simp only [hp]
    have : ¬ n < numDbs := by unfold numDbs; omega
    simp [this]

/-- a negative number is never accepted (`usize::from_str` refuses `-`, also `-0`) -/
theorem selectArg_neg (t : Bytes) : selectArg [45 :: t] = none := by
  unfold selectArg parseU64
  simp only [show ¬ (45 : Nat) = 43 by decide, if_false]
  unfold digitsVal
  simp [isDigit]

theorem processWakes_nil (q : Quirks) (now : Nat) (st : State) (h : st.wakes = []) : processWakes q now st = st := by
  cases st
  cases h
  rfl

theorem exec_wakes_nil (w : Switches) (q : Quirks) (st : State) (now c : Nat) (r : Req) (h : st.wakes = []) :
    (exec w q st now c r).1.wakes = [] := by
  refine exec_cases (motive := fun x => x.1.wakes = []) w q st now c r ?_ ?_ ?_ ?_
  · exact fun _ => h
  · exact fun _ _ _ => h
  · exact fun _ x _ => (processWakes_quiet q now x.1).2.2
  · exact fun x _ => (processWakes_quiet q now x.1).2.2

theorem run_wakes_nil (w : Switches) (q : Quirks) (evs : List Dbs.Ev) : ∀ (st : State), st.wakes = [] → (run w q st evs).wakes = [] := by
  induction evs with
  | nil => intro st h; exact h
  | cons e rest ih =>
    intro st h
    refine ih _ ?_
    cases e with
    | req now c r => exact exec_wakes_nil w q st now c r h
    | timeout c => simp only [stepEv, timeoutConn]; split <;> exact h
    | close c => simp only [stepEv, closeConn]; split <;> exact h

/-- a request on which the switches `w` cannot make a difference: no SELECT re-dispatched by EXEC (when `execSelectNoop`),
    no EVALSHA (when `evalshaDb0`), no FLUSHDB/DBSIZE/KEYS inside a script (when `scriptDbCmdsDb0`) -/
def Benign (w : Switches) (inExec : Bool) : Req → Prop
  | .plain a _ => (inExec = true ∧ w.execSelectNoop = true) → nameOf a ≠ "SELECT"
  | .script sha cmds _ => (w.evalshaDb0 = true → sha = false) ∧
                        (w.scriptDbCmdsDb0 = true → ∀ x ∈ cmds, scriptDbCmds.contains (nameOf x) = false)

theorem runScript_eq_fixed (w : Switches) (q : Quirks) (c sel : Nat) (sha : Bool) (now : Nat)
    (h1 : w.evalshaDb0 = true → sha = false) (cmds : List (List Bytes))
    (h2 : w.scriptDbCmdsDb0 = true → ∀ x ∈ cmds, scriptDbCmds.contains (nameOf x) = false) :
    ∀ (st : State) (pcs : List Bool) (last : Frame),
      runScript w q c sel sha now st cmds pcs last = runScript Switches.fixed q c sel sha now st cmds pcs last := by
  induction cmds with
  | nil => intro st pcs last; rfl
  | cons cmd rest ih =>
    intro st pcs last
    have hdb : scriptCmdDb w (scriptDb w sel sha) cmd = scriptCmdDb Switches.fixed (scriptDb Switches.fixed sel sha) cmd := by
      have e2 := fun hw => h2 hw cmd List.mem_cons_self
      unfold scriptCmdDb scriptDb
      cases hw1 : w.evalshaDb0 <;> cases hw2 : w.scriptDbCmdsDb0 <;> simp [Switches.fixed, hw1, hw2] at h1 e2 ⊢ <;> simp [h1, e2]
    have ih' := ih (fun hw x hx => h2 hw x (by simp [hx]))
    simp only [runScript, hdb]
    split
    · split
      · exact ih' _ _ _
      · rfl
    · split
      · rfl
      · exact ih' _ _ _

theorem dispatch_eq_fixed (w : Switches) (q : Quirks) (st : State) (c now : Nat) (inExec : Bool) (r : Req) (h : Benign w inExec r) :
    dispatch w q st c now inExec r = dispatch Switches.fixed q st c now inExec r := by
  cases r with
  | script sha cmds pcs =>
    simp only [Benign] at h
    simp only [dispatch, runScript_eq_fixed w q c _ sha now h.1 cmds h.2]
  | plain a obs =>
    cases a with
    | nil => rfl
    | cons n args =>
      simp only [Benign] at h
      simp only [dispatch]
      by_cases hs : nameOf (n :: args) = "SELECT"
      · have : (inExec && w.execSelectNoop) = false := by
          cases hi : inExec <;> cases hw : w.execSelectNoop <;> simp
          exact h ⟨hi, hw⟩ hs
        simp [hs, this, Switches.fixed]
      · simp [hs]

theorem execQueue_eq_fixed (w : Switches) (q : Quirks) (c now : Nat) (rs : List Req) (h : ∀ r ∈ rs, Benign w true r) :
    ∀ (st : State), execQueue w q c now st rs = execQueue Switches.fixed q c now st rs := by
  induction rs with
  | nil => intro st; rfl
  | cons r rest ih =>
    intro st
    simp only [execQueue, dispatch_eq_fixed w q st c now true r (h r (by simp))]
    rw [ih (fun x hx => h x (by simp [hx]))]

theorem exec_eq_fixed (w : Switches) (q : Quirks) (st : State) (now c : Nat) (r : Req)
    (hr : Benign w false r) (hq : ∀ x ∈ (st.conns c).queue, Benign w true x) :
    exec w q st now c r = exec Switches.fixed q st now c r := by
  unfold exec
  simp only [dispatch_eq_fixed w q st c now false r hr, execQueue_eq_fixed w q c now _ hq]

def wSELECT : Bytes := [83, 69, 76, 69, 67, 84]
def wMULTI : Bytes := [77, 85, 76, 84, 73]
def wEXEC : Bytes := [69, 88, 69, 67]
def wSET : Bytes := [83, 69, 84]
def wGET : Bytes := [71, 69, 84]
def wFLUSHDB : Bytes := [70, 76, 85, 83, 72, 68, 66]
def wFLUSHALL : Bytes := [70, 76, 85, 83, 72, 65, 76, 76]
def wDBSIZE : Bytes := [68, 66, 83, 73, 90, 69]

theorem step_flushdb (q : Quirks) (s : Store) (i now : Nat) (n : Bytes) (obs : Option (List Bytes)) (hn : nameOf [n] = "FLUSHDB") :
    KS.step q s i now [n] obs = (setDb s i [], ok) := by
  rw [step_eq]
  simp only [isFlushAll, hn, show ("FLUSHDB" == "FLUSHALL") = false by decide, Bool.false_eq_true, if_false]
  rfl

theorem step_flushall (q : Quirks) (s : Store) (i now : Nat) (n : Bytes) (obs : Option (List Bytes)) (hn : nameOf [n] = "FLUSHALL") :
    KS.step q s i now [n] obs = (s.map fun _ => [], ok) := by
  rw [step_eq]
  simp [isFlushAll, hn]

end Ferrous.Dbs
