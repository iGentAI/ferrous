/-
  The textbook matcher over tokens (`Spec.matchToks`) and what a saved `*` still has to offer.

  Backtracking to the most recent `*` only is enough because every token other than `*` consumes
  exactly one character.  This file holds the token-level half of that argument;
  `Proofs/ScanGlob.lean` runs it along the engine's loop.
-/
import FerrousSpec.Model.Scan
namespace Ferrous.Scan
open Spec

def isStar : Tok → Bool
  | .star => true
  | _ => false

theorem matchToks_star (ps : List Tok) (t : List Nat) : matchToks (.star :: ps) t = someSuffix (matchToks ps) t := by
  cases t <;> rfl

theorem matchToks_cons_nil {tk : Tok} (h : isStar tk = false) (ps : List Tok) : matchToks (tk :: ps) [] = false := by
  cases tk with
  | star => cases h
  | _ => rfl

theorem matchToks_cons_cons {tk : Tok} (h : isStar tk = false) (ps : List Tok) (c : Nat) (t : List Nat) :
    matchToks (tk :: ps) (c :: t) = (tokAccepts tk c && matchToks ps t) := by
  cases tk with
  | star => cases h
  | _ => rfl

theorem matchToks_lits (r : List Tok) : ∀ (p t : List Nat),
    matchToks (p.map .lit ++ r) t = (p.isPrefixOf t && matchToks r (t.drop p.length))
  | [], t => by simp
  | x :: p, [] => rfl
  | x :: p, c :: t => by
    rw [List.map_cons, List.cons_append, matchToks_cons_cons rfl, matchToks_lits r p t]
    simp [tokAccepts, List.isPrefixOf, Bool.and_assoc]

theorem someSuffix_iff (k : List Nat → Bool) : ∀ t : List Nat,
    someSuffix k t = true ↔ ∃ i, i ≤ t.length ∧ k (t.drop i) = true
  | [] => by
    simp only [someSuffix, List.length_nil, Nat.le_zero_eq, List.drop_nil]
    exact ⟨fun h => ⟨0, rfl, h⟩, fun ⟨_, _, h⟩ => h⟩
  | c :: t => by
    simp only [someSuffix, Bool.or_eq_true, someSuffix_iff k t, List.length_cons]
    constructor
    · rintro (h | ⟨i, hi, h⟩)
      · exact ⟨0, Nat.zero_le _, h⟩
      · exact ⟨i + 1, Nat.succ_le_succ hi, h⟩
    · rintro ⟨i, hi, h⟩
      cases i with
      | zero => exact Or.inl h
      | succ i => exact Or.inr ⟨i, Nat.le_of_succ_le_succ hi, h⟩

/-- The alternatives still open at the saved star: the pattern after it against a later suffix. -/
def alt : Option (List Tok × List Nat) → Bool
  | none => false
  | some (_, []) => false
  | some (ps, _ :: ts) => someSuffix (matchToks ps) ts

theorem exists_of_alt {ps : List Tok} {ts : List Nat} (h : alt (some (ps, ts)) = true) :
    ∃ i, 1 ≤ i ∧ i ≤ ts.length ∧ matchToks ps (ts.drop i) = true := by
  match ts, h with
  | c :: ts, h =>
    obtain ⟨i, hi, hm⟩ := (someSuffix_iff _ ts).mp h
    exact ⟨i + 1, Nat.le_add_left 1 i, Nat.succ_le_succ hi, hm⟩

/-- Moving the saved star one character on: the suffix tried now, or a later one. -/
theorem alt_tail (ps : List Tok) (d : Nat) (ts : List Nat) :
    (matchToks ps ts || alt (some (ps, ts))) = alt (some (ps, d :: ts)) := by
  cases ts <;> simp [alt, someSuffix]

theorem prefix_consume : ∀ (q rest : List Tok) (s : List Nat), (∀ tk ∈ q, isStar tk = false) →
    matchToks (q ++ rest) s = true → q.length ≤ s.length ∧ matchToks rest (s.drop q.length) = true
  | [], _, _, _, h => ⟨Nat.zero_le _, h⟩
  | tk :: q, rest, [], hq, h => by
    rw [List.cons_append, matchToks_cons_nil (hq tk (by simp))] at h
    cases h
  | tk :: q, rest, c :: s, hq, h => by
    rw [List.cons_append, matchToks_cons_cons (hq tk (by simp)), Bool.and_eq_true] at h
    have := prefix_consume q rest s (fun x hx => hq x (by simp [hx])) h.2
    exact ⟨Nat.succ_le_succ this.1, this.2⟩

/-- What links the saved star to the current position: the pattern after the star is `q` followed
    by the current pattern, the text at the star is `seg` followed by the current text, and `q`
    consists of `|seg|` one-character tokens. -/
def Inv (toks : List Tok) (t : List Nat) : Option (List Tok × List Nat) → Prop
  | none => True
  | some (ps, ts) => ∃ q seg, ps = q ++ toks ∧ ts = seg ++ t ∧ seg.length = q.length ∧ ∀ tk ∈ q, isStar tk = false

theorem Inv.fresh (toks : List Tok) (t : List Nat) : Inv toks t (some (toks, t)) :=
  ⟨[], [], rfl, rfl, rfl, fun _ h => nomatch h⟩

theorem Inv.adv {tk : Tok} {r : List Tok} {c : Nat} {t : List Nat} {star : Option (List Tok × List Nat)}
    (hinv : Inv (tk :: r) (c :: t) star) (hst : isStar tk = false) : Inv r t star := by
  match star, hinv with
  | none, _ => trivial
  | some _, ⟨q, seg, hps, hts, hlen, hq⟩ =>
    refine ⟨q ++ [tk], seg ++ [c], by simp [hps], by simp [hts], by simp [hlen], fun x hx => ?_⟩
    rcases List.mem_append.mp hx with hx | hx
    · exact hq x hx
    · rw [List.mem_singleton.mp hx]; exact hst

/-- Whatever the saved star still offers is a match of the current pattern against a proper
    suffix of the current text: the tokens between the star and the current position have
    consumed one character each. -/
theorem alt_forward {toks : List Tok} {t : List Nat} {star : Option (List Tok × List Nat)}
    (hinv : Inv toks t star) (halt : alt star = true) :
    ∃ i, 1 ≤ i ∧ i ≤ t.length ∧ matchToks toks (t.drop i) = true := by
  match star, hinv with
  | some (ps, ts), ⟨q, seg, hps, hts, hlen, hq⟩ =>
    obtain ⟨i, hi1, hi2, hm⟩ := exists_of_alt halt
    subst hps hts
    obtain ⟨hle, hm'⟩ := prefix_consume q toks _ hq hm
    rw [List.drop_drop, ← hlen, Nat.add_comm, ← List.drop_drop, List.drop_left] at hm'
    simp only [List.length_drop, List.length_append] at hle hi2
    exact ⟨i, hi1, by omega, hm'⟩

theorem alt_nil {toks : List Tok} {star : Option (List Tok × List Nat)} (hinv : Inv toks [] star) : alt star = false := by
  cases h : alt star with
  | false => rfl
  | true =>
    obtain ⟨i, h1, h2, _⟩ := alt_forward hinv h
    exact absurd (Nat.le_trans h1 h2) (by simp)

/-- A new `*` makes the alternatives of the previous one redundant. -/
theorem alt_subsumed {r : List Tok} {t : List Nat} {star : Option (List Tok × List Nat)}
    (hinv : Inv (.star :: r) t star) : (matchToks (.star :: r) t || alt star) = matchToks (.star :: r) t := by
  cases halt : alt star with
  | false => exact Bool.or_false _
  | true =>
    obtain ⟨i, _, hi, hm⟩ := alt_forward hinv halt
    rw [matchToks_star, someSuffix_iff] at hm
    obtain ⟨j, hj, hmj⟩ := hm
    rw [List.length_drop] at hj
    rw [List.drop_drop] at hmj
    rw [Bool.or_true, matchToks_star]
    exact ((someSuffix_iff _ t).mpr ⟨i + j, by omega, hmj⟩).symm

end Ferrous.Scan
