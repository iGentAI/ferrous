/-
  Schedules of the event loop (C07): per-connection projection, invariants, EXEC as one transition,
  transactions that end in DISCARD / disconnect are invisible.
-/
import FerrousSpec.Proofs.TxBasic
namespace Ferrous.Tx
open Ferrous

/-- the dataset EXEC leaves: EXEC's loop over the connection's queue, started on the dataset EXEC found -/
def execResult (q : Quirks) (s : Server) (cid now : Nat) : ExecSt × List Out :=
  execFold q true cid now ⟨s.store, (s.conns cid).db, s.ext⟩ (s.conns cid).queue

section
variable {q : Quirks} {s : Server} {cid : Nat} {r : Req}

theorem exec_runs (hin : (s.conns cid).inTx = true) (hw : r.watchOk = true) (ha : (s.conns cid).aborted = false) :
    exec q s cid r =
      (setConn { s with store := (execResult q s cid r.now).1.store, ext := (execResult q s cid r.now).1.ext } cid
         { cleared (s.conns cid) with db := (execResult q s cid r.now).1.db },
       .exec (execResult q s cid r.now).2) := by
  unfold exec execResult
  simp [hin, hw, ha]

theorem exec_refused (hin : (s.conns cid).inTx = false) : exec q s cid r = (s, .one (.frame KS.err)) := by
  unfold exec; simp [hin]

theorem exec_watch_failed (hin : (s.conns cid).inTx = true) (hw : r.watchOk = false) :
    exec q s cid r = (setConn s cid (cleared (s.conns cid)), .one (.frame .nullArray)) := by
  unfold exec; simp [hin, hw]

theorem exec_quiet (h : ¬((s.conns cid).inTx = true ∧ r.watchOk = true ∧ (s.conns cid).aborted = false)) :
    exec q s cid r =
      (setConn s cid (if (s.conns cid).inTx then cleared (s.conns cid) else s.conns cid),
       .one (.frame (if (s.conns cid).inTx then .nullArray else KS.err))) := by
  cases hin : (s.conns cid).inTx
  · rw [exec_refused hin]; simp [setConn_self]
  · cases hw : r.watchOk
    · rw [exec_watch_failed hin hw]; simp
    · cases ha : (s.conns cid).aborted
      · exact absurd ⟨hin, hw, ha⟩ h
      · unfold exec; simp [hin, hw, ha]

theorem processFrame_conns :
    (processFrame q s cid r).1.conns = (setConn s cid (connStep q (s.conns cid) r)).conns := by
  by_cases hr : r.cmd.isEmpty = true ∨ badArity q r.cmd = true
  · have : connStep q (s.conns cid) r = s.conns cid := by
      unfold connStep; rcases hr with h | h <;> simp [h]
    rw [processFrame_refused hr, this, setConn_self]
  · obtain ⟨hne, hb⟩ : r.cmd.isEmpty = false ∧ badArity q r.cmd = false := by simpa using hr
    unfold connStep
    simp only [hne, hb, Bool.false_eq_true, if_false]
    cases hk : kindOf (nameOf r.cmd) <;> dsimp only
    · rw [processFrame_multi hk hb]
      split
      · rw [setConn_self]
      · rfl
    · -- `exec` and `connStep` test the same three conditions in the same order
      rw [processFrame_exec hk hb]
      unfold exec
      dsimp only
      split
      · rw [setConn_self]
      split
      · rfl
      split
      · rfl
      · rw [execFold_db]; rfl
    · rw [processFrame_discard hk hb]
      split
      · rw [setConn_self]
      · rfl
    · rw [processFrame_watch hk, setConn_self]
    · rw [processFrame_other (List.isEmpty_eq_false_iff.1 hne) hk rfl]
      split
      · rfl
      · rw [runOne_db]; rfl

end

theorem stepEvent_conn_other (q : Quirks) (s : Server) (e : Event) (j : Nat) (h : e.conn? ≠ some j) :
    (stepEvent q s e).1.conns j = s.conns j := by
  cases e with
  | frame c r =>
    show (processFrame q s c r).1.conns j = _
    rw [processFrame_conns]
    exact setConn_other s c j _ fun hh => h (hh ▸ rfl)
  | disconnect c => exact setConn_other s c j _ fun hh => h (hh ▸ rfl)
  | between g => rfl

theorem stepEvent_conn_self (q : Quirks) (s : Server) (e : Event) (j : Nat) (h : e.conn? = some j) :
    (stepEvent q s e).1.conns j = connEvent q (s.conns j) e := by
  cases e with
  | frame c r =>
    cases h
    show (processFrame q s j r).1.conns j = _
    rw [processFrame_conns]
    exact setConn_same s j _
  | disconnect c => cases h; exact setConn_same s _ _
  | between g => cases h

/-- For EVERY schedule: the state of connection `cid` (database index, in-transaction flag, queue,
    aborted flag) is the fold of `connEvent` over its own events — the dataset and the frames of all
    other connections play no part. -/
theorem conn_state_is_fold_of_own_events (q : Quirks) (s : Server) (evs : List Event) (cid : Nat) :
    (run q s evs).conns cid = (ownEvents cid evs).foldl (connEvent q) (s.conns cid) := by
  induction evs generalizing s with
  | nil => rfl
  | cons e es ih =>
    rw [run_cons, ih]
    unfold ownEvents
    by_cases h : e.conn? = some cid
    · simp [h, stepEvent_conn_self q s e cid h]
    · simp [h, stepEvent_conn_other q s e cid h]

/-- what holds of every connection in every reachable state -/
structure ConnOk (q : Quirks) (c : Conn) : Prop where
  notAborted : c.aborted = false
  idleEmpty : c.inTx = false → c.queue = []
  queueOk : ∀ x ∈ c.queue, queueable q x = true

theorem ConnOk_fresh (q : Quirks) : ConnOk q Conn.fresh := ⟨rfl, fun _ => rfl, by simp [Conn.fresh]⟩

theorem ConnOk_cleared (q : Quirks) (c : Conn) (db : Nat) : ConnOk q { cleared c with db := db } :=
  ⟨rfl, fun _ => rfl, by simp [cleared]⟩

theorem connStep_ok (q : Quirks) (c : Conn) (r : Req) (h : ConnOk q c) : ConnOk q (connStep q c r) := by
  unfold connStep
  split
  · exact h
  split
  · exact h
  rename_i hne _
  split
  · split
    · exact h
    · exact ⟨rfl, fun hh => (nomatch hh), fun _ hx => (nomatch hx)⟩
  · repeat' split
    all_goals first | exact h | exact ConnOk_cleared q c _
  · split
    · exact h
    · exact ConnOk_cleared q c _
  · exact h
  · rename_i hk
    split
    · rename_i hc
      simp only [Bool.and_eq_true, Bool.not_eq_true', ← Bool.not_eq_true, List.contains_iff_mem] at hc
      refine ⟨h.notAborted, fun hh => absurd (hc.1.symm.trans hh) (by decide), fun y hy => ?_⟩
      rcases List.mem_append.1 hy with hy | hy
      · exact h.queueOk y hy
      · rw [List.mem_singleton.1 hy]
        exact (queueable_iff q r.cmd).2 ⟨fun e => hne (by rw [e]; rfl), hk, hc.2⟩
    · exact ⟨h.notAborted, h.idleEmpty, h.queueOk⟩

theorem run_ok (q : Quirks) (s : Server) (evs : List Event) (h : ∀ j, ConnOk q (s.conns j)) :
    ∀ j, ConnOk q ((run q s evs).conns j) := by
  intro j
  rw [conn_state_is_fold_of_own_events]
  generalize ownEvents j evs = l
  have := h j
  generalize s.conns j = c at this
  induction l generalizing c with
  | nil => exact this
  | cons e es ih =>
    refine ih _ ?_
    cases e with
    | frame _ r => exact connStep_ok q c r this
    | disconnect _ => exact ConnOk_fresh q
    | between _ => exact this

theorem trace_getElem (q : Quirks) (s : Server) (evs : List Event) (p : Nat) (e : Event) (h : evs[p]? = some e) :
    (trace q s evs)[p]? = some (stepEvent q (run q s (evs.take p)) e).2 := by
  induction evs generalizing s p with
  | nil => simp at h
  | cons x xs ih =>
    cases p with
    | zero => simp at h; subst h; simp [trace, run_nil]
    | succ p =>
      simp at h
      simp [trace, run_cons, ih _ _ h]

/-! ### erasing a connection whose frames never reach the dataset

`Agree cid a b`: the two servers are the same except for the state of connection `cid`. -/

def Agree (cid : Nat) (a b : Server) : Prop :=
  a.store = b.store ∧ a.ext = b.ext ∧ ∀ j, j ≠ cid → a.conns j = b.conns j

section
variable {q : Quirks} {a b : Server} {d : Nat} {r : Req}

theorem exec_local (h1 : a.store = b.store) (h2 : a.ext = b.ext) (hc : a.conns d = b.conns d) :
    (exec q a d r).1.store = (exec q b d r).1.store ∧ (exec q a d r).1.ext = (exec q b d r).1.ext ∧
    (exec q a d r).2 = (exec q b d r).2 := by
  unfold exec
  rw [hc, h1, h2]
  dsimp only
  split
  · exact ⟨h1, h2, rfl⟩
  split
  · exact ⟨h1, h2, rfl⟩
  split
  · exact ⟨h1, h2, rfl⟩
  · exact ⟨rfl, rfl, rfl⟩

/-- What a frame does to the dataset and the hand-over log, and its reply, depend on the server only
    through the dataset, the log and the state of the connection that sent it. -/
theorem processFrame_local (h1 : a.store = b.store) (h2 : a.ext = b.ext) (hc : a.conns d = b.conns d) :
    (processFrame q a d r).1.store = (processFrame q b d r).1.store ∧
    (processFrame q a d r).1.ext = (processFrame q b d r).1.ext ∧
    (processFrame q a d r).2 = (processFrame q b d r).2 := by
  by_cases hr : r.cmd.isEmpty = true ∨ badArity q r.cmd = true
  · rw [processFrame_refused hr, processFrame_refused hr]
    exact ⟨h1, h2, rfl⟩
  · obtain ⟨hne, hb⟩ : r.cmd ≠ [] ∧ badArity q r.cmd = false := by simpa using hr
    cases hk : kindOf (nameOf r.cmd)
    · rw [processFrame_multi hk hb, processFrame_multi hk hb, hc]
      split <;> exact ⟨h1, h2, rfl⟩
    · rw [processFrame_exec hk hb, processFrame_exec hk hb]
      exact exec_local h1 h2 hc
    · rw [processFrame_discard hk hb, processFrame_discard hk hb, hc]
      split <;> exact ⟨h1, h2, rfl⟩
    · rw [processFrame_watch hk, processFrame_watch hk, hc]
      exact ⟨h1, h2, rfl⟩
    · rw [processFrame_other hne hk rfl, processFrame_other hne hk rfl, hc, h1, h2]
      split
      · exact ⟨h1, h2, rfl⟩
      · exact ⟨rfl, rfl, rfl⟩

end

theorem stepEvent_agree (q : Quirks) (a b : Server) (cid : Nat) (e : Event) (he : e.conn? ≠ some cid) (h : Agree cid a b) :
    Agree cid (stepEvent q a e).1 (stepEvent q b e).1 ∧ (stepEvent q a e).2 = (stepEvent q b e).2 := by
  cases e with
  | frame d r =>
    have hd : d ≠ cid := fun hh => he (hh ▸ rfl)
    obtain ⟨e1, e2, e3⟩ := processFrame_local (q := q) (r := r) h.1 h.2.1 (h.2.2 d hd)
    refine ⟨⟨e1, e2, fun j hj => ?_⟩, congrArg some e3⟩
    show (processFrame q a d r).1.conns j = (processFrame q b d r).1.conns j
    rw [processFrame_conns, processFrame_conns, h.2.2 d hd]
    exact setConn_congr d _ (h.2.2 j hj)
  | disconnect d => exact ⟨⟨h.1, h.2.1, fun j hj => setConn_congr d _ (h.2.2 j hj)⟩, rfl⟩
  | between g => exact ⟨⟨congrArg g h.1, h.2.1, h.2.2⟩, rfl⟩

/-- a frame that cannot reach the dataset given the connection's state `c`: an empty frame, MULTI,
    DISCARD, WATCH, an EXEC that is refused / fails its WATCH check, or a queueable command
    while in a transaction -/
def quietFrame (q : Quirks) (c : Conn) (r : Req) : Bool :=
  r.cmd.isEmpty ||
  (match kindOf (nameOf r.cmd) with
   | .multi => true
   | .discard => true
   | .watch => true
   | .exec => !c.inTx || !r.watchOk || c.aborted
   | .other => c.inTx && !q.immediate.contains (nameOf r.cmd))

theorem quietFrame_silent (q : Quirks) (s : Server) (cid : Nat) (r : Req) (h : quietFrame q (s.conns cid) r = true) :
    (processFrame q s cid r).1.store = s.store ∧ (processFrame q s cid r).1.ext = s.ext := by
  by_cases hr : r.cmd.isEmpty = true ∨ badArity q r.cmd = true
  · rw [processFrame_refused hr]; exact ⟨rfl, rfl⟩
  · obtain ⟨hne, hb⟩ : r.cmd.isEmpty = false ∧ badArity q r.cmd = false := by simpa using hr
    unfold quietFrame at h
    cases hk : kindOf (nameOf r.cmd) <;> simp only [hne, hk, Bool.false_or] at h
    · rw [processFrame_multi hk hb]; split <;> exact ⟨rfl, rfl⟩
    · have : ¬((s.conns cid).inTx = true ∧ r.watchOk = true ∧ (s.conns cid).aborted = false) := by
        intro ⟨x, y, z⟩; simp [x, y, z] at h
      rw [processFrame_exec hk hb, exec_quiet this]; exact ⟨rfl, rfl⟩
    · rw [processFrame_discard hk hb]; split <;> exact ⟨rfl, rfl⟩
    · rw [processFrame_watch hk]; exact ⟨rfl, rfl⟩
    · rw [processFrame_other (List.isEmpty_eq_false_iff.1 hne) hk rfl, if_pos h]; exact ⟨rfl, rfl⟩

/-- inside a transaction the dataset and the hand-over log change only through EXEC and the names
    executed immediately -/
theorem processFrame_store_inTx (q : Quirks) (s : Server) (cid : Nat) (r : Req)
    (hin : (s.conns cid).inTx = true) (hne : nameOf r.cmd ≠ "EXEC") (himm : nameOf r.cmd ∉ q.immediate) :
    (processFrame q s cid r).1.store = s.store ∧ (processFrame q s cid r).1.ext = s.ext := by
  apply quietFrame_silent
  unfold quietFrame
  cases hk : kindOf (nameOf r.cmd)
  case exec => exact absurd ((kindOf_exec _).1 hk) hne
  all_goals simp [hin, himm]

/-- the connection's own events, followed from its state `c`, never reach the dataset -/
def QuietRun (q : Quirks) : Conn → List Event → Prop
  | _, [] => True
  | c, e :: es =>
    (match e with
     | .frame _ r => quietFrame q c r = true
     | _ => True) ∧ QuietRun q (connEvent q c e) es

/-- replies sent to the connections other than `cid`, computed along the FULL schedule -/
def repliesToOthers (q : Quirks) (cid : Nat) : Server → List Event → List (Option Reply)
  | _, [] => []
  | s, e :: es =>
    if e.conn? == some cid then repliesToOthers q cid (stepEvent q s e).1 es
    else (stepEvent q s e).2 :: repliesToOthers q cid (stepEvent q s e).1 es

theorem quiet_erase (q : Quirks) (cid : Nat) (evs : List Event) (a b : Server) (h : Agree cid a b)
    (hq : QuietRun q (a.conns cid) (ownEvents cid evs)) :
    Agree cid (run q a evs) (run q b (otherEvents cid evs)) ∧
    repliesToOthers q cid a evs = trace q b (otherEvents cid evs) := by
  induction evs generalizing a b with
  | nil => exact ⟨h, rfl⟩
  | cons e es ih =>
    rw [ownEvents, List.filter_cons] at hq
    rw [run_cons, repliesToOthers, otherEvents, List.filter_cons]
    by_cases he : e.conn? = some cid
    · -- an event of `cid` leaves dataset and log alone: it is erased on the right
      simp only [he, beq_self_eq_true, if_true, Bool.not_true, Bool.false_eq_true, if_false] at hq ⊢
      have hsil : (stepEvent q a e).1.store = a.store ∧ (stepEvent q a e).1.ext = a.ext := by
        cases e with
        | frame c r => cases he; exact quietFrame_silent q a _ r hq.1
        | disconnect c => exact ⟨rfl, rfl⟩
        | between g => cases he
      refine ih _ b ⟨hsil.1.trans h.1, hsil.2.trans h.2.1, fun j hj => ?_⟩ ?_
      · rw [stepEvent_conn_other q a e j (by rw [he]; exact fun hh => hj (Option.some.inj hh).symm)]
        exact h.2.2 j hj
      · rw [stepEvent_conn_self q a e cid he]; exact hq.2
    · have hb : (e.conn? == some cid) = false := by simpa using he
      simp only [hb, Bool.false_eq_true, if_false, Bool.not_false, if_true, run_cons, trace] at hq ⊢
      obtain ⟨h1, h2⟩ := stepEvent_agree q a b cid e he h
      rw [← stepEvent_conn_other q a e cid he] at hq
      obtain ⟨i1, i2⟩ := ih _ _ h1 hq
      exact ⟨i1, by rw [h2, i2]; rfl⟩

theorem connStep_queue {q : Quirks} {c : Conn} {r : Req} (hin : c.inTx = true) (hq : queueable q r.cmd = true) :
    connStep q c r = { c with queue := c.queue ++ [r.cmd] } := by
  obtain ⟨h1, h2, h3⟩ := (queueable_iff q r.cmd).1 hq
  simp [connStep, h1, h2, h3, hin, badArity_other q r.cmd h2]

theorem queueing (q : Quirks) (cid now : Nat) (cmds : List Cmd) (c : Conn)
    (hin : c.inTx = true) (hc : ∀ x ∈ cmds, queueable q x = true) :
    (framesOf cid now cmds).foldl (connEvent q) c = { c with queue := c.queue ++ cmds } ∧
    ∀ tail, QuietRun q { c with queue := c.queue ++ cmds } tail → QuietRun q c (framesOf cid now cmds ++ tail) := by
  induction cmds generalizing c with
  | nil => simp [framesOf]
  | cons x xs ih =>
    have hx : queueable q x = true := hc x (by simp)
    obtain ⟨_, h2, h3⟩ := (queueable_iff q x).1 hx
    obtain ⟨i1, i2⟩ := ih { c with queue := c.queue ++ [x] } hin fun y hy => hc y (by simp [hy])
    simp only [List.append_assoc, List.singleton_append] at i1 i2
    refine ⟨?_, fun tail ht => ⟨by simp [quietFrame, h2, hin, h3], ?_⟩⟩
    · show (framesOf cid now xs).foldl (connEvent q) (connStep q c { cmd := x, now := now }) = _
      rw [connStep_queue hin hx, i1]
    · show QuietRun q (connStep q c { cmd := x, now := now }) _
      rw [connStep_queue hin hx]
      exact i2 tail ht

/-- a whole transaction as the connection sees it: `m` = MULTI opens it, the queueable commands fill the queue -/
theorem transaction (q : Quirks) (cid now : Nat) (m : Cmd) (cmds : List Cmd) (c : Conn)
    (hn : nameOf m = "MULTI") (ha : arityOk q m) (hidle : c.inTx = false) (hc : ∀ x ∈ cmds, queueable q x = true) :
    (framesOf cid now (m :: cmds)).foldl (connEvent q) c = { c with inTx := true, queue := cmds, aborted := false } ∧
    ∀ tail, QuietRun q { c with inTx := true, queue := cmds, aborted := false } tail →
      QuietRun q c (framesOf cid now (m :: cmds) ++ tail) := by
  have hk := (kindOf_multi _).2 hn
  have hopen : connStep q c { cmd := m, now := now } = { c with inTx := true, queue := [], aborted := false } := by
    simp [connStep, isEmpty_of_kindOf hk (by decide), badArity_ok q m ha, hk, hidle]
  obtain ⟨i1, i2⟩ := queueing q cid now cmds { c with inTx := true, queue := [], aborted := false } rfl hc
  simp only [List.nil_append] at i1 i2
  refine ⟨?_, fun tail ht => ⟨by simp [quietFrame, hn, kindOf], ?_⟩⟩
  · show (framesOf cid now cmds).foldl (connEvent q) (connStep q c { cmd := m, now := now }) = _
    rw [hopen, i1]
  · show QuietRun q (connStep q c { cmd := m, now := now }) _
    rw [hopen]
    exact i2 tail ht

end Ferrous.Tx
