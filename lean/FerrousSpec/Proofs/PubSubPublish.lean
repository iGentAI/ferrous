/-
  `publish` against one delivery per matching subscription, and per-connection streams: one block per
  PUBLISH, and a state property that only the connection's own (P)SUBSCRIBE can break limits what its
  blocks contain (`blocks_forall`).
-/
import FerrousSpec.Proofs.PubSubRefine
import FerrousSpec.Proofs.PubSubGlob
set_option linter.unusedSimpArgs false
namespace Ferrous.PubSub

theorem mem_patBlock {ch : Bytes} {e : Bytes × List ConnId} {d : Delivery} :
    d ∈ (if globBytes e.1 ch = true then e.2.map (fun c => ((c, some e.1) : Delivery)) else []) ↔
      globBytes e.1 ch = true ∧ d.1 ∈ e.2 ∧ d.2 = some e.1 := by
  split
  · rename_i hg
    rw [List.mem_map]
    exact ⟨fun ⟨c, hc, h⟩ => h ▸ ⟨hg, hc, rfl⟩, fun ⟨_, hc, h⟩ => ⟨d.1, hc, by rw [← h]⟩⟩
  · rename_i hg
    exact ⟨nofun, fun h => absurd h.1 hg⟩

theorem mem_candidates {st : State} (hinv : Inv st) {ch : Bytes} {c : ConnId} {o : Option Bytes} :
    ((c, o) : Delivery) ∈ candidates st ch ↔
      match o with
      | none => ch ∈ held st c .chan
      | some p => p ∈ held st c .pat ∧ globBytes p ch = true := by
  unfold candidates
  rw [List.mem_append, List.mem_map, List.mem_flatMap]
  simp only [mem_patBlock]
  cases o with
  | none =>
    show _ ↔ ch ∈ held st c .chan
    rw [← hinv.agree]
    exact ⟨fun h => h.elim (fun ⟨c', hc', e⟩ => (Prod.mk.inj e).1 ▸ hc') (fun ⟨_, _, _, _, e⟩ => nomatch e),
      fun h => Or.inl ⟨c, h, rfl⟩⟩
  | some p =>
    show _ ↔ p ∈ held st c .pat ∧ globBytes p ch = true
    rw [← hinv.agree, mem_members_iff (hinv.keysIdx .pat)]
    constructor
    · rintro (⟨_, _, e⟩ | ⟨⟨p', cs⟩, he, hg, hc, e⟩)
      · cases e
      · cases e; exact ⟨⟨cs, he, hc⟩, hg⟩
    · rintro ⟨⟨cs, he, hc⟩, hg⟩
      exact Or.inr ⟨(p, cs), he, hg, hc, rfl⟩

theorem nodup_candidates {st : State} (hinv : Inv st) (ch : Bytes) : (candidates st ch).Nodup := by
  have inj : ∀ (o : Option Bytes) {l : List ConnId}, l.Nodup → (l.map fun c => ((c, o) : Delivery)).Nodup :=
    fun o _ h => List.Pairwise.map _ (fun _ _ hab e => hab (congrArg Prod.fst e)) h
  obtain ⟨_, hkeys, _, hsets, _⟩ := hinv.raw
  refine List.nodup_append.2 ⟨inj none (hinv.nodupMembers .chan ch), ?_, fun a ha b hb e => ?_⟩
  · refine List.pairwise_flatMap.2 ⟨fun e he => ?_, (List.pairwise_map.1 (hkeys .pat)).imp fun hne x hx y hy e => ?_⟩
    · split
      · exact inj _ (hsets .pat e he).2
      · exact List.Pairwise.nil
    · exact hne (Option.some.inj ((mem_patBlock.1 hx).2.2.symm.trans (e ▸ (mem_patBlock.1 hy).2.2)))
  · obtain ⟨_, _, rfl⟩ := List.mem_map.1 ha
    obtain ⟨e', _, hb⟩ := List.mem_flatMap.1 hb
    subst e
    cases (mem_patBlock.1 hb).2.2

theorem dedupGo_sublist (seen : List ConnId) (l : List Delivery) : List.Sublist (dedupGo seen l) l := by
  induction l generalizing seen with
  | nil => exact List.Sublist.refl _
  | cons d l ih =>
    simp only [dedupGo]
    split
    · exact List.Sublist.cons _ (ih _)
    · exact List.Sublist.cons_cons _ (ih _)

theorem conns_dedupGo (seen : List ConnId) (l : List Delivery) (c : ConnId) :
    c ∈ (dedupGo seen l).map (·.1) ↔ c ∈ l.map (·.1) ∧ c ∉ seen := by
  induction l generalizing seen with
  | nil => simp [dedupGo]
  | cons d l ih =>
    simp only [dedupGo]
    split
    · rename_i hs
      rw [ih]
      simp only [List.map_cons, List.mem_cons]
      constructor
      · rintro ⟨h1, h2⟩; exact ⟨Or.inr h1, h2⟩
      · rintro ⟨h1 | h1, h2⟩
        · exact absurd (h1 ▸ hs) h2
        · exact ⟨h1, h2⟩
    · rename_i hs
      simp only [List.map_cons, List.mem_cons, ih]
      constructor
      · rintro (h | ⟨h1, h2⟩)
        · exact ⟨Or.inl h, h ▸ hs⟩
        · exact ⟨Or.inr h1, fun e => h2 (Or.inr e)⟩
      · rintro ⟨h1 | h1, h2⟩
        · exact Or.inl h1
        · by_cases e : c = d.1
          · exact Or.inl e
          · exact Or.inr ⟨h1, by intro h; rcases h with h | h; exact e h; exact h2 h⟩

theorem nodup_conns_dedupGo (seen : List ConnId) (l : List Delivery) : ((dedupGo seen l).map (·.1)).Nodup := by
  induction l generalizing seen with
  | nil => exact List.nodup_nil
  | cons d l ih =>
    simp only [dedupGo]
    split
    · exact ih _
    · simp only [List.map_cons, List.nodup_cons]
      refine ⟨?_, ih _⟩
      intro h
      have := ((conns_dedupGo (d.1 :: seen) l d.1).1 h).2
      exact this List.mem_cons_self

theorem dedupGo_eq_self (seen : List ConnId) (l : List Delivery) (hn : (l.map (·.1)).Nodup)
    (hs : ∀ d ∈ l, d.1 ∉ seen) : dedupGo seen l = l := by
  induction l generalizing seen with
  | nil => rfl
  | cons d l ih =>
    simp only [List.map_cons, List.nodup_cons] at hn
    have hd : d.1 ∉ seen := hs d List.mem_cons_self
    simp only [dedupGo, hd, if_false]
    congr 1
    apply ih _ hn.2
    intro d' hd' hm
    rcases List.mem_cons.1 hm with e | e
    · exact hn.1 (e ▸ List.mem_map_of_mem hd')
    · exact hs d' (List.mem_cons_of_mem _ hd') e

theorem mem_publish {dedup : Bool} {st : State} {ch : Bytes} {d : Delivery} (h : d ∈ publish dedup st ch) :
    d ∈ candidates st ch := by
  unfold publish at h
  split at h
  · exact (dedupGo_sublist _ _).subset h
  · exact h

namespace Spec

theorem deliveryOf_eq_some {ch : Bytes} {e : Sub} {c : ConnId} {o : Option Bytes} :
    deliveryOf ch e = some (c, o) ↔
      match o with
      | none => e = ⟨c, .chan, ch⟩
      | some p => e = ⟨c, .pat, p⟩ ∧ glob p ch = true := by
  obtain ⟨ec, ek, en⟩ := e
  unfold deliveryOf
  cases ek <;> cases o <;> simp only <;> split <;> rename_i hg <;> simp [hg]
  · rintro rfl rfl; exact hg
  · rintro rfl rfl; exact Bool.eq_false_iff.2 hg

theorem mem_deliveries {s : State} {ch : Bytes} {c : ConnId} {o : Option Bytes} :
    ((c, o) : Delivery) ∈ deliveries s ch ↔
      match o with
      | none => (⟨c, .chan, ch⟩ : Sub) ∈ s
      | some p => (⟨c, .pat, p⟩ : Sub) ∈ s ∧ glob p ch = true := by
  unfold deliveries
  rw [List.mem_filterMap]
  simp only [deliveryOf_eq_some]
  cases o with
  | none => exact ⟨fun ⟨e, he, h⟩ => h ▸ he, fun h => ⟨_, h, rfl⟩⟩
  | some p => exact ⟨fun ⟨e, he, h1, h2⟩ => ⟨h1 ▸ he, h2⟩, fun ⟨h1, h2⟩ => ⟨_, h1, rfl, h2⟩⟩

theorem nodup_deliveries {s : State} (h : s.Nodup) (ch : Bytes) : (deliveries s ch).Nodup := by
  refine List.Pairwise.filterMap _ (fun a a' hne b hb b' hb' e => hne ?_) h
  obtain ⟨c, o⟩ := b
  subst e
  have ha := deliveryOf_eq_some.1 (Option.mem_def.1 hb)
  have ha' := deliveryOf_eq_some.1 (Option.mem_def.1 hb')
  cases o with
  | none => exact ha.trans ha'.symm
  | some p => exact ha.1.trans ha'.1.symm

end Spec

theorem candidates_perm_spec {st : State} {s : Spec.State} (hinv : Inv st) (hrel : Rel st s) (ch : Bytes) :
    (candidates st ch).Perm (Spec.deliveries s ch) := by
  rw [List.perm_ext_iff_of_nodup (nodup_candidates hinv ch) (Spec.nodup_deliveries hrel.nodup ch)]
  rintro ⟨c, o⟩
  rw [mem_candidates hinv, Spec.mem_deliveries]
  cases o with
  | none => exact (hrel.mem c .chan ch).symm
  | some p =>
    show _ ∧ _ ↔ _ ∧ _
    rw [hrel.mem, globBytes_eq_spec]

theorem Code.after_append (st : State) (ops1 ops2 : List Op) :
    Code.after st (ops1 ++ ops2) = Code.after (Code.after st ops1) ops2 := by
  simp [Code.after, List.foldl_append]

theorem Code.after_cons (st : State) (op : Op) (ops : List Op) :
    Code.after st (op :: ops) = Code.after (Code.next st op) ops := rfl

theorem Spec.after_cons (s : Spec.State) (op : Op) (ops : List Op) :
    Spec.after s (op :: ops) = Spec.after (Spec.next s op) ops := rfl

theorem Code.log_append (dedup idle : Bool) (st : State) (ops1 ops2 : List Op) :
    Code.log dedup idle st (ops1 ++ ops2) =
      Code.log dedup idle st ops1 ++ Code.log dedup idle (Code.after st ops1) ops2 := by
  induction ops1 generalizing st with
  | nil => rfl
  | cons op ops ih => simp [Code.log, ih, Code.after_cons]

theorem received_append (l1 l2 : List (ConnId × Event)) (c : ConnId) :
    received (l1 ++ l2) c = received l1 c ++ received l2 c := by
  simp [received]

theorem msgsOf_append (a b : List Event) : msgsOf (a ++ b) = msgsOf a ++ msgsOf b := by
  simp [msgsOf]

theorem msgsOf_received_nonmsg (c : ConnId) (l : List (ConnId × Event)) (h : ∀ x ∈ l, x.2.isMsg = false) :
    msgsOf (received l c) = [] := by
  unfold msgsOf received
  rw [List.filter_eq_nil_iff]
  intro e he
  obtain ⟨x, hx, rfl⟩ := List.mem_map.1 he
  rw [h x (List.mem_filter.1 hx).1]
  exact Bool.false_ne_true

theorem msgsOf_received_toEvents (c : ConnId) (ch msg : Bytes) (ds : List Delivery) :
    msgsOf (received (ds.map (toEvent ch msg)) c) = msgBlock c ch msg ds := by
  unfold msgBlock
  induction ds with
  | nil => rfl
  | cons d ds ih =>
    simp only [received, msgsOf, List.map_cons] at ih ⊢
    have h1 : (toEvent ch msg d).1 = d.1 := by unfold toEvent; split <;> rfl
    have h3 : (toEvent ch msg d).2.isMsg = true := by unfold toEvent; split <;> rfl
    by_cases h : d.1 = c
    · simp only [List.filter, h1, h, decide_true, List.map_cons, h3]
      rw [ih]
    · simp only [List.filter, h1, h, decide_false]
      exact ih

theorem unsubEvents_nonmsg (idle : Bool) (k : Kind) (xs : Option (List Bytes)) (results : List Ack) (n : Nat) :
    ∀ e ∈ Code.unsubEvents idle k xs results n, e.isMsg = false := by
  intro e he
  unfold Code.unsubEvents at he
  split at he
  · cases xs with
    | none => rw [List.mem_singleton.1 he]; rfl
    | some l => obtain ⟨_, _, rfl⟩ := List.mem_map.1 he; rfl
  · obtain ⟨_, _, rfl⟩ := List.mem_map.1 he; rfl

theorem msgsOf_received_emit (dedup idle : Bool) (st : State) (op : Op) (c : ConnId) :
    msgsOf (received (Code.emit dedup idle st op) c) =
      match op with
      | .publish _ ch msg => msgBlock c ch msg (publish dedup st ch)
      | _ => [] := by
  cases op with
  | subscribe c' k xs =>
    exact msgsOf_received_nonmsg c _ fun x hx => by obtain ⟨_, _, rfl⟩ := List.mem_map.1 hx; rfl
  | unsubscribe c' k xs =>
    exact msgsOf_received_nonmsg c _ fun x hx => by
      obtain ⟨e, he, rfl⟩ := List.mem_map.1 hx
      exact unsubEvents_nonmsg _ _ _ _ _ e he
  | disconnect c' => rfl
  | publish p ch msg =>
    show msgsOf (received (pubEvents p ch msg _) c) = _
    unfold pubEvents
    rw [received_append, msgsOf_append, msgsOf_received_toEvents,
      msgsOf_received_nonmsg c [_] (fun x hx => by rw [List.mem_singleton.1 hx]; rfl), List.append_nil]

theorem msgs_eq_blocks (dedup idle : Bool) (st : State) (ops : List Op) (c : ConnId) :
    msgsOf (received (Code.log dedup idle st ops) c) = (Code.blocks dedup st ops c).flatten := by
  induction ops generalizing st with
  | nil => rfl
  | cons op ops ih =>
    simp only [Code.log, received_append, msgsOf_append, msgsOf_received_emit, ih]
    cases op <;> rfl

theorem publish_perm_spec (dedup : Bool) {st : State} {s : Spec.State} (hinv : Inv st) (hrel : Rel st s) (ch : Bytes)
    (hno : dedup = true → ((Spec.deliveries s ch).map (·.1)).Nodup) :
    (publish dedup st ch).Perm (Spec.deliveries s ch) := by
  have hp := candidates_perm_spec hinv hrel ch
  cases dedup with
  | false => exact hp
  | true =>
    show (dedupGo [] (candidates st ch)).Perm _
    rw [dedupGo_eq_self [] _ ((hp.map (·.1)).nodup_iff.2 (hno rfl)) (fun _ _ => List.not_mem_nil)]
    exact hp

theorem blocks_perm_spec (dedup : Bool) {st : State} {s : Spec.State} (hinv : Inv st) (hrel : Rel st s) (ops : List Op)
    (c : ConnId) (hno : dedup = true → Spec.neverOverlap s ops) :
    BlocksPerm (Code.blocks dedup st ops c) (Spec.blocks s ops c) := by
  induction ops generalizing st s with
  | nil => trivial
  | cons op ops ih =>
    cases op with
    | publish p ch msg =>
      exact ⟨((publish_perm_spec dedup hinv hrel ch (fun h => (hno h).1)).filter _).map _,
        ih (hinv.next _) (hrel.next _).1 (fun h => (hno h).2)⟩
    | subscribe c' k xs => exact ih (hinv.next _) (hrel.next (.subscribe c' k xs)).1 hno
    | unsubscribe c' k xs => exact ih (hinv.next _) (hrel.next (.unsubscribe c' k xs)).1 hno
    | disconnect c' => exact ih (hinv.next _) (hrel.next (.disconnect c')).1 hno

theorem held_next_subset {st : State} {op : Op} {c : ConnId} (hop : op.subscribesAs c = false) (k : Kind) :
    held (Code.next st op) c k ⊆ held st c k := by
  cases op with
  | subscribe c' k' xs =>
    have hc : c ≠ c' := fun e => by simp [Op.subscribesAs, e] at hop
    refine loop_fst_inv (P := fun s' => held s' c k ⊆ held st c k) (fun s' x hs => ?_) xs _ ?_
    · rwa [held_sub1, if_neg (fun e => hc e.1)]
    · rw [held, info_ensure]; exact List.Subset.refl _
  | unsubscribe c' k' xs =>
    show held (unsubscribe k' c' st xs).1 c k ⊆ _
    cases ha : aget st.subs c' with
    | none => rw [unsubscribe_none ha]; exact List.Subset.refl _
    | some i =>
      rw [unsubscribe_some ha, held, info_cleanup]
      refine loop_fst_inv (P := fun s' => held s' c k ⊆ held st c k) (fun s' x hs => ?_) _ _ (List.Subset.refl _)
      refine List.Subset.trans ?_ hs
      rw [held_unsub1]
      split
      · rename_i e
        rw [e.1, e.2]
        exact List.filter_sublist.subset
      · exact List.Subset.refl _
  | disconnect c' =>
    show held (unsubscribeAll st c') c k ⊆ _
    rw [held_unsubscribeAll]
    split
    · exact List.nil_subset _
    · exact List.Subset.refl _
  | publish p ch msg => exact List.Subset.refl _

theorem held_after_subset {st : State} {ops : List Op} {c : ConnId} (hops : ∀ op ∈ ops, op.subscribesAs c = false)
    (k : Kind) : held (Code.after st ops) c k ⊆ held st c k :=
  Code.after_induction (P := fun s => held s c k ⊆ held st c k)
    (fun _ op ho hs => List.Subset.trans (held_next_subset (hops op ho) k) hs) (List.Subset.refl _)

theorem held_of_mem_publish {dedup : Bool} {st : State} (hinv : Inv st) {ch : Bytes} {c : ConnId} {o : Option Bytes} :
    ((c, o) : Delivery) ∈ publish dedup st ch →
    match o with
    | none => ch ∈ held st c .chan
    | some p => p ∈ held st c .pat ∧ globBytes p ch = true :=
  fun h => (mem_candidates hinv).1 (mem_publish h)

theorem not_receiver_of_idle {dedup : Bool} {st : State} (hinv : Inv st) {c : ConnId} (h : ∀ k, held st c k = [])
    (ch : Bytes) (o : Option Bytes) : ((c, o) : Delivery) ∉ publish dedup st ch := by
  intro hd
  have hm := held_of_mem_publish hinv hd
  cases o with
  | none => rw [h .chan] at hm; cases hm
  | some p => rw [h .pat] at hm; cases hm.1

theorem mem_msgBlock {c : ConnId} {ch msg : Bytes} {ds : List Delivery} {e : Event} :
    e ∈ msgBlock c ch msg ds ↔ ∃ o, ((c, o) : Delivery) ∈ ds ∧ e = (toEvent ch msg (c, o)).2 := by
  unfold msgBlock
  simp only [List.mem_map, List.mem_filter, decide_eq_true_eq]
  constructor
  · rintro ⟨⟨d1, d2⟩, ⟨hd, rfl⟩, rfl⟩; exact ⟨d2, hd, rfl⟩
  · rintro ⟨o, ho, rfl⟩; exact ⟨(c, o), ⟨ho, rfl⟩, rfl⟩

/-- A property of the state that only `c`'s own (P)SUBSCRIBE can break, and under which every frame
    a PUBLISH puts into `c`'s buffer satisfies `Q`, makes every frame of `c`'s blocks satisfy `Q`. -/
theorem blocks_forall (dedup : Bool) {c : ConnId} {P : State → Prop} {Q : Event → Prop}
    (hnext : ∀ st op, op.subscribesAs c = false → P st → P (Code.next st op))
    (hpub : ∀ st ch msg o, Inv st → P st → ((c, o) : Delivery) ∈ publish dedup st ch → Q (toEvent ch msg (c, o)).2) :
    ∀ (ops : List Op) (st : State), Inv st → P st → (∀ op ∈ ops, op.subscribesAs c = false) →
      ∀ b ∈ Code.blocks dedup st ops c, ∀ e ∈ b, Q e := by
  intro ops
  induction ops with
  | nil => intro st _ _ _ b hb; cases hb
  | cons op ops ih =>
    intro st hinv hP hops b hb e he
    have hrest := ih (Code.next st op) (hinv.next op) (hnext st op (hops op List.mem_cons_self) hP)
      (fun o ho => hops o (List.mem_cons_of_mem _ ho))
    cases op with
    | publish p ch msg =>
      rcases List.mem_cons.1 hb with hb | hb
      · subst hb
        obtain ⟨o, ho, rfl⟩ := mem_msgBlock.1 he
        exact hpub st ch msg o hinv hP ho
      · exact hrest b hb e he
    | subscribe c' k xs => exact hrest b hb e he
    | unsubscribe c' k xs => exact hrest b hb e he
    | disconnect c' => exact hrest b hb e he

/-- Connection `c` holds no subscription matching channel `ch`. -/
def quiet (st : State) (c : ConnId) (ch : Bytes) : Prop :=
  ch ∉ held st c .chan ∧ ∀ p ∈ held st c .pat, globBytes p ch = false

theorem chan_toEvent (ch msg : Bytes) (d : Delivery) : (toEvent ch msg d).2.chan? = some ch := by
  unfold toEvent
  split <;> rfl

theorem mem_blocks_of_received {dedup idle : Bool} {st : State} {ops : List Op} {c : ConnId} {e : Event}
    (he : e ∈ received (Code.log dedup idle st ops) c) (hm : e.isMsg = true) :
    ∃ b ∈ Code.blocks dedup st ops c, e ∈ b := by
  have : e ∈ msgsOf (received (Code.log dedup idle st ops) c) := List.mem_filter.2 ⟨he, hm⟩
  rw [msgs_eq_blocks] at this
  exact List.mem_flatten.1 this

theorem quiet_received (dedup idle : Bool) {c : ConnId} {ch : Bytes} (ops : List Op) (st : State) (hinv : Inv st)
    (hq : quiet st c ch) (hops : ∀ op ∈ ops, op.subscribesAs c = false) :
    ∀ e ∈ received (Code.log dedup idle st ops) c, e.chan? ≠ some ch := by
  intro e he hch
  obtain ⟨b, hb, heb⟩ := mem_blocks_of_received he (by cases e <;> first | rfl | cases hch)
  refine blocks_forall dedup (P := fun st => quiet st c ch) (Q := fun e => e.chan? ≠ some ch)
    (fun st op hop h => ?_) (fun st ch' msg o hinv h ho => ?_) ops st hinv hq hops b hb e heb hch
  · exact ⟨fun hm => h.1 (held_next_subset hop _ hm), fun p hp => h.2 p (held_next_subset hop _ hp)⟩
  · rw [chan_toEvent]
    rintro ⟨rfl⟩
    have hh := held_of_mem_publish hinv ho
    cases o with
    | none => exact h.1 hh
    | some p => exact Bool.false_ne_true ((h.2 p hh.1).symm.trans hh.2)

theorem quietPat_received (dedup idle : Bool) {c : ConnId} {p : Bytes} (ops : List Op) (st : State) (hinv : Inv st)
    (hq : p ∉ held st c .pat) (hops : ∀ op ∈ ops, op.subscribesAs c = false) (ch m : Bytes) :
    Event.pmessage p ch m ∉ received (Code.log dedup idle st ops) c := by
  intro he
  obtain ⟨b, hb, heb⟩ := mem_blocks_of_received he rfl
  refine blocks_forall dedup (P := fun st => p ∉ held st c .pat) (Q := fun e => e ≠ Event.pmessage p ch m)
    (fun st op hop h hm => ?_) (fun st ch' msg o hinv h ho he => ?_) ops st hinv hq hops b hb _ heb rfl
  · exact h (held_next_subset hop _ hm)
  · have hh := held_of_mem_publish hinv ho
    cases o with
    | none => cases he
    | some q =>
      injection he with he
      exact h (he ▸ hh.1)

theorem idle_blocks (dedup : Bool) {c : ConnId} (ops : List Op) (st : State) (hinv : Inv st)
    (hq : ∀ k, held st c k = []) (hops : ∀ op ∈ ops, op.subscribesAs c = false) :
    ∀ b ∈ Code.blocks dedup st ops c, b = [] := by
  intro b hb
  refine List.eq_nil_iff_forall_not_mem.2 fun e he => ?_
  refine blocks_forall dedup (P := fun st => ∀ k, held st c k = []) (Q := fun _ => False)
    (fun st op hop h k => ?_) (fun st ch' msg o hinv h ho => ?_) ops st hinv hq hops b hb e he
  · exact List.eq_nil_of_subset_nil (h k ▸ held_next_subset hop k)
  · exact not_receiver_of_idle hinv h ch' o ho

theorem Spec.heldBy_loop_unsub1 {k : Kind} {c : ConnId} (k' : Kind) (y : Bytes) : ∀ (l : List Bytes) (s : Spec.State),
    y ∈ Spec.heldBy (loop (Spec.unsub1 k c) s l).1 c k' → y ∈ Spec.heldBy s c k' ∧ (k' = k → y ∉ l) := by
  intro l
  induction l with
  | nil => intro s h; exact ⟨h, fun _ => by simp⟩
  | cons x l ih =>
    intro s h
    have := ih (Spec.unsub1 k c s x).1 (by simpa [loop] using h)
    simp only [Spec.unsub1] at this
    rw [Spec.heldBy_filter_ne] at this
    by_cases hk : k' = k
    · subst hk
      simp only [and_self, if_true, mem_srem] at this
      exact ⟨this.1.1, fun _ => by simp only [List.mem_cons, not_or]; exact ⟨this.1.2, this.2 trivial⟩⟩
    · simp only [hk, and_false, if_false] at this
      exact ⟨this.1, fun e => absurd e hk⟩

theorem not_held_after_unsubscribe {st : State} {s : Spec.State} (hrel : Rel st s) (c : ConnId) (k : Kind)
    (xs : Option (List Bytes)) (x : Bytes) (hx : ∀ l, xs = some l → x ∈ l) :
    x ∉ held (Code.next st (.unsubscribe c k xs)) c k := by
  rw [← (hrel.next (.unsubscribe c k xs)).1.heldEq]
  intro hm
  obtain ⟨h1, h2⟩ := Spec.heldBy_loop_unsub1 k x (xs.getD (Spec.heldBy s c k)) s hm
  cases xs with
  | none => exact h2 rfl h1
  | some l => exact h2 rfl (hx l rfl)

end Ferrous.PubSub
