/-
  Statements about tables of command names, decided by evaluation.  The kernel compares two strings byte by
  byte after encoding both, but two numerals in one step: a table is walked on the numbers of its names.
-/
namespace Ferrous

/-- the bytes of a string as base-256 digits, lowest first, under a leading 1 -/
def digits : List UInt8 → Nat
  | [] => 1
  | b :: l => 256 * digits l + b.toNat

theorem digits_pos : ∀ l : List UInt8, 0 < digits l
  | [] => Nat.one_pos
  | _ :: l => by have := digits_pos l; simp only [digits]; omega

theorem digits_inj : ∀ {l m : List UInt8}, digits l = digits m → l = m
  | [], [], _ => rfl
  | [], b :: m, h => by have := digits_pos m; simp only [digits] at h; omega
  | b :: l, [], h => by have := digits_pos l; simp only [digits] at h; omega
  | b :: l, c :: m, h => by
    have hb := b.toNat_lt
    have hc := c.toNat_lt
    simp only [digits] at h
    rw [UInt8.toNat_inj.mp (by omega : b.toNat = c.toNat), digits_inj (by omega : digits l = digits m)]

def nameCode (s : String) : Nat := digits s.toByteArray.data.toList

theorem nameCode_inj {s t : String} (h : nameCode s = nameCode t) : s = t :=
  String.toByteArray_inj.mp (ByteArray.ext (Array.toList_inj.mp (digits_inj h)))

/-- `s ∈ l`, on numbers -/
def hasName (l : List String) (s : String) : Bool := (l.map nameCode).any (Nat.beq (nameCode s))

theorem hasName_iff {l : List String} {s : String} : hasName l s = true ↔ s ∈ l := by
  simp only [hasName, List.any_eq_true, List.mem_map]
  constructor
  · rintro ⟨_, ⟨t, ht, rfl⟩, h⟩
    rwa [nameCode_inj (Nat.eq_of_beq_eq_true h)]
  · exact fun h => ⟨_, ⟨s, h, rfl⟩, Nat.beq_refl _⟩

theorem hasName_false_iff {l : List String} {s : String} : hasName l s = false ↔ s ∉ l := by
  rw [← hasName_iff, Bool.not_eq_true]

theorem names_present {l table : List String} (h : l.all (hasName table) = true) : ∀ n ∈ l, n ∈ table :=
  fun n hn => hasName_iff.1 (List.all_eq_true.1 h n hn)

theorem names_absent {l table : List String} (h : (l.all fun n => !hasName table n) = true) : ∀ n ∈ l, n ∉ table :=
  fun n hn => hasName_false_iff.1 ((Bool.not_eq_true' _).mp (List.all_eq_true.1 h n hn))

end Ferrous
