/-
  With capped sizing every `with_capacity` request is at most `min |d| reserveMax` elements (a map
  pair counts twice), and the elements of a container are parsed from suffixes of `d`: one bound,
  `2 * min |d| reserveMax`, goes through the recursion.
-/
import FerrousSpec.Proofs.RespParse
namespace Ferrous

theorem capReq_capped_le (declared avail : Nat) : capReq true declared avail ≤ min avail reserveMax := by
  simp only [capReq, if_true]; omega

theorem reserveElemsWith_le {p : Bytes → Res} {j n : Nat} (hp : Accepts j n p) (rv : Bytes → Nat) (B : Nat) :
    ∀ k d, (∀ d', d'.length ≤ d.length → rv d' ≤ B) → reserveElemsWith p rv k d ≤ B
  | 0, _, _ => Nat.zero_le _
  | k + 1, d, h => by
    unfold reserveElemsWith
    cases hpd : p d with
    | need | err => exact h d (Nat.le_refl _)
    | ok f r =>
      have hl := (hp d f r hpd).1
      exact Nat.max_le.2 ⟨h d (Nat.le_refl _), reserveElemsWith_le hp rv B k r fun d' hd' => h d' (by omega)⟩

theorem reserveOf_capped_le : ∀ n d, reserveOf true n d ≤ 2 * min d.length reserveMax
  | 0, _ => Nat.zero_le _
  | _ + 1, [] => Nat.zero_le _
  | n + 1, t :: body => by
    have hcap := fun N => capReq_capped_le N (t :: body).length
    have hel : ∀ k {l r}, splitCRLF body = some (l, r) →
        reserveElemsWith (parseFrame n) (reserveOf true n) k r ≤ 2 * min (t :: body).length reserveMax :=
      fun k _ r hs => reserveElemsWith_le (parseFrame_accepts n) _ _ k r fun d' hd' => by
        have := reserveOf_capped_le n d'
        have := splitCRLF_length hs
        simp only [List.length_cons]
        omega
    simp only [reserveOf]
    split
    · split
      · exact Nat.zero_le _
      next hs =>
        split
        · exact Nat.zero_le _
        next v _ =>
          split
          · exact Nat.zero_le _
          · exact Nat.max_le.2 ⟨by have := hcap v.toNat; omega, hel _ hs⟩
    split
    · split
      · exact Nat.zero_le _
      next hs =>
        split
        · exact Nat.zero_le _
        next v _ => exact Nat.max_le.2 ⟨by have := hcap v; omega, hel _ hs⟩
    split
    · split
      · exact Nat.zero_le _
      next hs =>
        split
        · exact Nat.zero_le _
        next v _ => exact Nat.max_le.2 ⟨by have := hcap v; omega, hel _ hs⟩
    · exact Nat.zero_le _

end Ferrous
