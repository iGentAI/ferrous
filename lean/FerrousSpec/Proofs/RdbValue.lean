/-
  RDB codec, part 3: `read_key_value_with_type` inverts `write_key_value` for every value type.
  Shape: loading `key ++ value ++ rest` into a database that does not hold the key appends exactly
  that key with that value and leaves `rest`.
-/
import FerrousSpec.Proofs.RdbEngine
import FerrousSpec.Proofs.Decimal
namespace Ferrous.Rdb
open Ferrous

theorem natDigitsF_length_le (f : Nat) : ∀ (n k : Nat), n ≤ f → n < 10 ^ (k + 1) → (natDigitsF f n).length ≤ k + 1 := by
  induction f with
  | zero => intro n k _ _; simp [natDigitsF]
  | succ f ih =>
    intro n k hf hk
    unfold natDigitsF
    split
    · simp
    · cases k with
      | zero => omega
      | succ k =>
        have := ih (n / 10) k (by omega) (by rw [Nat.pow_succ] at hk; omega)
        rw [List.length_append]
        exact Nat.succ_le_succ this

theorem natDigits_length_u64 (n : Nat) (h : n < two64) : (natDigits n).length ≤ 20 :=
  natDigitsF_length_le n n 19 (Nat.le_refl _) (Nat.lt_trans h (by decide))

theorem natDigits_length_lt (n : Nat) (h : n < two64) : (natDigits n).length < two32 :=
  Nat.lt_of_le_of_lt (natDigits_length_u64 n h) (by decide)

theorem parseU64Fast_natDigits (n : Nat) (h : n < two64) : parseU64Fast (natDigits n) = some n := by
  simp [parseU64Fast, digitsVal_natDigits, h]

theorem splitDash_digits (ds rest : Bytes) (h : ds.all isDigit = true) :
    splitDash (ds ++ 45 :: rest) = some (ds, rest) := by
  induction ds with
  | nil => simp [splitDash]
  | cons d ds ih =>
    simp only [List.all_cons, Bool.and_eq_true] at h
    have hd : ¬ d = 45 := by
      have := h.1
      simp only [isDigit, Bool.and_eq_true, decide_eq_true_eq] at this
      omega
    simp [splitDash, hd, ih h.2]

theorem parseStreamId_idText (p : Nat × Nat) (h1 : p.1 < two64) (h2 : p.2 < two64) :
    parseStreamId (idText p) = some p := by
  unfold parseStreamId idText
  rw [splitDash_digits _ _ (natDigits_all p.1)]
  simp [parseU64Fast_natDigits _ h1, parseU64Fast_natDigits _ h2]

theorem idText_length (p : Nat × Nat) (h1 : p.1 < two64) (h2 : p.2 < two64) : (idText p).length < two32 := by
  have a := natDigits_length_u64 p.1 h1
  have b := natDigits_length_u64 p.2 h2
  rw [idText, List.length_append, List.length_cons, two32]
  omega

theorem idString_eq_idText (e : SEntry) : idString e = idText (e.ms, e.seq) := rfl

/-- an entry ID is never the last-ID marker string (it starts with a digit) -/
theorem idString_ne_lastIdMarker (e : SEntry) : idString e ≠ lastIdMarker := by
  obtain ⟨h, t, ht, h1, h2⟩ := natDigits_head e.ms
  intro heq
  rw [idString, ht, lastIdMarker, List.cons_append] at heq
  have := (List.cons.inj heq).1
  omega

theorem parseStreamId_lastIdMarker : parseStreamId lastIdMarker = none := by decide

def sAllocs (e : SEntry) : List Nat :=
  (idString e).length :: (natDigits e.fields.length).length :: pairLengths e.fields

/-- the four strings of the last-ID pseudo entry -/
def lastIdAllocs (es : List SEntry) : List Nat := [lastIdMarker.length, 1, (idText (lastId es)).length, 0]

def valueAllocs : Value → List Nat
  | .str b => [b.length]
  | .list xs => lengths xs
  | .set xs => lengths xs
  | .hash fs => pairLengths fs
  | .zset zs => zLengths zs
  | .stream es => marker.length :: (lastIdAllocs es ++ es.flatMap sAllocs)

/-- how every branch for an aggregate ends: `expire` on the key the branch has just created -/
theorem expire_created (db : Db) (k : Bytes) (v : Value) (dl : Option Nat) (hd : dlOk dl = true) (hf : k ∉ keys db)
    (r : Bytes) :
    ((lift (expireOpt true (putEntry db ⟨k, v, none⟩) k dl) r).bind fun db2 r4 => Res.ok (k, db2) r4 []) =
      .ok (k, db ++ [⟨k, v, dl⟩]) r [] := by
  rw [expireOpt_put _ _ _ _ hd, putEntry_fresh db ⟨k, v, dl⟩ hf]
  rfl

@[simp] theorem typeByte_escValue (esc : Bool) (v : Value) : typeByte (escValue esc v) = typeByte v := by
  cases v <;> rfl

@[simp] theorem listItems_false (xs : List Bytes) : listItems false xs = xs := rfl

@[simp] theorem escValue_false (v : Value) : escValue false v = v := by
  cases v <;> rfl

/-- The LIST opcode up to the first of its `n + 1` elements, which decides what the others are: the records
    of a stream, a list behind the escape element, or the rest of this list. -/
theorem loadTyped_first (fix : Fix) (valid : Bool) (db : Db) (dl : Option Nat) (k first : Bytes) (n : Nat)
    (hk : k.length < two32) (hn : n + 1 < two32) (hfirst : first.length < two32) (rest : Bytes) :
    loadTyped fix valid db 1 dl (encString k ++ (encLen (n + 1) ++ (encString first ++ rest))) =
      Res.pre [k.length, first.length]
        (if first = marker then
          (lift (if fix.keepEmptyStream ∧ n = 0 then setValue valid db ⟨k, .stream [], none⟩ else .ok db) rest).bind fun db0 r2' =>
          (streamLoop valid k n (r2'.length + 1) 0 db0 r2').bind fun db1 r3 =>
          (lift (if fix.keepEmptyStream ∧ streamSaved n (r2'.length + 1) 0 false r2' then ensureStream valid db1 k else .ok db1) r3).bind fun db1' r3' =>
          (lift (expireOpt valid db1' k dl) r3').bind fun db2 r4 => .ok (k, db2) r4 []
        else if fix.listEscape ∧ first = escape then loadPlainList valid db k dl n rest
        else
          (lift (rpush valid db k first) rest).bind fun db0 r2' =>
          (readStrings n r2').bind fun xs r3 =>
          (lift (expireOpt valid (rpushMore db0 k xs) k dl) r3).bind fun db2 r4 => .ok (k, db2) r4 []) := by
  simp only [loadTyped, Nat.reduceEqDiff, or_self, ↓reduceIte]
  rw [readString_encString k hk, Res.bind_ok, readLen_encLen _ hn, Res.bind_ok, if_pos (Nat.le_add_left 1 n),
    readString_encString first hfirst, Res.bind_ok, Nat.add_sub_cancel, Res.pre_nil, Res.pre_pre]
  rfl

theorem rpush_rest (db : Db) (k x : Bytes) (xs : List Bytes) (dl : Option Nat) (hd : dlOk dl = true)
    (hall : ∀ y ∈ xs, y.length < two32) (hf : k ∉ keys db) (rest : Bytes) :
    ((lift (rpush true db k x) (encStrings xs ++ rest)).bind fun db0 r2' =>
      (readStrings xs.length r2').bind fun ys r3 =>
      (lift (expireOpt true (rpushMore db0 k ys) k dl) r3).bind fun db2 r4 => Res.ok (k, db2) r4 []) =
      .ok (k, db ++ [⟨k, .list (x :: xs), dl⟩]) rest (lengths xs) := by
  rw [rpush_fresh _ _ _ hf, lift_ok, Res.bind_ok, readStrings_encStrings xs hall, Res.bind_ok, rpushMore_put,
    expire_created _ _ _ _ hd hf]
  simp

theorem loadPlainList_enc (db : Db) (k x : Bytes) (xs : List Bytes) (dl : Option Nat) (hd : dlOk dl = true)
    (hx : x.length < two32) (hall : ∀ y ∈ xs, y.length < two32) (hf : k ∉ keys db) (rest : Bytes) :
    loadPlainList true db k dl (xs.length + 1) (encString x ++ (encStrings xs ++ rest)) =
      .ok (k, db ++ [⟨k, .list (x :: xs), dl⟩]) rest (x.length :: lengths xs) := by
  rw [loadPlainList, if_pos (Nat.le_add_left 1 _), readString_encString x hx, Res.bind_ok, Nat.add_sub_cancel,
    rpush_rest db k x xs dl hd hall hf]
  rfl

/-- a list written WITHOUT an escape element whose first element is neither the marker nor (for a
    loader that knows the rule) the escape string: the regular-list branch -/
theorem loadTyped_list_plain (fix : Fix) (db : Db) (k x : Bytes) (xs : List Bytes) (dl : Option Nat) (hd : dlOk dl = true)
    (hk : strOk k = true) (hv : valueWF (.list (x :: xs)) = true) (hm : ¬ x = marker)
    (he : ¬ (fix.listEscape = true ∧ x = escape)) (hf : k ∉ keys db) (rest : Bytes) :
    loadTyped fix true db 1 dl (encString k ++ (encValue (.list (x :: xs)) ++ rest)) =
      .ok (k, db ++ [⟨k, .list (x :: xs), dl⟩]) rest (k.length :: valueAllocs (.list (x :: xs))) := by
  simp only [strOk, valueWF, Bool.and_eq_true, decide_eq_true_eq, List.all_eq_true, List.forall_mem_cons] at hk hv
  obtain ⟨⟨-, hlen⟩, hx, hall⟩ := hv
  simp only [encValue, encStrings, List.flatMap_cons, List.append_assoc, List.length_cons]
  rw [loadTyped_first fix true db dl k x xs.length hk hlen hx, if_neg hm, if_neg he, ← encStrings,
    rpush_rest db k x xs dl hd hall hf]
  rfl

/-- a list written WITH the escape element, read by a loader that knows the rule: the element is
    dropped and `x :: xs` is a plain list whatever `x` is -/
theorem loadTyped_list_escaped (fix : Fix) (hfix : fix.listEscape = true) (db : Db) (k x : Bytes) (xs : List Bytes)
    (dl : Option Nat) (hd : dlOk dl = true) (hk : strOk k = true) (hv : valueWF (.list (escape :: x :: xs)) = true)
    (hf : k ∉ keys db) (rest : Bytes) :
    loadTyped fix true db 1 dl (encString k ++ (encValue (.list (escape :: x :: xs)) ++ rest)) =
      .ok (k, db ++ [⟨k, .list (x :: xs), dl⟩]) rest (k.length :: valueAllocs (.list (escape :: x :: xs))) := by
  simp only [strOk, valueWF, Bool.and_eq_true, decide_eq_true_eq, List.all_eq_true, List.forall_mem_cons] at hk hv
  obtain ⟨⟨-, hlen⟩, hesc, hx, hall⟩ := hv
  simp only [encValue, encStrings, List.flatMap_cons, List.append_assoc, List.length_cons]
  rw [loadTyped_first fix true db dl k escape (xs.length + 1) hk hlen hesc, if_neg (show ¬ escape = marker by decide),
    if_pos ⟨hfix, rfl⟩, ← encStrings, loadPlainList_enc db k x xs dl hd hx hall hf]
  rfl

/-- EVERY well-formed list, written by a writer and read by a loader that agree on the escape rule
    (`fix.listEscape` on both sides).  Without the rule the marker-headed lists are excluded. -/
theorem loadTyped_list (fix : Fix) (db : Db) (k : Bytes) (xs : List Bytes) (dl : Option Nat) (hd : dlOk dl = true)
    (hk : strOk k = true) (hv : valueWF (escValue fix.listEscape (.list xs)) = true)
    (hm : startsWithMarker (.list xs) = false ∨ fix.listEscape = true)
    (hf : k ∉ keys db) (rest : Bytes) :
    loadTyped fix true db 1 dl (encString k ++ (saveValue fix.listEscape (.list xs) ++ rest)) =
      .ok (k, db ++ [⟨k, .list xs, dl⟩]) rest (k.length :: valueAllocs (escValue fix.listEscape (.list xs))) := by
  cases xs with
  | nil => simp [escValue, listItems, needsEscape, valueWF] at hv
  | cons x xs =>
    simp only [saveValue, escValue, listItems] at hv ⊢
    by_cases hE : (fix.listEscape && needsEscape (x :: xs)) = true
    · rw [if_pos hE] at hv ⊢
      exact loadTyped_list_escaped fix (Bool.and_eq_true_iff.mp hE).1 db k x xs dl hd hk hv hf rest
    · rw [if_neg hE] at hv ⊢
      refine loadTyped_list_plain fix db k x xs dl hd hk hv (fun h => ?_) (fun h => hE ?_) hf rest
      · exact hm.elim (fun h' => by simp [startsWithMarker, h] at h') fun h' => hE (by simp [h', h, needsEscape])
      · simp [h.1, h.2, needsEscape]

/-- What the writer puts for one entry, real or pseudo: an ID string, the number of pairs in decimal, the pairs. -/
def encRecord (idStr : Bytes) (fvs : List (Bytes × Bytes)) : Bytes :=
  encString idStr ++ (encString (natDigits fvs.length) ++ encPairs fvs)

theorem encSEntry_eq (e : SEntry) : encSEntry e = encRecord (idString e) e.fields := rfl

theorem encLastId_eq (es : List SEntry) : encLastId es = encRecord lastIdMarker [(idText (lastId es), [])] := by
  simp [encLastId, encRecord, encPairs, encPair, show natDigits 1 = [49] from rfl]

theorem round_counters {idx fc remaining : Nat} (hrem : remaining < two32) (hidx : idx + 2 + 2 * fc ≤ remaining)
    (hpos : 0 < fc) :
    idx < remaining ∧ ¬ (idx + 2) % two64 ≥ remaining ∧ ¬ idx + 2 + fc * 2 > remaining ∧
      (idx + 2 + 2 * fc) % two64 = idx + 2 + 2 * fc := by
  unfold two32 at hrem
  unfold two64
  omega

/-- One round of the entry loop on one record, and `saved_last_id` over the same round: the two read the same strings. -/
theorem stream_round (db : Db) (k : Bytes) (remaining idx f : Nat) (s : Bool) (idStr : Bytes) (fvs : List (Bytes × Bytes))
    (hrem : remaining < two32) (hidx : idx + 2 + 2 * fvs.length ≤ remaining) (hpos : 0 < fvs.length)
    (hid : idStr.length < two32) (hfv : ∀ p ∈ fvs, p.1.length < two32 ∧ p.2.length < two32) (bs : Bytes) :
    streamLoop true k remaining (f + 1) idx db (encRecord idStr fvs ++ bs) =
      (streamLoop true k remaining f (idx + 2 + 2 * fvs.length)
        (match parseStreamId idStr with
          | some id => xaddIgnore true db k ⟨id.1, id.2, fvs⟩
          | none => db) bs).pre
        (idStr.length :: (natDigits fvs.length).length :: pairLengths fvs) ∧
    streamSaved remaining (f + 1) idx s (encRecord idStr fvs ++ bs) =
      streamSaved remaining f (idx + 2 + 2 * fvs.length)
        (if idStr = lastIdMarker then
          (match (generalizing := false) fvs with
            | (fld, _) :: _ => (parseStreamId fld).isSome
            | [] => false)
          else s) bs := by
  obtain ⟨c1, c2, c3, c4⟩ := round_counters hrem hidx hpos
  have hfc : fvs.length < two64 := by unfold two32 at hrem; unfold two64; omega
  have hcount := readString_encString (natDigits fvs.length) (natDigits_length_lt _ hfc)
  have hparse := parseU64_natDigits _ (Nat.le_of_lt_succ hfc)
  constructor
  · rw [streamLoop, if_neg (not_not_intro c1), if_neg c2, encRecord, List.append_assoc, List.append_assoc,
      readString_encString idStr hid, Res.bind_ok, hcount, Res.bind_ok, hparse, Option.getD_some, if_neg c3,
      readPairs_encPairs fvs hfv, Res.bind_ok, c4, Res.pre_pre, Res.pre_pre]
    rfl
  · rw [streamSaved, if_neg (not_not_intro c1), if_neg c2, encRecord, List.append_assoc, List.append_assoc,
      readString_encString idStr hid]
    simp only []
    rw [hcount]
    simp only [hparse, Option.getD_some, if_neg c3, readPairs_encPairs fvs hfv, c4]
    rfl

/-- the database while a stream is being rebuilt: nothing until the first entry is added -/
def streamState (db : Db) (k : Bytes) (acc : List SEntry) : Db :=
  match acc with
  | [] => db
  | _ :: _ => putEntry db ⟨k, .stream acc, none⟩

theorem xaddIgnore_streamState (db : Db) (k : Bytes) (acc : List SEntry) (e : SEntry)
    (hf : k ∉ keys db) (hlt : idLt (lastId acc) (e.ms, e.seq) = true) :
    xaddIgnore true (streamState db k acc) k e = streamState db k (acc ++ [e]) := by
  cases acc with
  | nil =>
    simp only [lastId] at hlt
    simp [xaddIgnore, streamState, findKey_fresh hf, hlt]
  | cons a acc =>
    simp only [xaddIgnore, streamState, Bool.not_true, Bool.false_eq_true, if_false, findKey_put, hlt, if_true,
      List.cons_append, putEntry_put]

theorem length_le_streamItems (es : List SEntry) : es.length ≤ streamItems es := by
  induction es with
  | nil => exact Nat.le_refl _
  | cons e es ih => rw [streamItems, List.length_cons]; omega

/-- what the codec needs of a well-formed entry (distinct field names are not needed: the loader keeps
    the pairs as read) -/
theorem sentryWF_codec {e : SEntry} (h : sentryWF e = true) :
    e.ms < two64 ∧ e.seq < two64 ∧ 0 < e.fields.length ∧ ∀ p ∈ e.fields, p.1.length < two32 ∧ p.2.length < two32 := by
  simp only [sentryWF, pairOk, strOk, Bool.and_eq_true, decide_eq_true_eq, List.all_eq_true, Bool.not_eq_true',
    List.isEmpty_eq_false_iff] at h
  exact ⟨h.1.1.1.1, h.1.1.1.2, List.length_pos_iff.mpr h.1.1.2, h.2⟩

theorem lastId_lt (es : List SEntry) (h : es.all sentryWF = true) : (lastId es).1 < two64 ∧ (lastId es).2 < two64 := by
  induction es with
  | nil => decide
  | cons e es ih =>
    simp only [List.all_cons, Bool.and_eq_true] at h
    cases es with
    | nil => exact ⟨(sentryWF_codec h.1).1, (sentryWF_codec h.1).2.1⟩
    | cons e' es' => exact ih h.2

theorem stream_lastId (db : Db) (k : Bytes) (remaining : Nat) (hrem : remaining < two32) (h4 : 4 ≤ remaining)
    (es0 : List SEntry) (hp : (lastId es0).1 < two64 ∧ (lastId es0).2 < two64) (bs : Bytes) (f : Nat) (s : Bool) :
    streamLoop true k remaining (f + 1) 0 db (encLastId es0 ++ bs) =
      (streamLoop true k remaining f 4 db bs).pre (lastIdAllocs es0) ∧
    streamSaved remaining (f + 1) 0 s (encLastId es0 ++ bs) = streamSaved remaining f 4 true bs := by
  have h := stream_round db k remaining 0 f s lastIdMarker [(idText (lastId es0), [])] hrem h4 Nat.one_pos (by decide)
    (List.forall_mem_singleton.mpr ⟨idText_length _ hp.1 hp.2, Nat.lt_trans Nat.one_pos (by decide)⟩) bs
  rw [← encLastId_eq, parseStreamId_lastIdMarker, if_pos rfl] at h
  dsimp only at h
  rw [parseStreamId_idText _ hp.1 hp.2] at h
  exact h

theorem stream_enc (db : Db) (k : Bytes) (remaining : Nat) (hrem : remaining < two32) (hf : k ∉ keys db)
    (rest : Bytes) (es : List SEntry) :
    ∀ (acc : List SEntry) (idx fuel : Nat),
      idx + streamItems es = remaining → (encSEntries es ++ rest).length < fuel →
      idsIncreasing (lastId acc) es = true → es.all sentryWF = true →
      streamLoop true k remaining fuel idx (streamState db k acc) (encSEntries es ++ rest) =
        .ok (streamState db k (acc ++ es)) rest (es.flatMap sAllocs) ∧
      streamSaved remaining fuel idx true (encSEntries es ++ rest) = true := by
  induction es with
  | nil =>
    intro acc idx fuel hidx hfuel _ _
    obtain ⟨f, rfl⟩ := Nat.exists_eq_succ_of_ne_zero (Nat.ne_zero_of_lt hfuel)
    have : ¬ idx < remaining := by simp only [streamItems] at hidx; omega
    rw [streamLoop, streamSaved, if_pos this, if_pos this, List.append_nil]
    exact ⟨rfl, rfl⟩
  | cons e es ih =>
    intro acc idx fuel hidx hfuel hinc hwf
    obtain ⟨f, rfl⟩ := Nat.exists_eq_succ_of_ne_zero (Nat.ne_zero_of_lt hfuel)
    simp only [List.all_cons, Bool.and_eq_true] at hwf
    obtain ⟨hms, hseq, hpos, hall⟩ := sentryWF_codec hwf.1
    simp only [idsIncreasing, Bool.and_eq_true] at hinc
    rw [streamItems] at hidx
    obtain ⟨hl, hs⟩ := stream_round (streamState db k acc) k remaining idx f true (idString e) e.fields hrem (by omega)
      hpos (idText_length (e.ms, e.seq) hms hseq) hall (encSEntries es ++ rest)
    have hfuel' : (encSEntries es ++ rest).length < f := by
      have := encLen_length_pos (idString e).length
      simp only [encSEntries, List.flatMap_cons, encSEntry, encString, List.length_append] at hfuel ⊢
      omega
    obtain ⟨hl', hs'⟩ := ih (acc ++ [e]) (idx + 2 + 2 * e.fields.length) f (by omega) hfuel'
      (by rw [lastId_append_single]; exact hinc.2) hwf.2
    rw [encSEntries, List.flatMap_cons, encSEntry_eq, List.append_assoc, ← encSEntries, hl, hs,
      if_neg (idString_ne_lastIdMarker e), hs', idString_eq_idText, parseStreamId_idText _ hms hseq]
    dsimp only
    rw [xaddIgnore_streamState db k acc e hf hinc.1, hl']
    simp [sAllocs, idString_eq_idText]

/-- after the loop the key exists: an entry created it, or else the loader that keeps empty streams does -/
theorem ensureStream_streamState (db : Db) (k : Bytes) (es : List SEntry) (c : Prop) [Decidable c] (hf : k ∉ keys db)
    (hc : es = [] → c) :
    (if c then ensureStream true (streamState db k es) k else .ok (streamState db k es)) =
      .ok (putEntry db ⟨k, .stream es, none⟩) := by
  cases es with
  | nil =>
    rw [if_pos (hc rfl)]
    exact ensureStream_fresh db k hf
  | cons e es =>
    split
    · exact ensureStream_put db k _ none
    · rfl

theorem loadTyped_stream (fix : Fix) (db : Db) (k : Bytes) (es : List SEntry) (dl : Option Nat) (hd : dlOk dl = true)
    (hk : strOk k = true) (hv : valueWF (.stream es) = true)
    (hs : isEmptyStream (.stream es) = false ∨ fix.keepEmptyStream = true)
    (hf : k ∉ keys db) (rest : Bytes) :
    loadTyped fix true db 1 dl (encString k ++ (encValue (.stream es) ++ rest)) =
      .ok (k, db ++ [⟨k, .stream es, dl⟩]) rest (k.length :: valueAllocs (.stream es)) := by
  simp only [strOk, valueWF, Bool.and_eq_true, decide_eq_true_eq] at hk hv
  obtain ⟨⟨hlen, hinc⟩, hall⟩ := hv
  rw [show 1 + 4 + streamItems es = 4 + streamItems es + 1 by omega] at hlen
  have hrem : 4 + streamItems es < two32 := Nat.lt_of_succ_lt hlen
  have hp := lastId_lt es hall
  have hfuel : (encSEntries es ++ rest).length < (encLastId es ++ (encSEntries es ++ rest)).length := by
    have := encLen_length_pos lastIdMarker.length
    simp only [encLastId, encString, List.length_append] at this ⊢
    omega
  obtain ⟨hl1, hs1⟩ := stream_lastId db k _ hrem (Nat.le_add_right 4 _) es hp (encSEntries es ++ rest)
    (encLastId es ++ (encSEntries es ++ rest)).length false
  obtain ⟨hl2, hs2⟩ : streamLoop true k (4 + streamItems es) _ 4 db (encSEntries es ++ rest) =
      .ok (streamState db k es) rest (es.flatMap sAllocs) ∧ _ :=
    stream_enc db k _ hrem hf rest es [] 4 _ rfl hfuel hinc hall
  have hkeep : es = [] → fix.keepEmptyStream = true ∧ true = true := fun h =>
    ⟨hs.resolve_left (by simp [h, isEmptyStream]), rfl⟩
  rw [encValue, show 1 + 4 + streamItems es = 4 + streamItems es + 1 by omega]
  simp only [List.append_assoc]
  rw [loadTyped_first fix true db dl k marker _ hk hlen (by decide), if_pos rfl,
    if_neg (fun h => absurd h.2 (by omega)), lift_ok, Res.bind_ok,
    hl1, hs1, hs2, hl2,
    Res.pre_ok, Res.bind_ok, ensureStream_streamState db k es _ hf hkeep, lift_ok, Res.bind_ok,
    expire_created _ _ _ _ hd hf]
  simp [valueAllocs]

/-- `read_key_value_with_type ∘ write_key_value`: loading `key ++ value` into a database without
    that key appends exactly `(key, value, deadline)`, consumes exactly the pair and allocates
    exactly the string lengths — for every value that is well-formed as written, that is not a
    marker-headed list (allowed once writer and loader apply the escape rule) and not an empty stream
    (allowed once the loader keeps empty streams). -/
theorem loadTyped_encKV (fix : Fix) (db : Db) (k : Bytes) (v : Value) (dl : Option Nat) (hd : dlOk dl = true)
    (hk : strOk k = true) (hv : valueWF (escValue fix.listEscape v) = true)
    (hm : startsWithMarker v = false ∨ fix.listEscape = true)
    (hs : isEmptyStream v = false ∨ fix.keepEmptyStream = true)
    (hf : k ∉ keys db) (rest : Bytes) :
    loadTyped fix true db (typeByte v) dl (encString k ++ (saveValue fix.listEscape v ++ rest)) =
      .ok (k, db ++ [⟨k, v, dl⟩]) rest (k.length :: valueAllocs (escValue fix.listEscape v)) := by
  have hk' : k.length < two32 := of_decide_eq_true hk
  cases v with
  | list xs => exact loadTyped_list fix db k xs dl hd hk hv hm hf rest
  | stream es => exact loadTyped_stream fix db k es dl hd hk hv hs hf rest
  | str b =>
    simp only [escValue, valueWF, strOk, decide_eq_true_eq] at hv
    simp only [typeByte, saveValue, escValue, encValue, loadTyped, ↓reduceIte]
    rw [readString_encString k hk', Res.bind_ok, readString_encString b hv, Res.bind_ok,
      setValue_valid _ _ hd, putEntry_fresh db ⟨k, .str b, dl⟩ hf]
    rfl
  | set xs =>
    simp only [escValue, valueWF, strOk, Bool.and_eq_true, decide_eq_true_eq, List.all_eq_true] at hv
    obtain ⟨⟨hlen, hnd⟩, hall⟩ := hv
    simp only [typeByte, saveValue, escValue, encValue, loadTyped, Nat.reduceEqDiff, or_self, ↓reduceIte,
      List.append_assoc]
    rw [readString_encString k hk', Res.bind_ok, readLen_encLen _ hlen, Res.bind_ok,
      readStrings_encStrings xs hall, Res.bind_ok, sadd_fresh _ _ _ hf, insertAll_nodup [] xs hnd, lift_ok,
      Res.bind_ok, expire_created _ _ _ _ hd hf]
    simp [valueAllocs]
  | hash fs =>
    simp only [escValue, valueWF, strOk, pairOk, Bool.and_eq_true, decide_eq_true_eq, List.all_eq_true] at hv
    obtain ⟨⟨hlen, hnd⟩, hall⟩ := hv
    simp only [typeByte, saveValue, escValue, encValue, loadTyped, Nat.reduceEqDiff, or_self, ↓reduceIte,
      List.append_assoc]
    rw [readString_encString k hk', Res.bind_ok, readLen_encLen _ hlen, Res.bind_ok,
      readPairs_encPairs fs hall, Res.bind_ok, hset_fresh _ _ _ hf, upsertAll_nodup [] fs hnd, lift_ok,
      Res.bind_ok, expire_created _ _ _ _ hd hf]
    simp [valueAllocs]
  | zset zs =>
    cases zs with
    | nil => simp [escValue, valueWF] at hv
    | cons z zs =>
      simp only [escValue, valueWF, strOk, Bool.and_eq_true, decide_eq_true_eq, List.all_eq_true,
        List.forall_mem_cons, List.length_cons] at hv
      obtain ⟨⟨⟨-, hlen⟩, hnd⟩, ⟨hm, hsc⟩, hall⟩ := hv
      simp only [typeByte, saveValue, escValue, encValue, loadTyped, Nat.reduceEqDiff, true_or, ↓reduceIte,
        encZItems, List.flatMap_cons, encZItem, List.append_assoc, List.length_cons]
      rw [readString_encString k hk', Res.bind_ok, readLen_encLen _ hlen, Res.bind_ok,
        if_pos (Nat.le_add_left 1 _), readString_encString z.1 hm, Res.bind_ok, readFixed_u64le, Res.bind_ok,
        leVal_u64le z.2 hsc, zadd_fresh _ _ _ _ hf, lift_ok, Res.bind_ok, Nat.add_sub_cancel,
        ← encZItems, readZPairs_encZItems zs hall, Res.bind_ok, zaddMore_put, upsertAll_nodup [z] zs hnd,
        expire_created _ _ _ _ hd hf]
      simp [valueAllocs, zLengths]

end Ferrous.Rdb
