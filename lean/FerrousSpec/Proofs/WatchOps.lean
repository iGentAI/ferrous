/-
  Storage operations and the sweeper's deletion: connections and watcher counts stay, trackers grow, an entry
  the operation does not address keeps counter and content, and an operation that marks what it changes
  leaves a changed entry `Marked`.
-/
import FerrousSpec.Proofs.WatchBasic
namespace Ferrous.Watch

theorem grows_setTracker_same (s : State) (d sh : Nat) (t' : Tracker)
    (hg : t'.global = (s.tracker d sh).global) (hc : ∀ k, t'.counter k = (s.tracker d sh).counter k) :
    Grows s (s.setTracker d sh t') :=
  ⟨fun h d' sh' => tracker_setTracker_rel (R := fun t t' => TrackerOk t → TrackerOk t') s d sh t' d' sh'
      (fun _ => id) (fun _ _ ht k => by rw [hc, hg]; exact ht k) (h d' sh'),
   fun d' sh' => tracker_setTracker_rel (R := fun t t' => t.global ≤ t'.global) s d sh t' d' sh'
      (fun _ => Nat.le_refl _) (fun _ _ => Nat.le_of_eq hg.symm),
   fun _ d' k' => tracker_setTracker_rel (R := fun t t' => t.counter k' ≤ t'.counter k') s d sh t' d' (shardOf k')
      (fun _ => Nat.le_refl _) (fun _ _ => Nat.le_of_eq (hc k').symm)⟩

theorem counter_setTracker_same (s : State) (d sh : Nat) (t' : Tracker)
    (hc : ∀ k, t'.counter k = (s.tracker d sh).counter k) (d' : Nat) (k' : Key) :
    (s.setTracker d sh t').counter d' k' = s.counter d' k' :=
  tracker_setTracker_rel (R := fun t t' => t'.counter k' = t.counter k') s d sh t' d' (shardOf k') (fun _ => rfl)
    (fun _ _ => hc k')

theorem global_setTracker_same (s : State) (d sh : Nat) (t' : Tracker)
    (hg : t'.global = (s.tracker d sh).global) (d' sh' : Nat) :
    ((s.setTracker d sh t').tracker d' sh').global = (s.tracker d' sh').global :=
  tracker_setTracker_rel (R := fun t t' => t'.global = t.global) s d sh t' d' sh' (fun _ => rfl) (fun _ _ => hg)

theorem active_setTracker (s : State) (d sh : Nat) (t' : Tracker) (d' sh' : Nat) :
    (s.setTracker d sh t').active d' sh' = if (d, sh) = (d', sh') then t'.active else s.active d' sh' := by
  unfold State.active
  rw [tracker_setTracker]
  split <;> rfl

/-! ### at most one write to an entry, marked or not

  A key operation, the sweeper's deletion and the purge at WATCH all have this shape. -/

def Wrote (d : Nat) (k : Key) (s s' : State) : Prop :=
  s' = s ∨ ∃ e, s' = s.setEntry d k e ∨ s' = markKey (s.setEntry d k e) d k

theorem Wrote.conns {d : Nat} {k : Key} {s s' : State} (h : Wrote d k s s') : s'.conns = s.conns := by
  rcases h with rfl | ⟨e, rfl | rfl⟩ <;> rfl

theorem Wrote.active {d : Nat} {k : Key} {s s' : State} (h : Wrote d k s s') (d' sh' : Nat) :
    s'.active d' sh' = s.active d' sh' := by
  rcases h with rfl | ⟨e, rfl | rfl⟩
  · rfl
  · rfl
  · rw [active_markKey, active_setEntry]

theorem Wrote.grows {d : Nat} {k : Key} {s s' : State} (h : Wrote d k s s') : Grows s s' := by
  rcases h with rfl | ⟨e, rfl | rfl⟩
  · exact Grows.refl _
  · exact grows_setEntry s d k e
  · exact (grows_setEntry s d k e).trans (grows_markKey _ d k)

theorem Wrote.untouched {d : Nat} {k : Key} {s s' : State} (h : Wrote d k s s') {d' : Nat} {k' : Key}
    (hne : (d, k) ≠ (d', k')) : s'.counter d' k' = s.counter d' k' ∧ s'.entry d' k' = s.entry d' k' := by
  rcases h with rfl | ⟨e, rfl | rfl⟩
  · exact ⟨rfl, rfl⟩
  · exact ⟨rfl, by rw [entry_setEntry, if_neg hne]⟩
  · exact ⟨by rw [counter_markKey_other _ _ _ _ _ hne, counter_setEntry],
      by rw [entry_markKey, entry_setEntry, if_neg hne]⟩

theorem wrote_applyKeyOp (s : State) (d : Nat) (o : KeyOp) : Wrote d o.key s (applyKeyOp s d o) := by
  unfold applyKeyOp
  split
  · simp only []
    split
    · exact Or.inr ⟨_, Or.inr rfl⟩
    · exact Or.inr ⟨_, Or.inl rfl⟩
  · exact Or.inl rfl

@[simp] theorem conns_applyKeyOp (s : State) (d : Nat) (o : KeyOp) : (applyKeyOp s d o).conns = s.conns :=
  (wrote_applyKeyOp s d o).conns

@[simp] theorem active_applyKeyOp (s : State) (d : Nat) (o : KeyOp) (d' sh' : Nat) :
    (applyKeyOp s d o).active d' sh' = s.active d' sh' :=
  (wrote_applyKeyOp s d o).active d' sh'

theorem grows_applyKeyOp (s : State) (d : Nat) (o : KeyOp) : Grows s (applyKeyOp s d o) :=
  (wrote_applyKeyOp s d o).grows

theorem entry_applyKeyOp (s : State) (d : Nat) (o : KeyOp) (d' : Nat) (k' : Key) :
    (applyKeyOp s d o).entry d' k' =
      if o.eff.reaches = true ∧ (d, o.key) = (d', k') then o.eff.result (s.entry d o.key) else s.entry d' k' := by
  unfold applyKeyOp
  by_cases hr : o.eff.reaches = true
  · simp only [hr, if_true, true_and]
    split <;> simp
  · simp [hr]

theorem counter_applyKeyOp_other (s : State) (d : Nat) (o : KeyOp) (d' : Nat) (k' : Key)
    (h : ¬ (o.eff.reaches = true ∧ (d, o.key) = (d', k'))) :
    (applyKeyOp s d o).counter d' k' = s.counter d' k' := by
  unfold applyKeyOp
  by_cases hr : o.eff.reaches = true
  · have hne : (d, o.key) ≠ (d', k') := fun e => h ⟨hr, e⟩
    simp only [hr, if_true]
    split
    · rw [counter_markKey_other _ _ _ _ _ hne]; rfl
    · rfl
  · simp [hr]

theorem applyKeyOp_marks (s : State) (d : Nat) (o : KeyOp)
    (hr : o.eff.reaches = true) (hm : o.marks = true) (ha : s.active d (shardOf o.key) ≠ 0) :
    Marked d o.key s (applyKeyOp s d o) := by
  unfold applyKeyOp
  simp only [hr, hm, if_true]
  exact markKey_marks (s.setEntry d o.key _) d o.key ha

def markAll (s : State) (xs : List (Nat × Key)) : State := xs.foldl (fun s x => markKey s x.1 x.2) s

@[simp] theorem conns_markAll (s : State) (xs : List (Nat × Key)) : (markAll s xs).conns = s.conns :=
  foldl_obs (·.conns) (fun s (x : Nat × Key) => markKey s x.1 x.2) xs (fun s x _ => conns_markKey s x.1 x.2) s

@[simp] theorem data_markAll (s : State) (xs : List (Nat × Key)) : (markAll s xs).data = s.data :=
  foldl_obs (·.data) (fun s (x : Nat × Key) => markKey s x.1 x.2) xs (fun s x _ => data_markKey s x.1 x.2) s

@[simp] theorem active_markAll (s : State) (xs : List (Nat × Key)) (d sh : Nat) :
    (markAll s xs).active d sh = s.active d sh :=
  foldl_obs (·.active d sh) (fun s (x : Nat × Key) => markKey s x.1 x.2) xs (fun s x _ => active_markKey s x.1 x.2 d sh) s

theorem grows_markAll (s : State) (xs : List (Nat × Key)) : Grows s (markAll s xs) :=
  foldl_rel Grows.refl Grows.trans (fun s (x : Nat × Key) => markKey s x.1 x.2) (fun s x => grows_markKey s x.1 x.2) xs s

theorem counter_markAll_other (s : State) (xs : List (Nat × Key)) (d : Nat) (k : Key) (h : (d, k) ∉ xs) :
    (markAll s xs).counter d k = s.counter d k :=
  foldl_obs (·.counter d k) (fun s (x : Nat × Key) => markKey s x.1 x.2) xs
    (fun s x m => counter_markKey_other s x.1 x.2 d k fun e => h (e ▸ m)) s

theorem markAll_marks (s : State) (xs : List (Nat × Key)) (d : Nat) (k : Key) (hk : TOk s)
    (h : (d, k) ∈ xs) (ha : s.active d (shardOf k) ≠ 0) : Marked d k s (markAll s xs) :=
  foldl_marked_of_mem (fun s (x : Nat × Key) => markKey s x.1 x.2) (fun s => TOk s ∧ s.active d (shardOf k) ≠ 0)
    (fun s x => grows_markKey s x.1 x.2) (fun _ h => h.1)
    (fun s x h => ⟨tok_markKey s _ _ h.1, by rw [active_markKey]; exact h.2⟩)
    (a := (d, k)) (fun s h => markKey_marks s d k h.2) xs s h ⟨hk, ha⟩

theorem aget_map_clear (m : List ((Nat × Key) × Option Entry)) (p : Nat → Bool) (x : Nat × Key) :
    aget (m.map (fun y => if p y.1.1 = true then (y.1, none) else y)) x none =
      if p x.1 = true then none else aget m x none := by
  induction m with
  | nil => simp [aget]
  | cons y r ih =>
    obtain ⟨a, v⟩ := y
    simp only [List.map_cons]
    by_cases hp : p a.1 = true
    · simp only [hp, if_true]
      unfold aget
      by_cases e : a = x
      · subst e; simp [hp]
      · simp only [e, if_false]; exact ih
    · have hp' : p a.1 = false := by simpa using hp
      simp only [hp', Bool.false_eq_true, if_false]
      unfold aget
      by_cases e : a = x
      · subst e; simp [hp']
      · simp only [e, if_false]; exact ih

theorem mem_presentKeys (s : State) (p : Nat → Bool) (x : Nat × Key) :
    x ∈ presentKeys s p → p x.1 = true := by
  unfold presentKeys
  simp only [List.mem_map, List.mem_filter, Bool.and_eq_true]
  rintro ⟨y, ⟨_, hy⟩, rfl⟩
  exact hy.1

theorem presentKeys_of_entry (s : State) (p : Nat → Bool) (d : Nat) (k : Key)
    (hp : p d = true) (he : s.entry d k ≠ none) : (d, k) ∈ presentKeys s p := by
  unfold presentKeys
  simp only [List.mem_map, List.mem_filter, Bool.and_eq_true]
  refine ⟨((d, k), s.entry d k), ⟨aget_mem s.data (d, k) none he, hp, ?_⟩, rfl⟩
  cases h : s.entry d k with
  | none => exact absurd h he
  | some e => rfl

theorem flushWhere_eq (s : State) (p : Nat → Bool) (marks : Bool) :
    flushWhere s p marks =
      { (if marks then markAll s (presentKeys s p) else s) with
        data := (if marks then markAll s (presentKeys s p) else s).data.map
                  (fun x => if p x.1.1 = true then (x.1, none) else x) } := rfl

@[simp] theorem conns_flushWhere (s : State) (p : Nat → Bool) (marks : Bool) : (flushWhere s p marks).conns = s.conns := by
  rw [flushWhere_eq]; cases marks <;> simp

theorem tracker_flushWhere (s : State) (p : Nat → Bool) (marks : Bool) (d sh : Nat) :
    (flushWhere s p marks).tracker d sh = (if marks then markAll s (presentKeys s p) else s).tracker d sh := by
  rw [flushWhere_eq]; rfl

@[simp] theorem active_flushWhere (s : State) (p : Nat → Bool) (marks : Bool) (d sh : Nat) :
    (flushWhere s p marks).active d sh = s.active d sh := by
  unfold State.active; rw [tracker_flushWhere]
  cases marks
  · rfl
  · exact active_markAll s _ d sh

theorem grows_flushWhere (s : State) (p : Nat → Bool) (marks : Bool) : Grows s (flushWhere s p marks) := by
  have h1 : Grows s (if marks then markAll s (presentKeys s p) else s) := by
    cases marks
    · exact Grows.refl s
    · exact grows_markAll s _
  refine h1.trans (Grows.of_trk_eq ?_)
  rw [flushWhere_eq]

theorem entry_flushWhere (s : State) (p : Nat → Bool) (marks : Bool) (d : Nat) (k : Key) :
    (flushWhere s p marks).entry d k = if p d = true then none else s.entry d k := by
  rw [flushWhere_eq]
  unfold State.entry
  simp only []
  rw [aget_map_clear]
  cases marks <;> simp

theorem counter_flushWhere (s : State) (p : Nat → Bool) (marks : Bool) (d : Nat) (k : Key) :
    (flushWhere s p marks).counter d k = (if marks then markAll s (presentKeys s p) else s).counter d k := by
  unfold State.counter; rw [tracker_flushWhere]

theorem counter_flushWhere_other (s : State) (p : Nat → Bool) (marks : Bool) (d : Nat) (k : Key)
    (h : p d = false) : (flushWhere s p marks).counter d k = s.counter d k := by
  rw [counter_flushWhere]
  cases marks
  · rfl
  · apply counter_markAll_other
    intro m
    have := mem_presentKeys s p (d, k) m
    simp [h] at this

theorem flushWhere_changed_marks (s : State) (p : Nat → Bool) (d : Nat) (k : Key) (hk : TOk s)
    (hch : (flushWhere s p true).entry d k ≠ s.entry d k) (ha : s.active d (shardOf k) ≠ 0) :
    Marked d k s (flushWhere s p true) := by
  rw [entry_flushWhere] at hch
  by_cases hp : p d = true
  · rw [if_pos hp] at hch
    unfold Marked
    rw [counter_flushWhere]
    exact markAll_marks s _ d k hk (presentKeys_of_entry s p d k hp (Ne.symm hch)) ha
  · rw [if_neg hp] at hch
    exact absurd rfl hch

/-- does the operation, run in database `d'`, address the entry `(d, k)`? (a flush addresses every key of
    the databases it clears) -/
def opTouches (d : Nat) (k : Key) (d' : Nat) : Op → Bool
  | .key o => decide (d' = d) && decide (o.key = k) && o.eff.reaches
  | .flush all _ => all || decide (d' = d)

/-- the operation marks whatever it changes (the table condition of the fixed tree) -/
def opMarksOk : Op → Bool
  | .key o => !o.eff.reaches || o.marks
  | .flush _ m => m

@[simp] theorem conns_applyOp (s : State) (d : Nat) (o : Op) : (applyOp s d o).conns = s.conns := by
  cases o with
  | key ko => simp [applyOp]
  | flush all m => cases all <;> simp [applyOp]

@[simp] theorem active_applyOp (s : State) (d : Nat) (o : Op) (d' sh' : Nat) :
    (applyOp s d o).active d' sh' = s.active d' sh' := by
  cases o with
  | key ko => simp [applyOp]
  | flush all m => cases all <;> simp [applyOp]

theorem grows_applyOp (s : State) (d : Nat) (o : Op) : Grows s (applyOp s d o) := by
  cases o with
  | key ko => exact grows_applyKeyOp s d ko
  | flush all m => cases all <;> exact grows_flushWhere s _ m

theorem applyOp_untouched (s : State) (d' : Nat) (o : Op) (d : Nat) (k : Key)
    (h : opTouches d k d' o = false) :
    (applyOp s d' o).counter d k = s.counter d k ∧ (applyOp s d' o).entry d k = s.entry d k := by
  cases o with
  | key ko =>
    have hn : ¬ (ko.eff.reaches = true ∧ (d', ko.key) = (d, k)) := by
      rintro ⟨hr, e⟩
      simp only [Prod.mk.injEq] at e
      simp [opTouches, hr, e.1, e.2] at h
    refine ⟨counter_applyKeyOp_other s d' ko d k hn, ?_⟩
    show (applyKeyOp s d' ko).entry d k = s.entry d k
    rw [entry_applyKeyOp]; simp only [hn, if_false]
  | flush all m =>
    cases all with
    | true => simp [opTouches] at h
    | false =>
      have hd : d' ≠ d := by simpa [opTouches] using h
      have hd' : ¬ d = d' := fun e => hd e.symm
      have hp : (fun x => decide (x = d')) d = false := by simp [hd']
      refine ⟨counter_flushWhere_other s _ m d k hp, ?_⟩
      simp only [applyOp]
      rw [entry_flushWhere]
      simp [hd']

theorem applyOp_changed_marks (s : State) (d' : Nat) (o : Op) (d : Nat) (k : Key) (hk : TOk s)
    (hok : opMarksOk o = true) (hch : (applyOp s d' o).entry d k ≠ s.entry d k)
    (ha : s.active d (shardOf k) ≠ 0) : Marked d k s (applyOp s d' o) := by
  cases o with
  | key ko =>
    simp only [applyOp] at hch ⊢
    rw [entry_applyKeyOp] at hch
    by_cases hc : ko.eff.reaches = true ∧ (d', ko.key) = (d, k)
    · obtain ⟨hr, e⟩ := hc
      simp only [Prod.mk.injEq] at e
      obtain ⟨e1, e2⟩ := e
      subst e1; subst e2
      have hm : ko.marks = true := by simpa [opMarksOk, hr] using hok
      exact applyKeyOp_marks s d' ko hr hm ha
    · simp only [hc, if_false] at hch
      exact absurd rfl hch
  | flush all m =>
    have hm : m = true := by simpa [opMarksOk] using hok
    subst hm
    cases all <;> exact flushWhere_changed_marks s _ d k hk hch ha

@[simp] theorem conns_applyOps (s : State) (d : Nat) (ops : List Op) : (applyOps s d ops).conns = s.conns :=
  foldl_obs (·.conns) _ ops (fun s o _ => conns_applyOp s d o) s

@[simp] theorem conn_applyOps (s : State) (d : Nat) (ops : List Op) (c : Nat) : (applyOps s d ops).conn c = s.conn c := by
  unfold State.conn; rw [conns_applyOps]

@[simp] theorem active_applyOps (s : State) (d : Nat) (ops : List Op) (d' sh' : Nat) :
    (applyOps s d ops).active d' sh' = s.active d' sh' :=
  foldl_obs (·.active d' sh') _ ops (fun s o _ => active_applyOp s d o d' sh') s

theorem grows_applyOps (s : State) (d : Nat) (ops : List Op) : Grows s (applyOps s d ops) :=
  foldl_rel Grows.refl Grows.trans _ (fun s o => grows_applyOp s d o) ops s

theorem applyOps_untouched (s : State) (d' : Nat) (ops : List Op) (d : Nat) (k : Key)
    (h : ∀ o ∈ ops, opTouches d k d' o = false) :
    (applyOps s d' ops).counter d k = s.counter d k ∧ (applyOps s d' ops).entry d k = s.entry d k :=
  Prod.mk.inj (foldl_obs (fun s => (s.counter d k, s.entry d k)) (fun s o => applyOp s d' o) ops
    (fun s o m => by rw [(applyOp_untouched s d' o d k (h o m)).1, (applyOp_untouched s d' o d k (h o m)).2]) s)

theorem applyOps_marks (s : State) (d : Nat) (ops : List Op) (ko : KeyOp) (hk : TOk s)
    (hmem : Op.key ko ∈ ops) (hr : ko.eff.reaches = true) (hm : ko.marks = true)
    (ha : s.active d (shardOf ko.key) ≠ 0) : Marked d ko.key s (applyOps s d ops) :=
  foldl_marked_of_mem (fun s o => applyOp s d o) (fun s => TOk s ∧ s.active d (shardOf ko.key) ≠ 0)
    (fun s o => grows_applyOp s d o) (fun _ h => h.1)
    (fun s o h => ⟨(grows_applyOp s d o).tok h.1, by rw [active_applyOp]; exact h.2⟩)
    (a := Op.key ko) (fun s h => applyKeyOp_marks s d ko hr hm h.2) ops s hmem ⟨hk, ha⟩

theorem applyOps_changed_marks (s : State) (d' : Nat) (ops : List Op) (d : Nat) (k : Key) (hk : TOk s)
    (hok : ∀ o ∈ ops, opMarksOk o = true) (hch : (applyOps s d' ops).entry d k ≠ s.entry d k)
    (ha : s.active d (shardOf k) ≠ 0) : Marked d k s (applyOps s d' ops) :=
  foldl_marked_of_changed (fun s o => applyOp s d' o)
    (fun l s => TOk s ∧ (∀ o ∈ l, opMarksOk o = true) ∧ s.active d (shardOf k) ≠ 0)
    (fun s o => grows_applyOp s d' o) (fun _ _ h => h.1)
    (fun o _ s h => ⟨(grows_applyOp s d' o).tok h.1, fun o' m => h.2.1 o' (List.mem_cons_of_mem _ m),
      by rw [active_applyOp]; exact h.2.2⟩)
    (fun o _ s h e => applyOp_changed_marks s d' o d k h.1 (h.2.1 o List.mem_cons_self) e h.2.2)
    ops s ⟨hk, hok, ha⟩ hch

theorem wrote_sweepKey (s : State) (d : Nat) (k : Key) (m : Bool) (now : Nat) : Wrote d k s (sweepKey s d k m now) := by
  unfold sweepKey
  split
  · split
    · simp only []
      split
      · exact Or.inr ⟨_, Or.inr rfl⟩
      · exact Or.inr ⟨_, Or.inl rfl⟩
    · exact Or.inl rfl
  · exact Or.inl rfl

@[simp] theorem conns_sweepKey (s : State) (d : Nat) (k : Key) (m : Bool) (now : Nat) :
    (sweepKey s d k m now).conns = s.conns :=
  (wrote_sweepKey s d k m now).conns

@[simp] theorem active_sweepKey (s : State) (d : Nat) (k : Key) (m : Bool) (now : Nat) (d' sh' : Nat) :
    (sweepKey s d k m now).active d' sh' = s.active d' sh' :=
  (wrote_sweepKey s d k m now).active d' sh'

theorem grows_sweepKey (s : State) (d : Nat) (k : Key) (m : Bool) (now : Nat) : Grows s (sweepKey s d k m now) :=
  (wrote_sweepKey s d k m now).grows

theorem sweepKey_untouched (s : State) (d' : Nat) (k' : Key) (m : Bool) (now : Nat) (d : Nat) (k : Key)
    (h : (d', k') ≠ (d, k)) :
    (sweepKey s d' k' m now).counter d k = s.counter d k ∧ (sweepKey s d' k' m now).entry d k = s.entry d k :=
  (wrote_sweepKey s d' k' m now).untouched h

theorem sweepKey_changed_marks (s : State) (d : Nat) (k : Key) (now : Nat)
    (hch : (sweepKey s d k true now).entry d k ≠ s.entry d k) (ha : s.active d (shardOf k) ≠ 0) :
    Marked d k s (sweepKey s d k true now) := by
  unfold sweepKey at hch ⊢
  split
  · rename_i e he
    split
    · simp only [if_true]
      exact markKey_marks (s.setEntry d k none) d k ha
    · rename_i hx
      simp [he, hx] at hch
  · rename_i he
    simp [he] at hch

end Ferrous.Watch
