/-
  What a storage function does once its lazy test has handed it an entry (`dataWrites`, `indexWrites`, `reply`).
  The code is `enter` followed by these, the prescribed store is the view followed by the
  first and the last; single-step refinement and the preservation of unique keys follow for all functions at once.
-/
import FerrousSpec.Proofs.ExpiryBasic
namespace Ferrous.Exp
open Ferrous

def lazyOp (c : Cfg) : Op → Bool
  | .setValue _ _ _ _ => true
  | .setNx _ _ ttl => c.lazy (setNxFn ttl)
  | .get _ => c.lazy "get"
  | .exists _ => c.lazy "exists"
  | .delete _ => c.lazy "delete"
  | .expire _ _ => c.lazy "expire"
  | .persist _ => c.lazy "persist"
  | .ttl _ => c.lazy "ttl"
  | .keyType _ => c.lazy "key_type"
  | .read fn _ _ => c.lazy fn
  | .update fn _ _ _ => c.lazy fn
  | .shrink fn _ _ => c.lazy fn
  | .rename _ _ => c.lazy "rename"
  | .keys fn => c.lazy fn
  | .scan => c.lazy "scan"
  | .flush => true

/-- no expired entry is stored under the key(s) the call looks at -/
def Clean (now : Nat) (o : Op) (s : Shard) : Prop :=
  match o with
  | .setValue _ _ _ _ => True
  | .flush => True
  | .keys _ => ∀ p ∈ s.data, expired now p.2 = false
  | .scan => ∀ p ∈ s.data, expired now p.2 = false
  | .setNx k _ _ => ∀ e, lookup s.data k = some e → expired now e = false
  | .get k => ∀ e, lookup s.data k = some e → expired now e = false
  | .exists k => ∀ e, lookup s.data k = some e → expired now e = false
  | .delete k => ∀ e, lookup s.data k = some e → expired now e = false
  | .expire k _ => ∀ e, lookup s.data k = some e → expired now e = false
  | .persist k => ∀ e, lookup s.data k = some e → expired now e = false
  | .ttl k => ∀ e, lookup s.data k = some e → expired now e = false
  | .keyType k => ∀ e, lookup s.data k = some e → expired now e = false
  | .read _ k _ => ∀ e, lookup s.data k = some e → expired now e = false
  | .update _ k _ _ => ∀ e, lookup s.data k = some e → expired now e = false
  | .shrink _ k _ => ∀ e, lookup s.data k = some e → expired now e = false
  | .rename a _ => ∀ e, lookup s.data a = some e → expired now e = false

theorem fresh_alive (now t : Nat) (tag : Tag) (val : Nat) : expired now ⟨tag, val, some (now + t)⟩ = false := by
  simp [expired]

theorem fresh_alive_opt (now : Nat) (ttl : Option Nat) (tag : Tag) (val : Nat) :
    expired now ⟨tag, val, ttl.map (now + ·)⟩ = false := by
  cases ttl <;> simp [expired]

theorem expired_none (now : Nat) (tag : Tag) (val : Nat) : expired now ⟨tag, val, none⟩ = false := rfl

/-- `(k, some v)` stores `v` under `k`, `(k, none)` removes `k` -/
def applyWrites {α : Type} (l : List (Key × α)) : List (Key × Option α) → List (Key × α)
  | [] => l
  | (k, some v) :: r => applyWrites (insert l k v) r
  | (k, none) :: r => applyWrites (erase l k) r

theorem nodup_applyWrites {α : Type} (l : List (Key × α)) (ws : List (Key × Option α)) (h : NodupKeys l) :
    NodupKeys (applyWrites l ws) := by
  induction ws generalizing l with
  | nil => exact h
  | cons w r ih =>
    obtain ⟨k, _ | v⟩ := w
    · exact ih _ (nodup_erase l k h)
    · exact ih _ (nodup_insert l k v h)

theorem lookup_applyWrites_other {α : Type} (l : List (Key × α)) (ws : List (Key × Option α)) (x : Key)
    (h : ∀ w ∈ ws, x ≠ w.1) : lookup (applyWrites l ws) x = lookup l x := by
  induction ws generalizing l with
  | nil => rfl
  | cons w r ih =>
    obtain ⟨k, _ | v⟩ := w
    · rw [applyWrites, ih _ fun w hw => h w (List.mem_cons_of_mem _ hw)]
      exact lookup_erase_other l k x (h _ List.mem_cons_self)
    · rw [applyWrites, ih _ fun w hw => h w (List.mem_cons_of_mem _ hw)]
      exact lookup_insert_other l k x v (h _ List.mem_cons_self)

theorem purge_applyWrites (now : Nat) (d : Db) (ws : List (Key × Option Stored))
    (h : ∀ w ∈ ws, ∀ e, w.2 = some e → expired now e = false) :
    Spec.purge now (applyWrites d ws) = applyWrites (Spec.purge now d) ws := by
  induction ws generalizing d with
  | nil => rfl
  | cons w r ih =>
    obtain ⟨k, _ | e⟩ := w
    · rw [applyWrites, ih _ fun w hw => h w (List.mem_cons_of_mem _ hw), purge_erase]; rfl
    · rw [applyWrites, ih _ fun w hw => h w (List.mem_cons_of_mem _ hw),
        purge_insert_alive now d k e (h _ List.mem_cons_self e rfl)]; rfl

/-- the engine function whose lazy test a storage call goes through and the key it looks up
    (`none`: `keys`, `scan`, `flush`, which look at no single entry) -/
def Op.site : Op → Option (String × Key)
  | .setValue k _ _ _ => some ("set_value", k)
  | .setNx k _ t => some (setNxFn t, k)
  | .get k => some ("get", k)
  | .exists k => some ("exists", k)
  | .delete k => some ("delete", k)
  | .expire k _ => some ("expire", k)
  | .persist k => some ("persist", k)
  | .ttl k => some ("ttl", k)
  | .keyType k => some ("key_type", k)
  | .read fn k _ => some (fn, k)
  | .update fn k _ _ => some (fn, k)
  | .shrink fn k _ => some (fn, k)
  | .rename a _ => some ("rename", a)
  | .keys _ => none
  | .scan => none
  | .flush => none

def touches : Op → Key → Bool
  | .setValue k _ _ _, x => decide (k = x)
  | .setNx k _ _, x => decide (k = x)
  | .get k, x => decide (k = x)
  | .exists k, x => decide (k = x)
  | .delete k, x => decide (k = x)
  | .expire k _, x => decide (k = x)
  | .persist k, x => decide (k = x)
  | .ttl k, x => decide (k = x)
  | .keyType k, x => decide (k = x)
  | .read _ k _, x => decide (k = x)
  | .update _ k _ _, x => decide (k = x)
  | .shrink _ k _, x => decide (k = x)
  | .rename a b, x => decide (a = x) || decide (b = x)
  | .keys _, _ => false
  | .scan, _ => false
  | .flush, _ => true

/-- The entries a storage function writes (`some`) and removes (`none`) once its lazy test has handed it `cur`.
    The same for the code and for the prescribed store, which differ only in what they hand over. -/
def dataWrites (o : Op) (now : Nat) (cur : Option Stored) : List (Key × Option Stored) :=
  match o, cur with
  | .setValue k tag val ttl, _ => [(k, some ⟨tag, val, ttl.map (now + ·)⟩)]
  | .setNx k val ttl, none => [(k, some ⟨.str, val, ttl.map (now + ·)⟩)]
  | .delete k, some _ => [(k, none)]
  | .expire k ttl, some e => [(k, some { e with deadline := some (now + ttl) })]
  | .persist k, some e => if e.deadline.isSome then [(k, some { e with deadline := none })] else []
  | .update _ k tag delta, some e => if e.tag = tag then [(k, some { e with val := e.val + delta })] else []
  | .update _ k tag delta, none => [(k, some ⟨tag, delta, none⟩)]
  | .shrink _ k tag, some e =>
    if e.tag = tag then [(k, if e.val ≤ 1 then none else some { e with val := e.val - 1 })] else []
  | .rename a b, some e => [(a, none), (b, some e)]
  | _, _ => []

/-- what it does to the index `expiring_keys` -/
def indexWrites (c : Cfg) (o : Op) (now : Nat) (cur : Option Stored) : List (Key × Option Nat) :=
  match o, cur with
  | .setValue k _ _ (some t), _ => [(k, some (now + t))]
  | .setValue k _ _ none, _ => if c.setValueDropsStale then [(k, none)] else []
  | .setNx k _ (some t), none => [(k, some (now + t))]
  | .setNx k _ none, none => if c.setNxDropsStale then [(k, none)] else []
  | .delete k, some _ => [(k, none)]
  | .expire k ttl, some _ => [(k, some (now + ttl))]
  | .persist k, some e => if e.deadline.isSome then [(k, none)] else []
  | .shrink _ k tag, some e => if e.tag = tag then (if e.val ≤ 1 then (if c.emptiedDropsIndex then [(k, none)] else []) else []) else []
  | .rename a b, some e => if c.renameMovesIndex then [(a, none), (b, e.deadline)] else []
  | _, _ => []

/-- what it returns to its handler -/
def reply (o : Op) (now : Nat) (cur : Option Stored) : Obs :=
  match o, cur with
  | .setNx .., cur => .bool cur.isNone
  | .get _, some e => .found e.tag e.val
  | .get _, none => .missing
  | .exists _, cur => .bool cur.isSome
  | .delete _, cur => .bool cur.isSome
  | .expire .., cur => .bool cur.isSome
  | .persist _, some e => if e.deadline.isSome then .bool true else .bool false
  | .persist _, none => .bool false
  | .ttl _, some e => .remaining (e.deadline.map (· - now))
  | .ttl _, none => .remaining none
  | .keyType _, cur => .typ (cur.map (·.tag))
  | .read _ _ tag, some e => if e.tag = tag then .found e.tag e.val else .wrongType
  | .read .., none => .missing
  | .update _ _ tag delta, some e => if e.tag = tag then .num (e.val + delta) else .wrongType
  | .update _ _ _ delta, none => .num delta
  | .shrink _ _ tag, some e => if e.tag = tag then (if e.val ≤ 1 then .num 0 else .num (e.val - 1)) else .wrongType
  | .shrink .., none => .missing
  | .rename .., cur => .bool cur.isSome
  | _, _ => .unit

theorem step_of_site (c : Cfg) {o : Op} {fn : String} {k : Key} (h : o.site = some (fn, k)) (now : Nat) (s : Shard) :
    step c o now s =
      (⟨applyWrites (enter c fn now s k).1.data (dataWrites o now (enter c fn now s k).2),
        applyWrites (enter c fn now s k).1.expiring (indexWrites c o now (enter c fn now s k).2)⟩,
       reply o now (enter c fn now s k).2) := by
  cases o with
  | keys | scan | flush => cases h
  | setValue k tag val ttl =>
    cases h
    cases ttl
    · cases hc : c.setValueDropsStale <;> simp only [step, dataWrites, indexWrites, hc] <;> rfl
    · rfl
  | setNx k val ttl =>
    cases h
    simp only [step]
    rcases enter c (setNxFn ttl) now s k with ⟨s1, _ | e⟩ <;> cases ttl
    · cases hc : c.setNxDropsStale <;> simp only [dataWrites, indexWrites, hc] <;> rfl
    all_goals rfl
  | persist k =>
    cases h
    simp only [step]
    rcases enter c _ now s k with ⟨s1, _ | e⟩
    · rfl
    · cases hd : e.deadline.isSome <;> simp only [dataWrites, indexWrites, reply, hd] <;> rfl
  | read _ k tag | update _ k tag _ =>
    cases h
    simp only [step]
    rcases enter c _ now s k with ⟨s1, _ | e⟩
    · rfl
    · by_cases ht : e.tag = tag
      · simp only [dataWrites, indexWrites, reply, if_pos ht]; rfl
      · simp only [dataWrites, indexWrites, reply, if_neg ht]; rfl
  | shrink fn k tag =>
    cases h
    simp only [step]
    rcases enter c fn now s k with ⟨s1, _ | e⟩
    · rfl
    · by_cases ht : e.tag = tag
      · by_cases hv : e.val ≤ 1
        · cases hc : c.emptiedDropsIndex <;> simp only [dataWrites, indexWrites, reply, if_pos ht, if_pos hv, hc] <;> rfl
        · simp only [dataWrites, indexWrites, reply, if_pos ht, if_neg hv]; rfl
      · simp only [dataWrites, indexWrites, reply, if_neg ht]; rfl
  | rename a b =>
    cases h
    simp only [step]
    rcases enter c "rename" now s _ with ⟨s1, _ | e⟩
    · rfl
    · cases hc : c.renameMovesIndex <;> simp only [dataWrites, indexWrites, reply, hc]
      · rfl
      · cases e.deadline <;> rfl
  | _ =>
    cases h
    simp only [step]
    rcases enter c _ now s _ with ⟨s1, _ | e⟩ <;> rfl

theorem Spec.step_of_site {o : Op} {fn : String} {k : Key} (h : o.site = some (fn, k)) (now : Nat) (db : Db) :
    Spec.step o now db =
      (applyWrites (Spec.purge now db) (dataWrites o now (lookup (Spec.purge now db) k)),
       reply o now (lookup (Spec.purge now db) k)) := by
  cases o with
  | keys | scan | flush => cases h
  | setValue => cases h; rfl
  | persist k =>
    cases h
    simp only [Spec.step]
    cases lookup (Spec.purge now db) _ with
    | none => rfl
    | some e => cases hd : e.deadline.isSome <;> simp only [dataWrites, reply, hd] <;> rfl
  | read _ k tag | update _ k tag _ =>
    cases h
    simp only [Spec.step]
    cases lookup (Spec.purge now db) _ with
    | none => rfl
    | some e =>
      by_cases ht : e.tag = tag
      · simp only [dataWrites, reply, if_pos ht]; rfl
      · simp only [dataWrites, reply, if_neg ht]; rfl
  | shrink fn k tag =>
    cases h
    simp only [Spec.step]
    cases lookup (Spec.purge now db) _ with
    | none => rfl
    | some e =>
      by_cases ht : e.tag = tag
      · by_cases hv : e.val ≤ 1
        · simp only [dataWrites, reply, if_pos ht, if_pos hv]; rfl
        · simp only [dataWrites, reply, if_pos ht, if_neg hv]; rfl
      · simp only [dataWrites, reply, if_neg ht]; rfl
  | _ =>
    cases h
    simp only [Spec.step]
    cases lookup (Spec.purge now db) _ <;> rfl

theorem step_of_no_site (c : Cfg) {o : Op} (h : o.site = none) (now : Nat) (s : Shard) :
    (step c o now s).1 = s ∨ o = .flush := by
  cases o with
  | keys | scan => exact .inl rfl
  | flush => exact .inr rfl
  | _ => cases h

theorem handed_visible (c : Cfg) {o : Op} {fn : String} {k : Key} (hs : o.site = some (fn, k)) (now : Nat) (s : Shard)
    (hn : NodupKeys s.data) (h : lazyOp c o = true ∨ Clean now o s) :
    dataWrites o now (enter c fn now s k).2 = dataWrites o now (lookup (Spec.purge now s.data) k) ∧
    reply o now (enter c fn now s k).2 = reply o now (lookup (Spec.purge now s.data) k) := by
  cases o with
  | keys | scan | flush => cases hs
  | setValue => exact ⟨rfl, rfl⟩
  | _ => cases hs; rw [enter_snd c _ now s _ hn h]; exact ⟨rfl, rfl⟩

theorem dataWrites_spec (o : Op) (now : Nat) (cur : Option Stored) :
    ∀ w ∈ dataWrites o now cur, touches o w.1 = true ∧
      ((∀ e, cur = some e → expired now e = false) → ∀ e, w.2 = some e → expired now e = false) := by
  cases o with
  | setValue k tag val ttl => simp [dataWrites, touches, fresh_alive_opt]
  | setNx k val ttl => cases cur <;> simp [dataWrites, touches, fresh_alive_opt]
  | delete k => cases cur <;> simp [dataWrites, touches]
  | expire k ttl => cases cur <;> simp [dataWrites, touches, fresh_alive]
  | persist k => cases cur <;> simp [dataWrites, touches, expired_none]
  | update fn k tag delta =>
    cases cur with
    | none => simp [dataWrites, touches, expired_none]
    | some e => simp only [dataWrites]; split <;> simp [touches, expired]
  | shrink fn k tag =>
    cases cur with
    | none => simp [dataWrites]
    | some e =>
      simp only [dataWrites]
      split
      · split <;> simp [touches, expired]
      · simp
  | rename a b => cases cur <;> simp [dataWrites, touches]
  | _ => cases cur <;> exact fun _ h => nomatch h

theorem lookup_purge_alive (now : Nat) (d : Db) (k : Key) (e : Stored) (hn : NodupKeys d)
    (h : lookup (Spec.purge now d) k = some e) : expired now e = false := by
  rw [lookup_purge now d k hn] at h
  cases hl : lookup d k with
  | none => rw [hl] at h; cases h
  | some e' =>
    rw [hl, Option.filter] at h
    split at h
    · rename_i he; cases h; simpa using he
    · cases h

theorem keys_view (now : Nat) (d : Db) (b : Bool) (h : b = true ∨ ∀ p ∈ d, expired now p.2 = false) :
    (if b = true then d.filter (fun p => !expired now p.2) else d) = Spec.purge now d := by
  rcases h with rfl | h
  · rfl
  · have hd : Spec.purge now d = d := List.filter_eq_self.mpr fun p hp => by simp [h p hp]
    split
    · rfl
    · exact hd.symm

/-- SINGLE-STEP REFINEMENT.  A storage call that has a lazy test — or that meets no expired entry — returns what
    the prescribed store returns and leaves the same visible entries. -/
theorem step_refines (c : Cfg) (o : Op) (now : Nat) (s : Shard) (hn : NodupKeys s.data)
    (h : lazyOp c o = true ∨ Clean now o s) :
    Spec.purge now (step c o now s).1.data = (Spec.step o now s.data).1 ∧
    (step c o now s).2 = (Spec.step o now s.data).2 := by
  cases hs : o.site with
  | some p =>
    obtain ⟨fn, k⟩ := p
    obtain ⟨hd, hr⟩ := handed_visible c hs now s hn h
    rw [step_of_site c hs, Spec.step_of_site hs, hd, hr]
    refine ⟨?_, rfl⟩
    rw [purge_applyWrites now _ _ (fun w hw => (dataWrites_spec o now _ w hw).2 fun e he => lookup_purge_alive now s.data k e hn he),
      enter_view c fn now s k hn]
  | none =>
    cases o with
    | keys fn => exact ⟨rfl, congrArg (fun d : Db => Obs.keys (d.map Prod.fst)) (keys_view now s.data (c.lazy fn) h)⟩
    | scan => exact ⟨rfl, congrArg (fun d : Db => Obs.keys (d.map Prod.fst)) (keys_view now s.data (c.lazy "scan") h)⟩
    | flush => exact ⟨rfl, rfl⟩
    | _ => cases hs

theorem step_nodup (c : Cfg) (o : Op) (now : Nat) (s : Shard) (hn : NodupKeys s.data) :
    NodupKeys (step c o now s).1.data := by
  cases hs : o.site with
  | some p =>
    rw [step_of_site c hs]
    exact nodup_applyWrites _ _ (enter_nodup c p.1 now s p.2 hn)
  | none =>
    rcases step_of_no_site c hs now s with h | rfl
    · rw [h]; exact hn
    · exact nodup_nil

end Ferrous.Exp
