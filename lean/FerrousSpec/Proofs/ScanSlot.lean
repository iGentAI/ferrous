/-
  The slot cursor (C19): a cursor `c` stands for the elements at or after slot `c` (`fromSlot`); one
  call examines a prefix of them that ends at a slot boundary, so the next cursor stands for exactly
  the unexamined rest.  Membership in `fromSlot` does not depend on what else the list holds: that
  is why nothing added or deleted between two calls can make the walk skip a key.
-/
import FerrousSpec.Proofs.ScanIter
namespace Ferrous.Scan
open Code

variable (g : Cfg) (h : Bytes → Nat) (m : Bytes → Bool)

/-- Non-decreasing slots (all the theorems need; the tie-break by name only fixes the reply order). -/
def SortedS (l : List Bytes) : Prop := l.Pairwise (fun a b => h a ≤ h b)

theorem sortedS_sortSlot (l : List Bytes) : SortedS h (sortSlot h l) := by
  refine pairwise_sortBy (le := slotLe h) (R := fun a b => h a ≤ h b) (fun a b hab => ?_) (fun a b hab => ?_)
    (fun _ _ _ => Nat.le_trans) l
  · simp only [slotLe, Bool.or_eq_true, decide_eq_true_eq, Bool.and_eq_true, beq_iff_eq] at hab
    omega
  · simp only [slotLe, Bool.or_eq_false_iff, decide_eq_false_iff_not] at hab
    omega

theorem sortSlot_perm (l : List Bytes) : (sortSlot h l).Perm l := sortBy_perm _ l

/-- What a call with cursor `c` walks over. -/
def fromSlot (c : Nat) (l : List Bytes) : List Bytes := l.filter (fun k => decide (c ≤ h k))

def cntGe (c : Nat) (l : List Bytes) : Nat := (fromSlot h c l).length

theorem mem_fromSlot {c : Nat} {l : List Bytes} {k : Bytes} : k ∈ fromSlot h c l ↔ k ∈ l ∧ c ≤ h k := by
  simp [fromSlot]

theorem fromSlot_zero (l : List Bytes) : fromSlot h 0 l = l :=
  List.filter_eq_self.mpr fun _ _ => by simp

/-- `partition_point` on a list sorted by slot. -/
theorem dropWhile_eq_fromSlot : ∀ (l : List Bytes), SortedS h l → ∀ c : Nat,
    l.dropWhile (fun k => decide (h k < c)) = fromSlot h c l
  | [], _, _ => rfl
  | a :: t, hs, c => by
    have ha := List.pairwise_cons.mp hs
    by_cases hac : h a < c
    · rw [List.dropWhile_cons_of_pos (by simpa using hac), dropWhile_eq_fromSlot t ha.2 c]
      exact (List.filter_cons_of_neg (by simpa using hac)).symm
    · rw [List.dropWhile_cons_of_neg (by simpa using hac)]
      exact (List.filter_eq_self.mpr fun b hb => by
        rcases List.mem_cons.mp hb with rfl | hb
        · simpa using hac
        · have := ha.1 b hb
          simp only [decide_eq_true_eq]; omega).symm

theorem fromSlot_eq_drop {l : List Bytes} {n v : Nat} (hlo : ∀ y ∈ l.take n, h y < v)
    (hhi : ∀ y ∈ l.drop n, v ≤ h y) : fromSlot h v l = l.drop n := by
  have := List.filter_append (p := fun k => decide (v ≤ h k)) (l.take n) (l.drop n)
  rw [List.take_append_drop] at this
  rw [fromSlot, this, List.filter_eq_nil_iff.mpr fun y hy => by simpa using hlo y hy,
    List.filter_eq_self.mpr fun y hy => by simpa using hhi y hy, List.nil_append]

theorem fromSlot_fromSlot {c v : Nat} (hcv : c ≤ v) (l : List Bytes) : fromSlot h v (fromSlot h c l) = fromSlot h v l := by
  rw [fromSlot, fromSlot, List.filter_filter]
  refine List.filter_congr fun x _ => ?_
  by_cases hx : v ≤ h x
  · simp [hx, Nat.le_trans hcv hx]
  · simp [hx]

theorem scanLoopS_spec (mx : Nat) : ∀ (l : List Bytes) (prev : Option Nat) (ex got : Nat),
    (scanLoopS g h m mx l prev ex got).1 = (l.take (scanLoopS g h m mx l prev ex got).2).filter m ∧
    (scanLoopS g h m mx l prev ex got).2 ≤ l.length
  | [], _, _, _ => ⟨rfl, Nat.le_refl _⟩
  | k :: rest, prev, ex, got => by
    have ih := scanLoopS_spec mx rest (some (h k)) (ex + 1) (if m k then got + 1 else got)
    unfold scanLoopS
    split
    · exact ⟨by rw [List.take_succ_cons, List.filter_cons, ← ih.1], Nat.succ_le_succ ih.2⟩
    · exact ⟨rfl, Nat.zero_le _⟩

/-- A page ends at a slot boundary: in a list sorted by slot (no element before the slot `prev` of
    the element preceding it) the first unexamined element lies in a later slot than `prev` and
    than everything examined. -/
theorem scanLoopS_boundary (mx : Nat) : ∀ (l : List Bytes) (prev : Option Nat) (ex got : Nat),
    SortedS h l → (∀ p, prev = some p → ∀ y ∈ l, p ≤ h y) →
    ∀ k' rest', l.drop (scanLoopS g h m mx l prev ex got).2 = k' :: rest' →
      (∀ p, prev = some p → p < h k') ∧ ∀ y ∈ l.take (scanLoopS g h m mx l prev ex got).2, h y < h k'
  | [], _, _, _, _, _, _, _, hd => by simp at hd
  | k :: rest, prev, ex, got, hs, hp, k', rest', hd => by
    have hk := List.pairwise_cons.mp hs
    by_cases hc : (ex < mx * g.factor ∧ got < mx) ∨ prev = some (h k)
    · simp only [scanLoopS, if_pos hc, List.drop_succ_cons, List.take_succ_cons] at hd ⊢
      obtain ⟨h1, h2⟩ := scanLoopS_boundary mx rest (some (h k)) (ex + 1) (if m k then got + 1 else got) hk.2
        (fun p hp' y hy => Option.some.inj hp' ▸ hk.1 y hy) k' rest' hd
      have hkk' := h1 (h k) rfl
      refine ⟨fun p hp' => Nat.lt_of_le_of_lt (hp p hp' k (List.mem_cons_self ..)) hkk', fun y hy => ?_⟩
      rcases List.mem_cons.mp hy with rfl | hy
      · exact hkk'
      · exact h2 y hy
    · simp only [scanLoopS, if_neg hc, List.drop_zero, List.take_zero] at hd ⊢
      obtain ⟨rfl, -⟩ := List.cons.inj hd
      refine ⟨fun p hp' => Nat.lt_of_le_of_ne (hp p hp' k (List.mem_cons_self ..)) fun heq => ?_, fun _ hy => nomatch hy⟩
      exact hc (Or.inr (heq ▸ hp'))

theorem scanLoopS_budget (hf : 1 ≤ g.factor) (mx : Nat) : ∀ (l : List Bytes) (prev : Option Nat) (ex got : Nat), got ≤ ex →
    (scanLoopS g h m mx l prev ex got).2 = l.length ∨ mx ≤ ex + (scanLoopS g h m mx l prev ex got).2
  | [], _, _, _, _ => Or.inl rfl
  | k :: rest, prev, ex, got, hge => by
    have ih := scanLoopS_budget hf mx rest (some (h k)) (ex + 1) (if m k then got + 1 else got) (by split <;> omega)
    unfold scanLoopS
    split
    · simp only [List.length_cons]
      omega
    · rename_i hcond
      have : mx ≤ mx * g.factor := Nat.le_mul_of_pos_right mx hf
      exact Or.inr (by omega)

def cntSlot (S : Option Nat) (l : List Bytes) : Nat := (l.filter (fun k => decide (S = some (h k)))).length

theorem cntSlot_le_of_sublist (S : Option Nat) {l l' : List Bytes} (hl : l.Sublist l') : cntSlot h S l ≤ cntSlot h S l' :=
  (hl.filter _).length_le

/-- Once a budget is used up only elements with the slot of their predecessor are taken. -/
theorem scanLoopS_phase2 (mx : Nat) : ∀ (l : List Bytes) (prev : Option Nat) (ex got : Nat),
    ¬ (ex < mx * g.factor ∧ got < mx) → (scanLoopS g h m mx l prev ex got).2 ≤ cntSlot h prev l
  | [], _, _, _, _ => Nat.zero_le _
  | k :: rest, prev, ex, got, hb => by
    unfold scanLoopS
    by_cases hp : prev = some (h k)
    · have ih := scanLoopS_phase2 mx rest prev (ex + 1) (if m k then got + 1 else got) (by split <;> omega)
      rw [if_pos (Or.inr hp), cntSlot, List.filter_cons_of_pos (by simpa using hp), ← hp]
      exact Nat.succ_le_succ ih
    · rw [if_neg (fun hc => hc.elim hb hp)]
      exact Nat.zero_le _

theorem scanLoopS_length (mx : Nat) : ∀ (l : List Bytes) (prev : Option Nat) (ex got : Nat),
    ∃ S, got + (scanLoopS g h m mx l prev ex got).1.length ≤ max got mx + cntSlot h S l
  | [], _, _, _ => ⟨none, Nat.le_add_right_of_le (Nat.le_max_left _ _)⟩
  | k :: rest, prev, ex, got => by
    by_cases hb : ex < mx * g.factor ∧ got < mx
    · obtain ⟨S, ih⟩ := scanLoopS_length mx rest (some (h k)) (ex + 1) (if m k then got + 1 else got)
      have := cntSlot_le_of_sublist h S (List.sublist_cons_self k rest)
      refine ⟨S, ?_⟩
      unfold scanLoopS
      rw [if_pos (Or.inl hb)]
      cases hm : m k <;> simp only [hm, if_true, Bool.false_eq_true, if_false, List.length_cons] at ih ⊢ <;> omega
    · -- budgets used up: the rest of the page is one group
      have hp2 := scanLoopS_phase2 g h m mx (k :: rest) prev ex got hb
      have hlen : (scanLoopS g h m mx (k :: rest) prev ex got).1.length ≤ (scanLoopS g h m mx (k :: rest) prev ex got).2 := by
        rw [(scanLoopS_spec g h m mx (k :: rest) prev ex got).1]
        exact Nat.le_trans (List.length_filter_le _ _) (List.length_take_le _ _)
      exact ⟨prev, by omega⟩

/-- Everything about one call over a list sorted by slot: `n` of the elements at or after the
    cursor are examined and the matching ones returned; either that is all of them and the next
    cursor is 0, or at least `max_count` were examined, the page ends at a slot boundary, and the
    next cursor (the slot of the first unexamined element) stands for exactly the unexamined ones. -/
theorem scanSlots_spec (hg : g.ok) (ks : List Bytes) (hs : SortedS h ks) (c count : Nat) :
    ∃ n, (scanSlots g h m ks c count).2 = ((fromSlot h c ks).take n).filter m ∧
      ((cntGe h c ks ≤ n ∧ (scanSlots g h m ks c count).1 = 0) ∨
       (c < (scanSlots g h m ks c count).1 ∧ normCount g count ≤ n ∧ n < cntGe h c ks ∧
        (∀ y ∈ (fromSlot h c ks).take n, h y < (scanSlots g h m ks c count).1) ∧
        fromSlot h (scanSlots g h m ks c count).1 ks = (fromSlot h c ks).drop n)) := by
  unfold scanSlots cntGe
  rw [dropWhile_eq_fromSlot h ks hs c]
  have hcs : SortedS h (fromSlot h c ks) := List.Pairwise.filter _ hs
  have hcc : ∀ y ∈ fromSlot h c ks, c ≤ h y := fun y hy => ((mem_fromSlot h).mp hy).2
  have hff : ∀ v, c ≤ v → fromSlot h v (fromSlot h c ks) = fromSlot h v ks := fun v hv => fromSlot_fromSlot h hv ks
  generalize fromSlot h c ks = cand at hcs hcc hff ⊢
  simp only
  split
  · rename_i hempty
    exact ⟨0, rfl, Or.inl ⟨by simp [hempty.1], rfl⟩⟩
  · have hsp := scanLoopS_spec g h m (normCount g count) cand none 0 0
    have hb := scanLoopS_budget g h m hg.2.2 (normCount g count) cand none 0 0 (Nat.le_refl 0)
    have hbd := scanLoopS_boundary g h m (normCount g count) cand none 0 0 hcs (fun _ hp => nomatch hp)
    have hpos := normCount_pos g hg count
    generalize scanLoopS g h m (normCount g count) cand none 0 0 = r at hsp hb hbd ⊢
    refine ⟨r.2, hsp.1, ?_⟩
    cases hd : cand.drop r.2 with
    | nil => exact Or.inl ⟨List.drop_eq_nil_iff.mp hd, rfl⟩
    | cons k' rest' =>
      have hlt := (hbd k' rest' hd).2
      have hn : r.2 < cand.length :=
        Nat.lt_of_not_le fun hle => nomatch hd.symm.trans (List.drop_eq_nil_of_le hle)
      -- something was examined; it lies at or after the cursor, and before k'
      obtain ⟨a, ha⟩ := List.exists_mem_of_length_pos (l := cand.take r.2) (by rw [List.length_take]; omega)
      have hck' : c < h k' := Nat.lt_of_le_of_lt (hcc a (List.mem_of_mem_take ha)) (hlt a ha)
      have hsd : SortedS h (k' :: rest') := hd ▸ List.Pairwise.drop hcs
      refine Or.inr ⟨hck', by omega, hn, hlt, ?_⟩
      rw [← hff _ (Nat.le_of_lt hck'), ← hd]
      refine fromSlot_eq_drop h hlt fun y hy => ?_
      rcases List.mem_cons.mp (hd ▸ hy) with rfl | hy
      · exact Nat.le_refl _
      · exact (List.pairwise_cons.mp hsd).1 y hy

theorem scanSlots_mem (hg : g.ok) (ks : List Bytes) (hs : SortedS h ks) (c count : Nat) (k : Bytes)
    (hk : k ∈ (scanSlots g h m ks c count).2) : k ∈ ks ∧ m k = true := by
  obtain ⟨n, h1, _⟩ := scanSlots_spec g h m hg ks hs c count
  have := List.mem_filter.mp (h1 ▸ hk)
  exact ⟨((mem_fromSlot h).mp (List.mem_of_mem_take this.1)).1, this.2⟩

theorem scanSlots_length (ks : List Bytes) (c count : Nat) :
    ∃ S, (scanSlots g h m ks c count).2.length ≤ normCount g count + cntSlot h S ks := by
  unfold scanSlots
  simp only
  split
  · exact ⟨none, Nat.zero_le _⟩
  · obtain ⟨S, hl⟩ := scanLoopS_length g h m (normCount g count) (ks.dropWhile (fun k => decide (h k < c))) none 0 0
    have := cntSlot_le_of_sublist h S (List.dropWhile_sublist (fun k => decide (h k < c)) (l := ks))
    rw [Nat.zero_add, Nat.max_eq_right (Nat.zero_le _)] at hl
    exact ⟨S, Nat.le_trans hl (Nat.add_le_add_left this _)⟩

theorem cntSlot_le_one (S : Option Nat) : ∀ (l : List Bytes), l.Pairwise (fun a b => h a ≠ h b) → cntSlot h S l ≤ 1
  | [], _ => Nat.zero_le _
  | k :: l, hp => by
    have hk := List.pairwise_cons.mp hp
    by_cases hS : S = some (h k)
    · have : l.filter (fun k => decide (S = some (h k))) = [] :=
        List.filter_eq_nil_iff.mpr fun b hb => by simpa [hS] using hk.1 b hb
      rw [cntSlot, List.filter_cons_of_pos (by simpa using hS), this]
      exact Nat.le_refl 1
    · rw [cntSlot, List.filter_cons_of_neg (by simpa using hS)]
      exact cntSlot_le_one S l hk.2

theorem scanSlots_progress (hg : g.ok) (ks : List Bytes) (hs : SortedS h ks) (c count : Nat) :
    (scanSlots g h m ks c count).1 = 0 ∨ c < (scanSlots g h m ks c count).1 := by
  obtain ⟨n, _, ⟨_, h0⟩ | ⟨hlt, _⟩⟩ := scanSlots_spec g h m hg ks hs c count
  · exact Or.inl h0
  · exact Or.inr hlt

theorem scanSlots_batch_slots (hg : g.ok) (ks : List Bytes) (hs : SortedS h ks) (c count : Nat) (k : Bytes)
    (hk : k ∈ (scanSlots g h m ks c count).2) :
    c ≤ h k ∧ ((scanSlots g h m ks c count).1 ≠ 0 → h k < (scanSlots g h m ks c count).1) := by
  obtain ⟨n, h1, hnext⟩ := scanSlots_spec g h m hg ks hs c count
  have hkt := (List.mem_filter.mp (h1 ▸ hk)).1
  refine ⟨((mem_fromSlot h).mp (List.mem_of_mem_take hkt)).2, fun hne => ?_⟩
  rcases hnext with ⟨_, h0⟩ | ⟨_, _, _, hlt, _⟩
  · exact absurd h0 hne
  · exact hlt k hkt

theorem scanSlots_all (hg : g.ok) (ks : List Bytes) (hs : SortedS h ks) (count : Nat) (hlen : ks.length ≤ normCount g count) :
    scanSlots g h (fun _ => true) ks 0 count = (0, ks) := by
  obtain ⟨n, hb, hnext⟩ := scanSlots_spec g h (fun _ => true) hg ks hs 0 count
  rw [cntGe, fromSlot_zero] at hnext
  rcases hnext with ⟨hend, h0⟩ | ⟨_, hmx, hn, _⟩
  · refine Prod.ext h0 ?_
    rw [hb, fromSlot_zero, List.take_of_length_le hend, List.filter_eq_self.mpr fun _ _ => rfl]
  · omega

/-- From one call to the next, no slot range gains elements (true when nothing is added). -/
def NoGrowthS (hist : List (List Bytes)) : Prop :=
  hist.Pairwise (fun a b => ∀ c, cntGe h c b ≤ cntGe h c a)

theorem noGrowthS_replicate (n : Nat) (ks : List Bytes) : NoGrowthS h (ks :: List.replicate n ks) :=
  (List.pairwise_replicate (n := n + 1)).mpr (Or.inr fun _ => Nat.le_refl _)

theorem iterSCalls_bound (hg : g.ok) (count : Nat) : ∀ (rest : List (List Bytes)) (ks : List Bytes) (c : Nat),
    (∀ l ∈ ks :: rest, SortedS h l) → NoGrowthS h (ks :: rest) →
    cntGe h c ks / normCount g count + 1 ≤ rest.length + 1 →
    ∃ n, iterSCalls g h m count c (ks :: rest) = some n ∧ 1 ≤ n ∧ n ≤ cntGe h c ks / normCount g count + 1
  | rest, ks, c, hsort, hng, hlen => by
    have hpos := normCount_pos g hg count
    rw [iterSCalls]
    obtain ⟨n, _, ⟨_, h0⟩ | ⟨hlt, hmx, hn, _, heq⟩⟩ := scanSlots_spec g h m hg ks (hsort ks (List.mem_cons_self ..)) c count
    · exact ⟨1, if_pos h0, Nat.le_refl 1, Nat.le_add_left 1 _⟩
    · rw [if_neg (by omega)]
      have hcnt := congrArg List.length heq
      rw [List.length_drop] at hcnt
      generalize (scanSlots g h m ks c count).1 = c' at hcnt ⊢
      cases rest with
      | nil => exact absurd (calls_le (a' := 0) hpos (by omega) hlen).1 (Nat.not_succ_le_zero _)
      | cons ks1 rest1 =>
        have hng' := List.pairwise_cons.mp hng
        have hle : cntGe h c' ks1 ≤ cntGe h c' ks := hng'.1 ks1 (List.mem_cons_self ..) c'
        have hb := calls_le (a' := cntGe h c' ks1) hpos (by unfold cntGe at *; omega) hlen
        obtain ⟨n', hn', _, hn'2⟩ := iterSCalls_bound hg count rest1 ks1 c'
          (fun l hl => hsort l (List.mem_cons_of_mem _ hl)) hng'.2 hb.1
        exact ⟨n' + 1, by rw [hn']; rfl, Nat.le_add_left 1 _, Nat.le_trans (Nat.succ_le_succ hn'2) hb.2⟩

/-- **Whatever is added or deleted between the calls**, an element that is in every list of the
    history, lies at or after the cursor and passes the filter is returned by the iteration. -/
theorem iterS_complete (hg : g.ok) (count : Nat) (k : Bytes) (hm : m k = true) :
    ∀ (hist : List (List Bytes)) (c : Nat),
      (∀ ks ∈ hist, SortedS h ks) → (∀ ks ∈ hist, k ∈ ks) →
      iterSFinishes g h m count c hist = true → c ≤ h k →
      k ∈ (iterS g h m count c hist).flatten
  | [], _, _, _, hfin, _ => nomatch hfin
  | ks :: rest, c, hsorted, hmem, hfin, hck => by
    obtain ⟨n, hbatch, hnext⟩ := scanSlots_spec g h m hg ks (hsorted ks (List.mem_cons_self ..)) c count
    have hkc : k ∈ fromSlot h c ks := (mem_fromSlot h).mpr ⟨hmem ks (List.mem_cons_self ..), hck⟩
    rw [← List.take_append_drop n (fromSlot h c ks), List.mem_append] at hkc
    rw [iterS, List.flatten_cons, List.mem_append, hbatch]
    rcases hkc with hin | hout
    · exact Or.inl (List.mem_filter.mpr ⟨hin, hm⟩)
    · rcases hnext with ⟨hend, _⟩ | ⟨hlt, _, _, _, heq⟩
      · rw [List.drop_eq_nil_of_le hend] at hout
        cases hout
      · have hne : (scanSlots g h m ks c count).1 ≠ 0 := by omega
        rw [iterSFinishes, if_neg hne] at hfin
        rw [if_neg hne]
        rw [← heq] at hout
        exact Or.inr (iterS_complete hg count k hm rest _ (fun l hl => hsorted l (List.mem_cons_of_mem _ hl))
          (fun l hl => hmem l (List.mem_cons_of_mem _ hl)) hfin ((mem_fromSlot h).mp hout).2)

theorem mem_viewSlot (ty : Option Bytes) (db : Db) (k : Bytes) :
    k ∈ viewSlot ty db ↔ ∃ t, (k, t) ∈ db ∧ typeOk ty t = true :=
  (sortSlot_perm scanSlot _).mem_iff.trans (mem_typed ty db k)

theorem sorted_viewSlot (ty : Option Bytes) (db : Db) : SortedS scanSlot (viewSlot ty db) :=
  sortedS_sortSlot scanSlot _

theorem scan_eq (db : Db) (cursor count : Nat) (pat ty : Option Bytes) :
    scan g db cursor count pat ty = scanSorted g (matchOpt g.lossy pat) (view ty db) cursor count ∨
    scan g db cursor count pat ty = scanSlots g scanSlot (matchOpt g.lossy pat) (viewSlot ty db) cursor count := by
  unfold scan
  split
  · exact Or.inr rfl
  · exact Or.inl rfl

theorem sscan_eq_scanSlots (hg : g.ok) (hsl : g.slotCursor = true) (members : List Bytes) (c count : Nat) (pat : Option Bytes) :
    sscan g members c count pat =
      scanSlots g scanSlot (matchOpt g.lossy pat) (sortSlot scanSlot members) c count := by
  unfold sscan
  rw [hsl, if_pos rfl]
  split
  · rename_i hfast
    obtain ⟨hlen, rfl, rfl⟩ := hfast
    rw [matchOpt_none, scanSlots_all g scanSlot hg _ (sortedS_sortSlot _ _) count
      (by rwa [(sortSlot_perm scanSlot members).length_eq])]
  · rfl

end Ferrous.Scan
