/-
  C11: the simulation between the live run and the replay of its log.  `Inv` = the stores agree (`Agree`: equal
  views) and the log's tracking state describes both connections; every logged event is an optional SELECT plus one
  command for one database (`Inv.entry`), so a step (`ev_sim`) reduces to `step_sim`: the same command on agreeing
  stores, at any two instants at which no deadline has passed, leaves agreeing stores.
-/
import FerrousSpec.Model.Aof
import FerrousSpec.Proofs.AofNorm
import FerrousSpec.Proofs.AofFrames
import FerrousSpec.Proofs.AofRandom
import FerrousSpec.Proofs.Decimal
namespace Ferrous.Aof
open Ferrous Ferrous.KS

def normStore (s : Store) : Store := s.map normDb

/-- the two servers hold the same keys, in the same order, with the same values, and a key has a deadline on one
    side iff it has one on the other — in every database -/
def Agree (s1 s2 : Store) : Prop := normStore s1 = normStore s2

instance (s1 s2 : Store) : Decidable (Agree s1 s2) := inferInstanceAs (Decidable (normStore s1 = normStore s2))

theorem Agree.refl (s : Store) : Agree s s := rfl
theorem Agree.symm {s1 s2 : Store} (h : Agree s1 s2) : Agree s2 s1 := Eq.symm h
theorem Agree.trans {s1 s2 s3 : Store} (h : Agree s1 s2) (h' : Agree s2 s3) : Agree s1 s3 := Eq.trans h h'

theorem getDb_normStore (s : Store) (i : Nat) : getDb (normStore s) i = normDb (getDb s i) := by
  simp only [getDb, normStore, List.getD_eq_getElem?_getD, List.getElem?_map]
  cases s[i]? <;> rfl

theorem normStore_setDb (s : Store) (i : Nat) (db : Db) : normStore (setDb s i db) = setDb (normStore s) i (normDb db) := by
  unfold setDb normStore
  simp [List.map_set]

theorem Agree.getDb {s1 s2 : Store} (h : Agree s1 s2) (i : Nat) : normDb (getDb s1 i) = normDb (getDb s2 i) := by
  rw [← getDb_normStore, ← getDb_normStore, h]

theorem Agree.setDb {s1 s2 : Store} (h : Agree s1 s2) (i : Nat) {d1 d2 : Db} (hd : normDb d1 = normDb d2) :
    Agree (setDb s1 i d1) (setDb s2 i d2) := by
  unfold Agree
  rw [normStore_setDb, normStore_setDb, h, hd]

theorem Agree.length {s1 s2 : Store} (h : Agree s1 s2) : s1.length = s2.length := by
  have := congrArg List.length h
  simpa [normStore] using this

theorem Agree.flush {s1 s2 : Store} (h : Agree s1 s2) : Agree (s1.map fun _ => ([] : Db)) (s2.map fun _ => ([] : Db)) := by
  unfold Agree
  rw [List.map_const', List.map_const', h.length]

theorem setDb_getDb_self (s : Store) (i : Nat) : setDb s i (getDb s i) = s := by
  unfold setDb getDb
  by_cases h : i < s.length
  · simp [List.getD_eq_getElem?_getD, h]
  · rw [List.set_eq_of_length_le (by omega)]

/-- any command but FLUSHALL is `stepDb` on the selected database as every command sees it -/
theorem step_of_ne (q : Quirks) (s : Store) (i now : Nat) (n : Bytes) (args : List Bytes) (obs : Option (List Bytes))
    (hf : nameOf (n :: args) ≠ "FLUSHALL") :
    step q s i now (n :: args) obs =
      (setDb s i (stepDb q (purge now (getDb s i)) now (nameOf (n :: args)) args obs).1,
        (stepDb q (purge now (getDb s i)) now (nameOf (n :: args)) args obs).2) := by
  unfold step nameOf at *
  simp only [] at hf ⊢
  simp only [hf, if_false]

theorem step_flushall (q : Quirks) (s : Store) (i now : Nat) (n : Bytes) (args : List Bytes) (obs : Option (List Bytes))
    (hf : nameOf (n :: args) = "FLUSHALL") :
    (step q s i now (n :: args) obs).1 = if args.isEmpty then s.map fun _ => ([] : Db) else s := by
  unfold step nameOf at *
  simp only [] at hf ⊢
  simp only [hf, if_true]
  split <;> rfl

/-- the handlers the replay argument looks into (unfolding `stepDb` at a literal name compares the name with every
    literal before it: done once here) -/
theorem stepDb_spop (q : Quirks) (db : Db) (now : Nat) (args : List Bytes) (obs : Option (List Bytes)) :
    stepDb q db now "SPOP" args obs = cmdSpop db args obs := rfl
theorem stepDb_srem (q : Quirks) (db : Db) (now : Nat) (args : List Bytes) (obs : Option (List Bytes)) :
    stepDb q db now "SREM" args obs = cmdSrem db args := rfl
theorem stepDb_del (q : Quirks) (db : Db) (now : Nat) (args : List Bytes) (obs : Option (List Bytes)) :
    stepDb q db now "DEL" args obs = cmdDel db args := rfl

theorem step_readonly (q : Quirks) (s : Store) (i now : Nat) (cmd : List Bytes) (obs : Option (List Bytes))
    (hq : purge now (getDb s i) = getDb s i) (hr : ¬ nameOf cmd ∈ Spec.writeNames) :
    (step q s i now cmd obs).1 = s := by
  cases cmd with
  | nil => rfl
  | cons n args =>
    have hf : nameOf (n :: args) ≠ "FLUSHALL" := by
      intro h; rw [h] at hr; exact hr (by decide)
    rw [step_of_ne q s i now n args obs hf, hq, stepDb_readonly q _ now _ args obs hr, setDb_getDb_self]

theorem step_refused (q : Quirks) (s : Store) (i now : Nat) (cmd : List Bytes) (obs : Option (List Bytes))
    (hq : purge now (getDb s i) = getDb s i) (herr : isErr (step q s i now cmd obs).2 = true) :
    (step q s i now cmd obs).1 = s := by
  rcases step_atomic q s i now cmd obs herr with h | h
  · exact h
  · rw [h, hq, setDb_getDb_self]

/-- the same command on two agreeing stores, at any two instants at which no deadline has passed, with any two draws
    unless it is SPOP: the stores agree afterwards -/
theorem step_sim (q : Quirks) (s1 s2 : Store) (hA : Agree s1 s2) (i now1 now2 : Nat) (cmd : List Bytes)
    (obs1 obs2 : Option (List Bytes))
    (hq1 : purge now1 (getDb s1 i) = getDb s1 i) (hq2 : purge now2 (getDb s2 i) = getDb s2 i)
    (hdet : nameOf cmd ≠ "SPOP" ∨ obs1 = obs2) :
    Agree (step q s1 i now1 cmd obs1).1 (step q s2 i now2 cmd obs2).1 := by
  cases cmd with
  | nil => exact hA
  | cons n args =>
    by_cases hf : nameOf (n :: args) = "FLUSHALL"
    · rw [step_flushall _ _ _ _ _ _ _ hf, step_flushall _ _ _ _ _ _ _ hf]
      split
      · exact hA.flush
      · exact hA
    · rw [step_of_ne _ _ _ _ _ _ _ hf, step_of_ne _ _ _ _ _ _ _ hf, hq1, hq2]
      exact hA.setDb i (stepDb_sim q _ _ (hA.getDb i) now1 now2 _ args obs1 obs2 hdet)

def sremCmd (key : Bytes) (got : List Bytes) : List Bytes := [83, 82, 69, 77] :: key :: got

theorem nameOf_sremCmd (key : Bytes) (got : List Bytes) : nameOf (sremCmd key got) = "SREM" := by
  simp only [sremCmd, nameOf]
  decide

/-- A `SPOP key [count]` that took the members `got` (the reply is not an error) leaves exactly the database
    `SREM key got…` leaves. -/
theorem stepDb_spop_as_srem (q : Quirks) (db : Db) (now : Nat) (key : Bytes) (rest got : List Bytes) (o' : Option (List Bytes))
    (hgot : got ≠ []) (hok : isErr (stepDb q db now "SPOP" (key :: rest) (some got)).2 = false) :
    (stepDb q db now "SPOP" (key :: rest) (some got)).1 = (stepDb q db now "SREM" (key :: got) o').1 := by
  rw [stepDb_spop] at hok ⊢
  rw [stepDb_srem]
  exact spop_as_srem db key rest got hgot hok

theorem step_spop_drawn (q : Quirks) (s : Store) (i now : Nat) (n key : Bytes) (rest : List Bytes) (m : Bytes) (ms : List Bytes)
    (o' : Option (List Bytes))
    (hname : nameOf (n :: key :: rest) = "SPOP")
    (hok : isErrReply (step q s i now (n :: key :: rest) (some (m :: ms))).2 = false) :
    (step q s i now (n :: key :: rest) (some (m :: ms))).1 = (step q s i now (sremCmd key (m :: ms)) o').1 := by
  have hs := nameOf_sremCmd key (m :: ms)
  unfold sremCmd at hs ⊢
  rw [step_of_ne q s i now n _ _ (by rw [hname]; decide), hname] at hok ⊢
  rw [step_of_ne q s i now _ _ _ (by rw [hs]; decide), hs]
  rw [isErrReply_eq] at hok
  exact congrArg (setDb s i) (stepDb_spop_as_srem q _ now key rest (m :: ms) o' (by simp) hok)

theorem step_spop_nodraw (q : Quirks) (s : Store) (hs : StoreOk s) (i now : Nat) (raw : List Bytes) (obs : Option (List Bytes))
    (hname : nameOf raw = "SPOP") (hq : purge now (getDb s i) = getDb s i)
    (hno : obs.getD [] = [] ∨ raw.length < 2) : (step q s i now raw obs).1 = s := by
  cases raw with
  | nil => simp [nameOf] at hname
  | cons n args =>
    have hno' : obs.getD [] = [] ∨ args = [] := by
      refine hno.imp_right fun h => ?_
      cases args with
      | nil => rfl
      | cons a t => simp at h; omega
    rw [step_of_ne q s i now n args obs (by rw [hname]; decide), hname, hq, stepDb_spop,
      cmdSpop_nodraw (getDb s i) (getDb_ok hs i) args obs hno', setDb_getDb_self]

theorem entryOf_cases (eff : Bool) (raw : List Bytes) (obs : Option (List Bytes)) :
    (entryOf eff raw obs = some raw ∧ ¬ (eff = true ∧ nameOf raw = "SPOP")) ∨
    (eff = true ∧ nameOf raw = "SPOP" ∧
      ((∃ n key rest m ms, raw = n :: key :: rest ∧ obs = some (m :: ms) ∧ entryOf eff raw obs = some (sremCmd key (m :: ms))) ∨
       (entryOf eff raw obs = none ∧ (obs.getD [] = [] ∨ raw.length < 2)))) ∨
    (eff = true ∧ nameOf raw = "XADD" ∧ raw[2]? = some [42]) := by
  unfold entryOf
  by_cases h1 : eff = true ∧ nameOf raw = "SPOP"
  · right; left
    refine ⟨h1.1, h1.2, ?_⟩
    simp only [h1, and_self, if_true]
    rcases raw with _ | ⟨n, _ | ⟨key, rest⟩⟩
    · right; simp
    · right; simp
    · cases obs with
      | none => right; simp
      | some got =>
        cases got with
        | nil => right; simp
        | cons m ms => left; exact ⟨n, key, rest, m, ms, rfl, rfl, rfl⟩
  · by_cases h2 : eff = true ∧ nameOf raw = "XADD" ∧ raw[2]? = some [42]
    · right; right; exact h2
    · left
      refine ⟨?_, h1⟩
      simp only [h1, if_false, h2]

theorem nameOf_selectCmd (d : Nat) : nameOf (selectCmd d) = "SELECT" := by
  simp only [selectCmd, nameOf]
  decide

theorem selTarget_selectCmd (cur d : Nat) (hd : d < 16) : selTarget cur (selectCmd d) = d := by
  unfold selTarget selectCmd
  simp [parseU64_natDigits d (by omega), hd]

theorem nameOf_popCmd (left : Bool) (key : Bytes) : nameOf (popCmd left key) = if left then "LPOP" else "RPOP" := by
  cases left
  · simp only [popCmd, nameOf, Bool.false_eq_true, if_false]; decide
  · simp only [popCmd, nameOf, if_true]; decide

theorem nameOf_delCmd (key : Bytes) : nameOf (delCmd key) = "DEL" := by
  simp only [delCmd, nameOf]
  decide

theorem unwrap_of_name_ne (raw : List Bytes) (h : nameOf raw ≠ "EVAL") : unwrap raw = none := by
  unfold unwrap; simp [h]

theorem nameOf_effCmd (raw : List Bytes) : nameOf (effCmd raw) = effName raw := by
  unfold effCmd effName; cases unwrap raw <;> rfl

theorem effCmd_eq {c : List Bytes} (h : nameOf c ≠ "EVAL") : effCmd c = c := by
  unfold effCmd; rw [unwrap_of_name_ne c h]; rfl

theorem execRaw_not_select (q : Quirks) (c : Conn) (now : Nat) (obs : Option (List Bytes)) (raw : List Bytes)
    (h : nameOf raw ≠ "SELECT") :
    execRaw q c now obs raw = { c with store := (KS.step q c.store c.cur now (effCmd raw) obs).1 } := by
  unfold execRaw effCmd
  simp only [h, if_false]
  cases unwrap raw <;> rfl

theorem execRaw_select (q : Quirks) (c : Conn) (now : Nat) (obs : Option (List Bytes)) (raw : List Bytes)
    (h : nameOf raw = "SELECT") : execRaw q c now obs raw = { c with cur := selTarget c.cur raw } := by
  unfold execRaw; simp [h]

theorem quietStep_eq {c : Conn} {db now : Nat} (h : quietStep c db now = true) : purge now (getDb c.store db) = getDb c.store db :=
  of_decide_eq_true h

theorem erase_of_lookup_none {db : Db} {k : Bytes} (h : lookup db k = none) : erase db k = db := by
  induction db with
  | nil => rfl
  | cons p t ih =>
    obtain ⟨k', e⟩ := p
    simp only [lookup] at h
    simp only [erase]
    by_cases hk : k' = k
    · simp [hk] at h
    · simp only [hk, if_false] at h ⊢
      rw [ih h]

theorem step_del_single (q : Quirks) (s : Store) (i now : Nat) (key : Bytes) (obs : Option (List Bytes)) :
    (step q s i now (delCmd key) obs).1 = setDb s i (erase (purge now (getDb s i)) key) := by
  have hn := nameOf_delCmd key
  unfold delCmd at hn ⊢
  rw [step_of_ne q s i now _ [key] obs (by rw [hn]; decide), hn, stepDb_del]
  unfold cmdDel
  simp only [List.isEmpty_cons, Bool.false_eq_true, if_false, delKeys]
  cases hl : lookup (purge now (getDb s i)) key with
  | none => simp [erase_of_lookup_none hl]
  | some e => simp

theorem quietReplay_append (q : Quirks) (c : Conn) (a b : List REntry) :
    quietReplay q c (a ++ b) = (quietReplay q c a && quietReplay q (replayFrom q c a) b) := by
  induction a generalizing c with
  | nil => simp [quietReplay, replayFrom]
  | cons e t ih =>
    simp only [List.cons_append, quietReplay, ih, replayFrom, List.foldl_cons, Bool.and_assoc]

theorem replayFrom_append (q : Quirks) (c : Conn) (a b : List REntry) :
    replayFrom q c (a ++ b) = replayFrom q (replayFrom q c a) b := by
  simp [replayFrom, List.foldl_append]

theorem replayFrom_nil (q : Quirks) (c : Conn) {es : List REntry} (h : es.map (·.cmd) = []) : replayFrom q c es = c := by
  rw [List.map_eq_nil_iff.mp h]; rfl

/-- what the log's tracking knows about the reader of the file: where it stands — or, right after a restart on an
    inherited file, nothing (`unknownDb`), which is sound only if a SELECT is then emitted before the next entry -/
def FileOk (cfg : Cfg) (st : LogSt) (cR : Conn) : Prop := st.file = cR.cur ∨ (cfg.logSelect = true ∧ 16 ≤ st.file)

/-- what the induction carries: the stores agree, and the log's tracking state describes the two connections -/
structure Inv (cfg : Cfg) (cL : Conn) (st : LogSt) (cR : Conn) : Prop where
  agree : Agree cL.store cR.store
  conn : st.conn = cL.cur
  file : FileOk cfg st cR
  lt : cL.cur < 16

/-- The one shape every logged event has: its entries are an optional SELECT and one command `c` meant for database
    `d`.  If `c`, run in `d` on the replayed store at any instant at which no deadline has passed there, leads to a
    store that agrees with the live store `sL'` after the event, the invariant holds again. -/
theorem Inv.entry {q : Quirks} {cfg : Cfg} {cL cR : Conn} {st : LogSt} (hI : Inv cfg cL st cR) {d : Nat} (hd : d < 16)
    {c : List Bytes} (hns : nameOf c ≠ "SELECT") (hdb : cfg.logSelect = true ∨ d = st.file) (sL' : Store)
    (hsim : ∀ (nowR : Nat) (obsR : Option (List Bytes)), purge nowR (getDb cR.store d) = getDb cR.store d →
      Agree sL' (KS.step q cR.store d nowR (effCmd c) obsR).1)
    {es : List REntry} (hes : es.map (·.cmd) = selFor cfg st d ++ [c]) (hqR : quietReplay q cR es = true) :
    Inv cfg { cL with store := sL' } { st with file := fileAfter cfg st d } (replayFrom q cR es) := by
  obtain ⟨pre, l, rfl, hpre, hl⟩ := List.map_eq_append_iff.mp hes
  obtain ⟨e, rfl, hc⟩ : ∃ e, l = [e] ∧ e.cmd = c := by
    rcases l with _ | ⟨e, _ | ⟨e', t⟩⟩ <;> simp at hl
    exact ⟨e, rfl, hl⟩
  -- when the reader comes to `c` it stands in database `d`, on the store it started from
  have hR : (replayFrom q cR pre).store = cR.store ∧ (replayFrom q cR pre).cur = d := by
    unfold selFor at hpre
    split at hpre
    · rcases pre with _ | ⟨e1, _ | ⟨e2, t⟩⟩ <;> simp at hpre
      simp only [replayFrom, List.foldl_cons, List.foldl_nil, hpre,
        execRaw_select q cR e1.now e1.obs _ (nameOf_selectCmd d), selTarget_selectCmd _ d hd, and_self]
    · rename_i hsel
      rw [replayFrom_nil q cR hpre]
      have hfd : st.file = d := by
        by_cases h : st.file = d
        · exact h
        · exact (hdb.resolve_left fun hl => hsel ⟨hl, h⟩).symm
      rcases hI.file with h | ⟨hl, h16⟩
      · exact ⟨rfl, h ▸ hfd⟩
      · exact absurd ⟨hl, by omega⟩ hsel
  rw [quietReplay_append, Bool.and_eq_true] at hqR
  have hq : purge e.now (getDb cR.store d) = getDb cR.store d := by
    have := hqR.2
    simp only [quietReplay, Bool.and_true] at this
    have := quietStep_eq this
    rwa [hR.1, hR.2] at this
  have hfa : fileAfter cfg st d = d := by
    unfold fileAfter
    split
    · rfl
    · rename_i h; exact (hdb.resolve_left h).symm
  rw [replayFrom_append]
  show Inv cfg _ _ (execRaw q (replayFrom q cR pre) e.now e.obs e.cmd)
  rw [hc, execRaw_not_select q _ e.now e.obs c hns, hR.1, hR.2]
  exact ⟨hsim e.now e.obs hq, hI.conn, Or.inl hfa, hI.lt⟩

theorem selTarget_lt (cur : Nat) (raw : List Bytes) (h : cur < 16) : selTarget cur raw < 16 := by
  unfold selTarget
  repeat' split
  all_goals first | assumption | omega

theorem ev_sim (q : Quirks) (cfg : Cfg) (hwf : cfg.wf = true) (ev : Ev) (cL cR : Conn) (st : LogSt)
    (hI : Inv cfg cL st cR) (es : List REntry) (hes : es.map (·.cmd) = (logEv cfg st ev).1)
    (hin : inModel ev = true) (hcov : covered cfg st ev = true)
    (hqL : quietEv cL ev = true) (hqR : quietReplay q cR es = true)
    (hok : StoreOk cL.store) (hdraw : drawOk q cL ev = true) :
    Inv cfg (execEv q cL ev) (logEv cfg st ev).2 (replayFrom q cR es) := by
  obtain ⟨sL, cur⟩ := cL
  obtain rfl : st.conn = cur := hI.conn
  cases ev with
  | cmd ve now obs raw =>
    have hqL' : purge now (getDb sL st.conn) = getDb sL st.conn := quietStep_eq hqL
    by_cases hs : nameOf raw = "SELECT"
    · -- SELECT: connection state only, never an entry
      have hnw : isWrite cfg.writes "SELECT" = false := by simpa [Cfg.wf, isWrite] using hwf
      simp only [logEv, hs, hnw, Bool.false_eq_true, if_false, if_true] at hes ⊢
      have hexec : execEv q ⟨sL, st.conn⟩ (.cmd ve now obs raw) = ⟨sL, selTarget st.conn raw⟩ :=
        execRaw_select q _ now obs raw hs
      rw [replayFrom_nil q cR hes, hexec]
      exact ⟨hI.agree, rfl, hI.file, selTarget_lt _ _ hI.lt⟩
    · have hexec : execEv q ⟨sL, st.conn⟩ (.cmd ve now obs raw) = ⟨(KS.step q sL st.conn now (effCmd raw) obs).1, st.conn⟩ :=
        execRaw_not_select q _ now obs raw hs
      rw [hexec]
      simp only [covered, hs, false_or, decide_eq_true_eq, Bool.decide_and, Bool.and_eq_true] at hcov
      by_cases hw : isWrite cfg.writes (nameOf raw) = true
      · simp only [logEv, hw, if_true, hs, if_false] at hes ⊢
        have hdb : cfg.logSelect = true ∨ st.conn = st.file := (hcov.2.2 hw).imp id id
        rcases entryOf_cases cfg.byEffect raw obs with ⟨he, hne⟩ | ⟨heff, hsp, hcase⟩ | ⟨heff, hx, hstar⟩
        · -- appended verbatim before the dispatch; both sides run the same command
          rw [he] at hes ⊢
          have hnr : nameOf (effCmd raw) ≠ "SPOP" := by
            rw [nameOf_effCmd]
            intro h
            rcases hcov.2.1 with h' | h'
            · rw [h] at h'; exact absurd h' (by decide)
            · exact hne h'
          exact hI.entry hI.lt hs hdb _
            (fun nowR obsR hq => step_sim q sL cR.store hI.agree _ now nowR _ obs obsR hqL' hq (Or.inl hnr)) hes hqR
        · rw [effCmd_eq (c := raw) (by rw [hsp]; decide)]
          rcases hcase with ⟨n, key, rest, m, ms, rfl, rfl, he⟩ | ⟨he, hno⟩
          · -- SPOP took `m :: ms`: the entry is `SREM key m…`, which does to any store what the SPOP did to the live one
            rw [he] at hes ⊢
            have hd : isErrReply (KS.step q sL st.conn now (n :: key :: rest) (some (m :: ms))).2 = false := by
              simp only [drawOk, hsp, Option.getD_some, decide_eq_true_eq] at hdraw
              exact hdraw trivial (by simp)
            have hsn := nameOf_sremCmd key (m :: ms)
            rw [step_spop_drawn q sL st.conn now n key rest m ms none hsp hd]
            refine hI.entry hI.lt (by rw [hsn]; decide) hdb _ (fun nowR obsR hq => ?_) hes hqR
            rw [effCmd_eq (by rw [hsn]; decide)]
            exact step_sim q sL cR.store hI.agree _ now nowR _ none obsR hqL' hq (Or.inl (by rw [hsn]; decide))
          · -- it took nothing: no entry, and nothing changed
            rw [he] at hes ⊢
            rw [replayFrom_nil q cR hes, step_spop_nodraw q sL hok st.conn now raw obs hsp hqL' hno]
            exact hI
        · -- `XADD key * …`: an id drawn from the clock is outside the model
          exfalso
          have hun : unwrap raw = none := unwrap_of_name_ne raw (by rw [hx]; decide)
          simp only [inModel, effName, effCmd, hun, Option.getD_none, hx, hstar, decide_eq_true_eq] at hin
          rcases hin with h | h
          · exact absurd h (by decide)
          · exact h.2 ⟨trivial, trivial⟩
      · -- not in the table: it must be read-only, and then it changed nothing
        have hw' : isWrite cfg.writes (nameOf raw) = false := by simpa using hw
        simp only [logEv, hw', Bool.false_eq_true, if_false, hs] at hes ⊢
        have hro : ¬ nameOf (effCmd raw) ∈ Spec.writeNames := by
          rw [nameOf_effCmd]
          intro hmem
          exact hw (hcov.1 (by simpa using hmem))
        rw [replayFrom_nil q cR hes, step_readonly q sL st.conn now (effCmd raw) obs hqL' hro]
        exact hI
  | wake db now left key =>
    have hqL' : purge now (getDb sL db) = getDb sL db := quietStep_eq hqL
    simp only [covered, Bool.decide_and, Bool.and_eq_true, decide_eq_true_eq, Bool.decide_or, Bool.or_eq_true] at hcov
    simp only [inModel, decide_eq_true_eq] at hin
    simp only [logEv, hcov.1, if_true] at hes ⊢
    have hn := nameOf_popCmd left key
    refine hI.entry hin (by rw [hn]; cases left <;> decide) hcov.2 _ (fun nowR obsR hq => ?_) hes hqR
    rw [effCmd_eq (by rw [hn]; cases left <;> decide)]
    exact step_sim q sL cR.store hI.agree db now nowR _ none obsR hqL' hq (Or.inl (by rw [hn]; cases left <;> decide))
  | expire db now key =>
    -- time has passed: the live server dropped `key`; the file says `DEL key`, which does the same whenever it is replayed
    simp only [covered, Bool.decide_and, Bool.and_eq_true, decide_eq_true_eq, Bool.decide_or, Bool.or_eq_true] at hcov
    simp only [inModel, decide_eq_true_eq] at hin
    simp only [logEv, hcov.1, if_true] at hes ⊢
    have hn := nameOf_delCmd key
    refine hI.entry hin (by rw [hn]; decide) hcov.2 _ (fun nowR obsR hq => ?_) hes hqR
    rw [effCmd_eq (by rw [hn]; decide), step_del_single q cR.store db nowR key obsR, hq]
    exact hI.agree.setDb db (by rw [normDb_erase, normDb_erase, hI.agree.getDb db])

theorem execEv_ok (q : Quirks) (c : Conn) (ev : Ev) (h : StoreOk c.store) : StoreOk (execEv q c ev).store := by
  cases ev with
  | cmd ve now obs raw =>
    simp only [execEv, execRaw]
    split
    · exact h
    · split <;> exact step_pres q _ _ _ _ _ h
  | wake db now left key => exact step_pres q _ _ _ _ _ h
  | expire db now key => exact setDb_ok h db (DbOk_erase key (getDb_ok h db))

theorem inv_init (cfg : Cfg) : Inv cfg {} {} {} := ⟨rfl, rfl, Or.inl rfl, by decide⟩

def stAfter (cfg : Cfg) (st : LogSt) : List Ev → LogSt
  | [] => st
  | ev :: h => stAfter cfg (logEv cfg st ev).2 h

theorem liveFrom_ok (q : Quirks) (h : List Ev) (c : Conn) (hok : StoreOk c.store) : StoreOk (liveFrom q c h).store := by
  induction h generalizing c with
  | nil => exact hok
  | cons ev t ih => exact ih _ (execEv_ok q c ev hok)

/-- MAIN LEMMA: from agreeing states, a history every event of which the log covers, and any replay of the entries it
    leaves (at any instants, with any draws) end in agreeing stores, with the tracking state describing the two
    connections again — provided no deadline passes on either side (and the draws reported for SPOPs logged by their
    effect are what those commands took). -/
theorem replay_sim_inv (q : Quirks) (cfg : Cfg) (hwf : cfg.wf = true) :
    ∀ (h : List Ev) (cL cR : Conn) (st : LogSt) (es : List REntry),
      Inv cfg cL st cR → StoreOk cL.store → es.map (·.cmd) = logFrom cfg st h → (∀ ev ∈ h, inModel ev = true) →
      coveredFrom cfg st h = true → quietLive q cL h = true → quietReplay q cR es = true → drawsOk q cL h = true →
      Inv cfg (liveFrom q cL h) (stAfter cfg st h) (replayFrom q cR es) := by
  intro h
  induction h with
  | nil =>
    intro cL cR st es hI _ hes _ _ _ _ _
    rw [replayFrom_nil q cR hes]
    exact hI
  | cons ev t ih =>
    intro cL cR st es hI hok hes hin hcov hqL hqR hdr
    simp only [logFrom] at hes
    obtain ⟨es1, es2, rfl, h1, h2⟩ := List.map_eq_append_iff.mp hes
    simp only [coveredFrom, Bool.and_eq_true] at hcov
    simp only [quietLive, Bool.and_eq_true] at hqL
    simp only [drawsOk, Bool.and_eq_true] at hdr
    rw [quietReplay_append, Bool.and_eq_true] at hqR
    have hI' := ev_sim q cfg hwf ev cL cR st hI es1 h1 (hin ev (by simp)) hcov.1 hqL.1 hqR.1 hok hdr.1
    rw [replayFrom_append]
    exact ih (execEv q cL ev) (replayFrom q cR es1) (logEv cfg st ev).2 es2 hI' (execEv_ok q cL ev hok) h2
      (fun e he => hin e (by simp [he])) hcov.2 hqL.2 hqR.2 hdr.2

theorem replay_sim (q : Quirks) (cfg : Cfg) (hwf : cfg.wf = true)
    (h : List Ev) (cL cR : Conn) (st : LogSt) (es : List REntry)
    (hI : Inv cfg cL st cR) (hok : StoreOk cL.store) (hes : es.map (·.cmd) = logFrom cfg st h) (hin : ∀ ev ∈ h, inModel ev = true)
    (hcov : coveredFrom cfg st h = true) (hqL : quietLive q cL h = true) (hqR : quietReplay q cR es = true)
    (hdr : drawsOk q cL h = true) :
    Agree (liveFrom q cL h).store (replayFrom q cR es).store :=
  (replay_sim_inv q cfg hwf h cL cR st es hI hok hes hin hcov hqL hqR hdr).agree

/-- ACROSS A RESTART (with SELECT tracking): the first run leaves the entries of `h1`; the server is restarted on the same
    file with its dataset back (every connection new: database 0; the engine knows nothing of where a reader of the
    inherited file stands: `LogSt.restarted`); the second run appends the entries of `h2`.  Replaying the WHOLE file
    still ends in a store that agrees with the live one. -/
theorem replay_sim_restart (q : Quirks) (cfg : Cfg) (hwf : cfg.wf = true) (hsel : cfg.logSelect = true)
    (h1 h2 : List Ev) (es1 es2 : List REntry)
    (hes1 : es1.map (·.cmd) = logFrom cfg {} h1) (hes2 : es2.map (·.cmd) = logFrom cfg LogSt.restarted h2)
    (hin1 : ∀ ev ∈ h1, inModel ev = true) (hin2 : ∀ ev ∈ h2, inModel ev = true)
    (hcov1 : coveredFrom cfg {} h1 = true) (hcov2 : coveredFrom cfg LogSt.restarted h2 = true)
    (hqL1 : quietLive q {} h1 = true) (hqL2 : quietLive q (liveFrom q {} h1).restarted h2 = true)
    (hqR1 : quietReplay q {} es1 = true) (hqR2 : quietReplay q (replayFrom q {} es1) es2 = true)
    (hdr1 : drawsOk q {} h1 = true) (hdr2 : drawsOk q (liveFrom q {} h1).restarted h2 = true) :
    Agree (liveFrom q (liveFrom q {} h1).restarted h2).store (replayFrom q {} (es1 ++ es2)).store := by
  have hI1 := replay_sim_inv q cfg hwf h1 {} {} {} es1 (inv_init cfg) StoreOk_empty hes1 hin1 hcov1 hqL1 hqR1 hdr1
  have hI2 : Inv cfg (liveFrom q {} h1).restarted LogSt.restarted (replayFrom q {} es1) :=
    ⟨hI1.agree, rfl, Or.inr ⟨hsel, Nat.le_refl 16⟩, by show (0 : Nat) < 16; decide⟩
  rw [replayFrom_append]
  exact replay_sim q cfg hwf h2 _ _ _ es2 hI2 (liveFrom_ok q h1 {} StoreOk_empty) hes2 hin2 hcov2 hqL2 hqR2 hdr2

theorem drawsOk_of_no_spop (q : Quirks) : ∀ (h : List Ev) (c : Conn),
    (∀ raw ∈ rawsOf h, nameOf raw ≠ "SPOP") → drawsOk q c h = true := by
  intro h
  induction h with
  | nil => intro c _; rfl
  | cons ev t ih =>
    intro c hn
    cases ev with
    | cmd ve now obs raw =>
      simp only [rawsOf, List.mem_cons, forall_eq_or_imp] at hn
      simp [drawsOk, drawOk, hn.1, ih _ hn.2]
    | wake db now left key => simpa [drawsOk, drawOk] using ih _ hn
    | expire db now key => simpa [drawsOk, drawOk] using ih _ hn

def isExpire : Ev → Bool
  | .expire _ _ _ => true
  | _ => false

/-- with SELECT tracking, pops made for blocking clients logged and a table that contains every mutating name and
    EVAL, every event is covered except a random write logged verbatim (SPOP inside a script; any SPOP without
    by-effect logging) -/
theorem coveredFrom_tracked (cfg : Cfg) (hsel : cfg.logSelect = true) (hwake : cfg.logWake = true)
    (hall : ∀ n ∈ Spec.writeNames, n ∈ cfg.writes) (heval : "EVAL" ∈ cfg.writes) :
    ∀ (h : List Ev) (st : LogSt),
      (∀ raw ∈ rawsOf h, ¬ Spec.randomWrites.contains (effName raw) = true ∨ (cfg.byEffect = true ∧ nameOf raw = "SPOP")) →
      (∀ ev ∈ h, isExpire ev = true → cfg.logExpiry = true) →
      coveredFrom cfg st h = true := by
  intro h
  induction h with
  | nil => intro st _ _; rfl
  | cons ev t ih =>
    intro st hr hx
    have hx' : ∀ e ∈ t, isExpire e = true → cfg.logExpiry = true := fun e he => hx e (List.mem_cons_of_mem _ he)
    simp only [coveredFrom, Bool.and_eq_true]
    cases ev with
    | cmd ve now obs raw =>
      simp only [rawsOf, List.mem_cons, forall_eq_or_imp] at hr
      refine ⟨?_, ih _ hr.2 hx'⟩
      simp only [covered, hsel, decide_eq_true_eq]
      by_cases hs : nameOf raw = "SELECT"
      · exact Or.inl hs
      · refine Or.inr ⟨fun hc => ?_, ?_, fun _ => Or.inl trivial⟩
        · -- a mutating name is in the table; a script is logged as the EVAL it came in
          have hmem : effName raw ∈ Spec.writeNames := by simpa using hc
          simp only [isWrite, List.contains_eq_mem, decide_eq_true_eq]
          by_cases he : nameOf raw = "EVAL"
          · rw [he]; exact heval
          · rw [effName, unwrap_of_name_ne raw he] at hmem
            exact hall _ hmem
        · exact hr.1.imp (by simp) id
    | wake db now left key => exact ⟨by simp [covered, hsel, hwake], ih _ hr hx'⟩
    | expire db now key => exact ⟨by simp [covered, hsel, hx _ (List.mem_cons_self ..) rfl], ih _ hr hx'⟩

theorem fixed_eq_treeX (w : List String) : Cfg.fixed w = Cfg.treeX w true true true true := rfl

end Ferrous.Aof
