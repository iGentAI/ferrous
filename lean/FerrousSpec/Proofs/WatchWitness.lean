/-
  C08: the concrete histories used by the witness lemmas and examples of Props/C08.lean, built with the
  marking facts of the regenerated table `Gen.storageFns`; a fold that runs the Spec judge next to
  the code model (what the driver does line by line); and what C08 reads off the table, evaluated once
  (`storageFns_marks`).
-/
import FerrousSpec.Proofs.WatchInv
import FerrousSpec.Gen.Watch
import FerrousSpec.Proofs.NameCode
namespace Ferrous.Watch

/-- does the table say that storage function `fn` passes its key parameter `param` to `mark_modified`? -/
def marksOf (fn param : String) : Bool :=
  match Gen.storageFns.find? (fun f => f.name == fn) with
  | some f => f.marked.contains param
  | none => false

/-- does the table say that `flush_db` marks the keys it removes? -/
def flushMarks : Bool :=
  match Gen.storageFns.find? (fun f => f.name == "flush_db") with
  | some f => f.marksAll
  | none => false

/-- a key operation whose marking is read from the table -/
def tableOp (fn param : String) (k : Key) (e : Eff) : Op := .key ⟨fn, k, marksOf fn param, e⟩

/-- the operation could have been built by the driver from the table: a key operation that reaches no mutating
    path, or one of a mutating row whose `marks` is the row's fact for one of its key parameters; a flush with the
    row's `marksAll` -/
def isTableOp : Op → Bool
  | .key ko => !ko.eff.reaches ||
      Gen.storageFns.any (fun f => f.mutates && f.name == ko.fn && f.keyParams.any (fun p => marksOf f.name p == ko.marks))
  | .flush _ m => m == flushMarks

/-- every operation the event executes comes from the table, and a sweep has the sweeper row's fact -/
def evFromTable (q : Q) (s : State) (now : Nat) (ev : Ev) : Bool :=
  (executed q s now ev).all (fun p => isTableOp p.2) &&
    (match ev with
     | .sweep _ _ m => m == marksOf "expiration_cleanup_loop" "key"
     | _ => true)

/-- the watched key `wk` -/
def kWk : Key := [119, 107]
/-- another key -/
def kOther : Key := [111]

def setOp (k : Key) (v : Nat) : Op := tableOp "set_value" "key" k (.put ⟨v, none⟩)

/-- B: SET wk; A: WATCH wk; B: <op>; A: MULTI -/
def oneChange (ops : List Op) : List (Nat × Ev) :=
  [(1000, .cmd 1 [setOp kWk 1]), (1001, .watch 0 [kWk]), (1002, .cmd 1 ops), (1003, .multi 0)]

def hSet : List (Nat × Ev) := oneChange [setOp kWk 2]
def hOtherKey : List (Nat × Ev) := oneChange [setOp kOther 2]
def hExpire : List (Nat × Ev) := oneChange [tableOp "expire" "key" kWk (.put ⟨1, some 600000⟩)]
def hPexpire : List (Nat × Ev) := oneChange [tableOp "pexpire" "key" kWk (.put ⟨1, some 600000⟩)]
def hRenameSrc : List (Nat × Ev) :=
  oneChange [tableOp "rename" "old_key" kWk .del, tableOp "rename" "new_key" kOther (.put ⟨1, none⟩)]
def hRenameDst : List (Nat × Ev) :=
  [(1000, .cmd 1 [setOp kOther 1]), (1001, .watch 0 [kWk]),
   (1002, .cmd 1 [tableOp "rename" "old_key" kOther .del, tableOp "rename" "new_key" kWk (.put ⟨1, none⟩)]), (1003, .multi 0)]
def hFlush : List (Nat × Ev) := oneChange [.flush false flushMarks]
def hFlushAll : List (Nat × Ev) := oneChange [.flush true flushMarks]
/-- PERSIST needs a deadline to remove -/
def hPersist : List (Nat × Ev) :=
  [(1000, .cmd 1 [tableOp "set_value" "key" kWk (.put ⟨1, some 600000⟩)]), (1001, .watch 0 [kWk]),
   (1002, .cmd 1 [tableOp "persist" "key" kWk (.put ⟨1, none⟩)]), (1003, .multi 0)]
/-- WATCH wk; change; WATCH wk again; MULTI -/
def hRewatch : List (Nat × Ev) :=
  [(1000, .cmd 1 [setOp kWk 1]), (1001, .watch 0 [kWk]), (1002, .cmd 1 [setOp kWk 2]), (1003, .watch 0 [kWk]), (1004, .multi 0)]
/-- A: WATCH wk (db 0); A: SELECT 1; B: SET wk (db 0); A: MULTI -/
def hSelectExec : List (Nat × Ev) :=
  [(1000, .watch 0 [kWk]), (1001, .select 0 1), (1002, .cmd 1 [setOp kWk 2]), (1003, .multi 0)]
/-- A: WATCH wk (db 0, never touched); A: SELECT 1; C: SELECT 1, WATCH wk; B: SELECT 1, SET wk (db 1); A: MULTI -/
def hSelectFalseAbort : List (Nat × Ev) :=
  [(1000, .watch 0 [kWk]), (1001, .select 0 1), (1002, .select 2 1), (1003, .watch 2 [kWk]),
   (1004, .select 1 1), (1005, .cmd 1 [setOp kWk 2]), (1006, .multi 0)]
/-- A: SELECT 1, WATCH wk; C: WATCH wk (db 0), SELECT 1, UNWATCH; B: SELECT 1, SET wk; A: MULTI -/
def hUnwatchSteals : List (Nat × Ev) :=
  [(1000, .select 0 1), (1001, .watch 0 [kWk]), (1002, .watch 2 [kWk]), (1003, .select 2 1), (1004, .unwatch 2),
   (1005, .select 1 1), (1006, .cmd 1 [setOp kWk 2]), (1007, .multi 0)]
/-- C: WATCH wk (db 0), SELECT 1, UNWATCH (db 1's count wraps to usize::MAX); A: SELECT 1, WATCH wk (wraps to 0);
    B: SELECT 1, SET wk; A: MULTI -/
def hUnwatchWraps : List (Nat × Ev) :=
  [(1000, .watch 2 [kWk]), (1001, .select 2 1), (1002, .unwatch 2), (1003, .select 0 1), (1004, .watch 0 [kWk]),
   (1005, .select 1 1), (1006, .cmd 1 [setOp kWk 2]), (1007, .multi 0)]
/-- B: SET wk with a deadline of 1040; at 1100: A: WATCH wk; A: MULTI (nothing else happens) -/
def hExpiredAtWatch : List (Nat × Ev) :=
  [(1000, .cmd 1 [tableOp "set_value" "key" kWk (.put ⟨1, some 1040⟩)]), (1100, .watch 0 [kWk]), (1101, .multi 0)]
/-- the deadline (1150) passes between WATCH (1001) and EXEC -/
def hExpires : List (Nat × Ev) :=
  [(1000, .cmd 1 [tableOp "set_value" "key" kWk (.put ⟨1, some 1150⟩)]), (1001, .watch 0 [kWk]), (1002, .multi 0)]

/-! the same histories with the table rows as they were before the fixes (the function does not mark) -/

def oldOp (fn : String) (k : Key) (e : Eff) : Op := .key ⟨fn, k, false, e⟩
def hExpireOld : List (Nat × Ev) := oneChange [oldOp "expire" kWk (.put ⟨1, some 600000⟩)]
def hRenameSrcOld : List (Nat × Ev) := oneChange [oldOp "rename" kWk .del, tableOp "rename" "new_key" kOther (.put ⟨1, none⟩)]
def hFlushOld : List (Nat × Ev) := oneChange [.flush false false]
def hFlushAllOld : List (Nat × Ev) := oneChange [.flush true false]
def hPersistOld : List (Nat × Ev) :=
  [(1000, .cmd 1 [tableOp "set_value" "key" kWk (.put ⟨1, some 600000⟩)]), (1001, .watch 0 [kWk]),
   (1002, .cmd 1 [oldOp "persist" kWk (.put ⟨1, none⟩)]), (1003, .multi 0)]

/-- the watch-list switches of the tree after commits 180a098 and 3ed7039, before a purge at WATCH time -/
def Q.noPurge : Q := ⟨true, true, false, false⟩

/-- A: WATCH wk; MULTI; UNWATCH (inside MULTI); B: SET wk -/
def hUnwatchInMulti : List (Nat × Ev) :=
  [(1000, .cmd 1 [setOp kWk 1]), (1001, .watch 0 [kWk]), (1002, .multi 0), (1003, .unwatch 0), (1004, .cmd 1 [setOp kWk 2])]
/-- A: WATCH wk; a refused UNWATCH / a MULTI + refused EXEC + refused DISCARD (surplus arguments); B: SET wk -/
def hRefused : List (Nat × Ev) :=
  [(1000, .cmd 1 [setOp kWk 1]), (1001, .watch 0 [kWk]), (1002, .refused 0), (1003, .multi 0), (1004, .refused 0),
   (1005, .refused 0), (1006, .cmd 1 [setOp kWk 2])]
/-- the tree's watch list before 7dd14e2 (UNWATCH inside MULTI ran at once) -/
def Q.unwatchAtOnce : Q := ⟨true, true, true, false⟩

/-- reply of A's EXEC (at time `now`) after the history -/
def execAfter (q : Q) (h : List (Nat × Ev)) (now : Nat) : Reply :=
  (step q (run q State.init h) now (.exec 0 [setOp [112] 1])).2

/-- run the Spec judge next to the code model: the verdicts of all EXECs inside MULTI, in order -/
def judge (q : Q) : State → Spec.SState → List (Nat × Ev) → List (Reply × Spec.Verdict)
  | _, _, [] => []
  | s, ss, (now, ev) :: r =>
    let (ss', v) := Spec.step q s now ss ev
    let (s', rep) := step q s now ev
    match v with
    | some x => (rep, x) :: judge q s' ss' r
    | none => judge q s' ss' r

/-- the history followed by A's EXEC, judged -/
def judged (q : Q) (h : List (Nat × Ev)) (now : Nat) : List (Reply × Spec.Verdict) :=
  judge q State.init [] (h ++ [(now, .exec 0 [setOp [112] 1])])

/-! ### Reading the table by evaluation

  `marksOf` finds a row by comparing names; the kernel re-encodes both strings for every comparison.  The
  same row is found by the numbers of the names (`nameCode`), each computed once. -/

theorem name_beq (s t : String) : (s == t) = Nat.beq (nameCode s) (nameCode t) := by
  cases h : Nat.beq (nameCode s) (nameCode t)
  · exact beq_eq_false_iff_ne.mpr fun e => by rw [e, Nat.beq_refl] at h; exact Bool.noConfusion h
  · exact beq_iff_eq.mpr (nameCode_inj (Nat.eq_of_beq_eq_true h))

/-- the first row whose name has the number `c` -/
def rowOfCode (T : List StorageFn) (c : Nat) : Option StorageFn := T.find? (fun f => Nat.beq (nameCode f.name) c)

theorem find?_name (T : List StorageFn) (fn : String) :
    T.find? (fun f => f.name == fn) = rowOfCode T (nameCode fn) := by
  simp only [rowOfCode, name_beq]

theorem marksOf_eq (fn param : String) :
    marksOf fn param = (rowOfCode Gen.storageFns (nameCode fn)).any (fun f => f.marked.contains param) := by
  unfold marksOf
  rw [find?_name]
  cases rowOfCode Gen.storageFns (nameCode fn) <;> rfl

theorem flushMarks_eq : flushMarks = (rowOfCode Gen.storageFns (nameCode "flush_db")).any (·.marksAll) := by
  unfold flushMarks
  generalize "flush_db" = fn
  rw [find?_name]
  cases rowOfCode Gen.storageFns (nameCode fn) <;> rfl

/-- the storage functions with one key parameter that the command handlers write through -/
def keyWriters : List String :=
  ["set_value", "set_string", "set_string_ex", "set_string_nx", "set_string_nx_ex", "delete", "incr", "incr_by",
   "append", "setrange", "lpush", "rpush", "lpop", "rpop", "lset", "ltrim", "lrem", "sadd", "srem", "spop",
   "hset", "hdel", "hincrby", "zadd", "zrem", "zincrby", "xadd", "xadd_with_id", "xdel", "xtrim", "get",
   "expire", "pexpire", "persist", "expiration_cleanup_loop"]

/-- Everything C08 reads off the regenerated table, in one walk: every mutating row is found under its own name
    and marks each of its key parameters (all it removes, if it has none); flush_db marks; the write paths of the
    command handlers are such rows. -/
theorem storageFns_marks :
    (∀ f ∈ Gen.storageFns, f.mutates = true →
      (∀ p ∈ f.keyParams, marksOf f.name p = true) ∧ (f.keyParams = [] → f.marksAll = true)) ∧
    flushMarks = true ∧ keyWriters.all (fun fn => marksOf fn "key") = true ∧
    marksOf "rename" "new_key" = true ∧ marksOf "rename" "old_key" = true := by
  simp only [marksOf_eq, flushMarks_eq]
  -- kernel evaluation only: the elaborator's own evaluation of the table needs recursion depth beyond the default
  decide +kernel

theorem keyWriters_mark {fn : String} (h : fn ∈ keyWriters) : marksOf fn "key" = true :=
  List.all_eq_true.mp storageFns_marks.2.2.1 fn h

theorem set_value_marks : marksOf "set_value" "key" = true := keyWriters_mark List.mem_cons_self
theorem expire_marks : marksOf "expire" "key" = true := keyWriters_mark (List.mem_of_getElem (i := 31) (h := by decide) rfl)
theorem pexpire_marks : marksOf "pexpire" "key" = true := keyWriters_mark (List.mem_of_getElem (i := 32) (h := by decide) rfl)
theorem persist_marks : marksOf "persist" "key" = true := keyWriters_mark (List.mem_of_getElem (i := 33) (h := by decide) rfl)

end Ferrous.Watch
