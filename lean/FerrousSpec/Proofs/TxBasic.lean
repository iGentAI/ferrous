/-
  The functions of the MULTI/EXEC model (C07) one form of input at a time: `setConn`, `execFold`, and an
  equation per kind of command for `runOne` and per kind of frame for `processFrame`.
-/
import FerrousSpec.Model.Tx
import FerrousSpec.Proofs.KsAtomic
namespace Ferrous.Tx
open Ferrous

@[simp] theorem setConn_same (s : Server) (cid : Nat) (c : Conn) : (setConn s cid c).conns cid = c := by
  simp [setConn]

@[simp] theorem setConn_other (s : Server) (cid j : Nat) (c : Conn) (h : j ≠ cid) :
    (setConn s cid c).conns j = s.conns j := by
  simp [setConn, h]

@[simp] theorem setConn_store (s : Server) (cid : Nat) (c : Conn) : (setConn s cid c).store = s.store := rfl
@[simp] theorem setConn_ext (s : Server) (cid : Nat) (c : Conn) : (setConn s cid c).ext = s.ext := rfl

theorem setConn_congr {a b : Server} {j : Nat} (cid : Nat) (c : Conn) (h : a.conns j = b.conns j) :
    (setConn a cid c).conns j = (setConn b cid c).conns j := by
  unfold setConn
  dsimp only
  rw [h]

theorem setConn_self (s : Server) (cid : Nat) : setConn s cid (s.conns cid) = s := by
  have : (fun j => if j = cid then s.conns cid else s.conns j) = s.conns := by
    funext j; split <;> simp [*]
  unfold setConn
  rw [this]

theorem setConn_setConn (s : Server) (cid : Nat) (c c' : Conn) (st : KS.Store) (ex : List (Nat × Cmd)) :
    setConn { setConn s cid c with store := st, ext := ex } cid c' = setConn { s with store := st, ext := ex } cid c' := by
  have : (fun j => if j = cid then c' else (setConn s cid c).conns j) = fun j => if j = cid then c' else s.conns j := by
    funext j; split <;> simp [*]
  unfold setConn at this ⊢
  simp only [this]

theorem kindOf_iff (n : String) :
    (kindOf n = .multi ↔ n = "MULTI") ∧ (kindOf n = .exec ↔ n = "EXEC") ∧
    (kindOf n = .discard ↔ n = "DISCARD") ∧ (kindOf n = .other ↔ n ∉ controlNames) := by
  unfold kindOf controlNames
  repeat' split
  all_goals simp_all

theorem kindOf_multi (n : String) : kindOf n = .multi ↔ n = "MULTI" := (kindOf_iff n).1
theorem kindOf_exec (n : String) : kindOf n = .exec ↔ n = "EXEC" := (kindOf_iff n).2.1
theorem kindOf_discard (n : String) : kindOf n = .discard ↔ n = "DISCARD" := (kindOf_iff n).2.2.1
theorem kindOf_other_iff (n : String) : kindOf n = .other ↔ n ∉ controlNames := (kindOf_iff n).2.2.2

theorem isEmpty_of_kindOf {c : Cmd} {k : Kind} (h : kindOf (nameOf c) = k) (hk : k ≠ .other) : c.isEmpty = false := by
  cases c
  · exact absurd h.symm hk
  · rfl

theorem queueable_iff (q : Quirks) (c : Cmd) :
    queueable q c = true ↔ c ≠ [] ∧ kindOf (nameOf c) = .other ∧ nameOf c ∉ q.immediate := by
  unfold queueable
  cases c <;> simp [Bool.and_eq_true]

theorem execFold_nil (q : Quirks) (b : Bool) (cid now : Nat) (st : ExecSt) :
    execFold q b cid now st [] = (st, []) := rfl

section
variable (q : Quirks) (b : Bool) (cid now : Nat) (st : ExecSt)

theorem execFold_cons (c : Cmd) (cs : List Cmd) :
    execFold q b cid now st (c :: cs) =
      ((execFold q b cid now (runOne q b cid st now c).1 cs).1,
       (runOne q b cid st now c).2 :: (execFold q b cid now (runOne q b cid st now c).1 cs).2) := rfl

theorem execFold_append (xs ys : List Cmd) :
    execFold q b cid now st (xs ++ ys) =
      ((execFold q b cid now (execFold q b cid now st xs).1 ys).1,
       (execFold q b cid now st xs).2 ++ (execFold q b cid now (execFold q b cid now st xs).1 ys).2) := by
  induction xs generalizing st with
  | nil => simp [execFold_nil]
  | cons x xs ih => simp [execFold_cons, ih]

theorem execFold_state (cs : List Cmd) :
    (execFold q b cid now st cs).1 = cs.foldl (fun st c => (runOne q b cid st now c).1) st := by
  induction cs generalizing st with
  | nil => rfl
  | cons c cs ih => simp [execFold_cons, ih]

theorem execFold_length (cs : List Cmd) :
    (execFold q b cid now st cs).2.length = cs.length := by
  induction cs generalizing st with
  | nil => rfl
  | cons c cs ih => simp [execFold_cons, ih]

theorem execFold_slot (cs : List Cmd) (i : Nat) (c : Cmd)
    (h : cs[i]? = some c) :
    (execFold q b cid now st cs).2[i]? =
      some (runOne q b cid ((cs.take i).foldl (fun st c => (runOne q b cid st now c).1) st) now c).2 := by
  induction cs generalizing st i with
  | nil => simp at h
  | cons x xs ih =>
    cases i with
    | zero => simp at h; subst h; simp [execFold_cons]
    | succ i =>
      simp at h
      simp [execFold_cons, ih _ _ h]

end

/-! ### one command

`runOne` tests the name for SELECT, the blocking pops, the hand-over names, CLIENT and UNWATCH in
turn; everything else (`plain`) goes to `KS.step`. -/

/-- commands that `runOne` does not treat itself go to the key-space machine -/
def plain (c : Cmd) : Bool :=
  nameOf c != "SELECT" && nameOf c != "BLPOP" && nameOf c != "BRPOP" && !externalNames.contains (nameOf c) &&
    !connectionNames.contains (nameOf c) && nameOf c != "UNWATCH"

theorem plain_eq_false {c : Cmd} (h : plain c = false) :
    nameOf c = "SELECT" ∨ isBlockingName (nameOf c) = true ∨ nameOf c ∈ externalNames ∨
      nameOf c ∈ connectionNames ∨ nameOf c = "UNWATCH" := by
  unfold plain at h
  unfold isBlockingName
  simp only [Bool.and_eq_false_iff, bne_eq_false_iff_eq, List.contains_iff_mem, Bool.not_eq_eq_eq_not,
    Bool.not_false, Bool.or_eq_true, beq_iff_eq] at h ⊢
  rcases h with ((((h | h) | h) | h) | h) | h <;> simp [h]

section
variable {q : Quirks} {b : Bool} {cid : Nat} {st : ExecSt} {now : Nat} {c : Cmd}

theorem runOne_select (hn : nameOf c = "SELECT") :
    runOne q b cid st now c =
      match selectArg (c.drop 1) with
      | none => (st, .frame KS.err)
      | some n => if b && q.selectInExecIgnored then (st, .frame KS.ok) else ({ st with db := n }, .frame KS.ok) := by
  unfold runOne
  simp only [hn, if_true]
  rfl

theorem runOne_blocking (hb : isBlockingName (nameOf c) = true) :
    runOne q b cid st now c = runBlocking q b cid st now (nameOf c == "BLPOP") c := by
  unfold isBlockingName at hb
  simp only [Bool.or_eq_true, beq_iff_eq] at hb
  unfold runOne
  rcases hb with h | h <;> simp [h]

theorem runOne_external (h : nameOf c ∈ externalNames) :
    runOne q b cid st now c = ({ st with ext := st.ext ++ [(cid, c)] }, .external) := by
  have hne : ∀ n, n ∉ externalNames → nameOf c ≠ n := fun n hn e => hn (e ▸ h)
  unfold runOne
  simp [hne "SELECT" (by decide), hne "BLPOP" (by decide), hne "BRPOP" (by decide), h]

theorem runOne_connection (h : nameOf c ∈ connectionNames) :
    runOne q b cid st now c =
      ({ st with ext := st.ext ++ [(if b && q.connCommandsUnderConnZero then 0 else cid, c)] }, .external) := by
  have hn : nameOf c = "CLIENT" := by simpa [connectionNames] using h
  have h4 : "CLIENT" ∉ externalNames := by decide
  have h5 : "CLIENT" ∈ connectionNames := by decide
  unfold runOne
  simp [hn, h4, h5]

theorem runOne_unwatch (hn : nameOf c = "UNWATCH") :
    runOne q b cid st now c =
      if c.length = 1 || (!b && q.controlArityUnchecked) then (st, .frame KS.ok) else (st, .frame KS.err) := by
  have h4 : "UNWATCH" ∉ externalNames := by decide
  have h5 : "UNWATCH" ∉ connectionNames := by decide
  unfold runOne
  simp [hn, h4, h5]

end

theorem runOne_plain (q : Quirks) (b : Bool) (cid : Nat) (st : ExecSt) (now : Nat) (c : Cmd) (h : plain c = true) :
    runOne q b cid st now c =
      ({ st with store := (KS.step q.ks st.store st.db now c none).1 }, .frame (KS.step q.ks st.store st.db now c none).2) := by
  unfold plain at h
  simp only [Bool.and_eq_true, bne_iff_ne, ne_eq, Bool.not_eq_true'] at h
  obtain ⟨⟨⟨⟨⟨h1, h2⟩, h3⟩, h4⟩, h5⟩, h6⟩ := h
  simp only [runOne, h1, h2, h3, h4, h5, h6, if_false, Bool.false_eq_true]

/-- the connection the command runs for and the `inExec` flag matter only to SELECT (when the
    switch is on) and to blocking pops that would block -/
theorem runOne_plain_indep (q : Quirks) (b b' : Bool) (cid cid' : Nat) (st : ExecSt) (now : Nat) (c : Cmd) (h : plain c = true) :
    runOne q b cid st now c = runOne q b' cid' st now c := by
  rw [runOne_plain q b cid st now c h, runOne_plain q b' cid' st now c h]

theorem runOne_db_plain (q : Quirks) (b : Bool) (cid : Nat) (st : ExecSt) (now : Nat) (c : Cmd) (h : plain c = true) :
    (runOne q b cid st now c).1.db = st.db ∧ (runOne q b cid st now c).1.ext = st.ext := by
  rw [runOne_plain q b cid st now c h]; exact ⟨rfl, rfl⟩

section
variable (q : Quirks) (b : Bool) (cid : Nat) (st : ExecSt) (now : Nat)

/-- A blocking pop either answers with a frame and touches nothing but the dataset, or — sent
    directly, or run by EXEC with the switch on — registers a waiter and answers nothing. -/
theorem runBlocking_cases (l : Bool) (c : Cmd) :
    (∃ s' f, runBlocking q b cid st now l c = ({ st with store := s' }, .frame f)) ∨
    ((b = false ∨ q.blockingInExecNoResponse = true) ∧
      ∃ s', runBlocking q b cid st now l c =
        ({ st with store := s', ext := st.ext ++ [(if b then 0 else cid, c)] }, .noResponse)) := by
  unfold runBlocking
  split
  · split
    · exact .inl ⟨_, _, rfl⟩
    · split
      · exact .inl ⟨_, _, rfl⟩
      · cases b
        · exact .inr ⟨.inl rfl, _, rfl⟩
        · cases hq : q.blockingInExecNoResponse
          · exact .inl ⟨_, _, rfl⟩
          · exact .inr ⟨.inr rfl, _, rfl⟩
  · exact .inl ⟨_, _, rfl⟩

theorem runOne_db (c : Cmd) :
    (runOne q b cid st now c).1.db = dbAfter q b st.db c := by
  unfold dbAfter
  by_cases hs : nameOf c = "SELECT"
  · rw [runOne_select hs, if_pos hs]
    cases selectArg (c.drop 1) with
    | none => rfl
    | some n => dsimp only; split <;> rfl
  · rw [if_neg hs]
    cases hp : plain c
    · rcases plain_eq_false hp with h | h | h | h | h
      · exact absurd h hs
      · rw [runOne_blocking h]
        rcases runBlocking_cases q b cid st now (nameOf c == "BLPOP") c with ⟨_, _, e⟩ | ⟨_, _, e⟩ <;> rw [e]
      · rw [runOne_external h]
      · rw [runOne_connection h]
      · rw [runOne_unwatch h]; split <;> rfl
    · exact (runOne_db_plain q b cid st now c hp).1

end

theorem execFold_db (q : Quirks) (b : Bool) (cid now : Nat) (st : ExecSt) (cs : List Cmd) :
    (execFold q b cid now st cs).1.db = cs.foldl (dbAfter q b) st.db := by
  induction cs generalizing st with
  | nil => rfl
  | cons c cs ih => simp [execFold_cons, ih, runOne_db]

theorem badArity_other (q : Quirks) (cmd : Cmd) (h : kindOf (nameOf cmd) = .other) : badArity q cmd = false := by
  unfold badArity; simp [h]

theorem badArity_watch (q : Quirks) (cmd : Cmd) (h : kindOf (nameOf cmd) = .watch) : badArity q cmd = false := by
  unfold badArity; simp [h]

/-- the command has the arity the control commands require (or the switch that ignores it is on) -/
def arityOk (q : Quirks) (cmd : Cmd) : Prop := cmd.length = 1 ∨ q.controlArityUnchecked = true

theorem badArity_ok (q : Quirks) (cmd : Cmd) (h : arityOk q cmd) : badArity q cmd = false := by
  unfold badArity
  rcases h with h | h <;> simp [h]

/-! ### one frame

`processFrame` kind by kind: a frame is refused outright (empty, or a control command with surplus
arguments), or it is MULTI, EXEC, DISCARD, WATCH or something else. -/

section
variable {q : Quirks} {s : Server} {cid : Nat} {r : Req}

theorem processFrame_refused (h : r.cmd.isEmpty = true ∨ badArity q r.cmd = true) :
    processFrame q s cid r = (s, .one (.frame KS.err)) := by
  unfold processFrame
  rcases h with h | h <;> simp [h]

theorem processFrame_multi (hk : kindOf (nameOf r.cmd) = .multi) (hb : badArity q r.cmd = false) :
    processFrame q s cid r =
      if (s.conns cid).inTx then (s, .one (.frame KS.err))
      else (setConn s cid { s.conns cid with inTx := true, queue := [], aborted := false }, .one (.frame KS.ok)) := by
  simp [processFrame, isEmpty_of_kindOf hk (by decide), hb, hk]

theorem processFrame_exec (hk : kindOf (nameOf r.cmd) = .exec) (hb : badArity q r.cmd = false) :
    processFrame q s cid r = exec q s cid r := by
  simp [processFrame, isEmpty_of_kindOf hk (by decide), hb, hk]

theorem processFrame_discard (hk : kindOf (nameOf r.cmd) = .discard) (hb : badArity q r.cmd = false) :
    processFrame q s cid r =
      if !(s.conns cid).inTx then (s, .one (.frame KS.err))
      else (setConn s cid (cleared (s.conns cid)), .one (.frame KS.ok)) := by
  simp [processFrame, isEmpty_of_kindOf hk (by decide), hb, hk]

/-- WATCH only answers: the watched keys are C08's -/
theorem processFrame_watch (hk : kindOf (nameOf r.cmd) = .watch) :
    processFrame q s cid r =
      (s, .one (.frame (if r.cmd.length < 2 then KS.err else if (s.conns cid).inTx then KS.err else KS.ok))) := by
  simp only [processFrame, isEmpty_of_kindOf hk (by decide), badArity_watch q r.cmd hk, hk, Bool.false_eq_true, if_false]
  repeat' split
  all_goals rfl

theorem processFrame_other (hne : r.cmd ≠ []) (hk : kindOf (nameOf r.cmd) = .other) {o : ExecSt × Out}
    (ho : runOne q false cid ⟨s.store, (s.conns cid).db, s.ext⟩ r.now r.cmd = o) :
    processFrame q s cid r =
      if (s.conns cid).inTx && !q.immediate.contains (nameOf r.cmd) then
        (setConn s cid { s.conns cid with queue := (s.conns cid).queue ++ [r.cmd] }, .one (.frame queuedFrame))
      else
        (setConn { s with store := o.1.store, ext := o.1.ext } cid { s.conns cid with db := o.1.db }, .one o.2) := by
  have : r.cmd.isEmpty = false := by cases hc : r.cmd <;> simp_all
  subst ho
  simp [processFrame, this, hk, badArity_other q r.cmd hk]

theorem processFrame_queue (hin : (s.conns cid).inTx = true) (hq : queueable q r.cmd = true) :
    processFrame q s cid r =
      (setConn s cid { s.conns cid with queue := (s.conns cid).queue ++ [r.cmd] }, .one (.frame queuedFrame)) := by
  obtain ⟨h1, h2, h3⟩ := (queueable_iff q r.cmd).1 hq
  rw [processFrame_other h1 h2 rfl]
  simp [hin, h3]

end

theorem run_nil (q : Quirks) (s : Server) : run q s [] = s := rfl

theorem run_cons (q : Quirks) (s : Server) (e : Event) (es : List Event) :
    run q s (e :: es) = run q (stepEvent q s e).1 es := rfl

theorem run_append (q : Quirks) (s : Server) (xs ys : List Event) :
    run q s (xs ++ ys) = run q (run q s xs) ys := by
  simp [run, List.foldl_append]

theorem run_take_succ (q : Quirks) (s : Server) (evs : List Event) (p : Nat) (e : Event) (h : evs[p]? = some e) :
    run q s (evs.take (p + 1)) = (stepEvent q (run q s (evs.take p)) e).1 := by
  rw [List.take_add_one, h, run_append]
  rfl

theorem run_split (q : Quirks) (s : Server) (evs : List Event) (p : Nat) :
    run q s evs = run q (run q s (evs.take p)) (evs.drop p) := by
  rw [← run_append, List.take_append_drop]

end Ferrous.Tx
