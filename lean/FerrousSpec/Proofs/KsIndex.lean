/-
  The index arithmetic of GETRANGE, LRANGE / LTRIM and LINDEX: each selection function, a cascade of
  `if`s in the model, is characterised by the explicit bounds of the window it selects.
-/
import FerrousSpec.Model.Keyspace
namespace Ferrous.KS

theorem ite_neg_eq_max (x : Int) : (if x < 0 then 0 else x) = max 0 x := by omega

theorem ite_ge_eq_min (x n : Int) : (if x ≥ n then n - 1 else x) = min x (n - 1) := by omega

/-- LRANGE selects from `max 0 start` to `min stop (len - 1)`, negative indices counting from the end. -/
theorem lrangeSel_eq_some_iff {len : Nat} {s e : Int} {a c : Nat} :
    lrangeSel len s e = some (a, c) ↔
      (a : Int) = max 0 (if s < 0 then len + s else s) ∧
      (c : Int) = min (if e < 0 then len + e else e) (len - 1) ∧ a ≤ c := by
  simp only [lrangeSel, ite_neg_eq_max, ite_ge_eq_min, Option.ite_none_left_eq_some, Option.some.injEq,
    Prod.mk.injEq]
  -- what is left is linear arithmetic about the clamped bounds; `omega` splits on every `if`, `max` and
  -- `min` it is shown, so the relative indices and the lower clamp are hidden from it first
  generalize (if e < 0 then (len : Int) + e else e) = e1
  generalize hlo : max 0 (if s < 0 then (len : Int) + s else s) = lo
  have : 0 ≤ lo := hlo ▸ Int.le_max_left ..
  omega

/-- GETRANGE selects the same window, except that a stop before the first byte is the first byte and that
    two negative bounds in the wrong order select nothing. -/
theorem getrangeSel_eq_some_iff {len : Nat} {s e : Int} {a c : Nat} :
    getrangeSel len s e = some (a, c) ↔
      ¬ (s < 0 ∧ e < 0 ∧ e < s) ∧
      (a : Int) = max 0 (if s < 0 then len + s else s) ∧
      (c : Int) = min (max 0 (if e < 0 then len + e else e)) (len - 1) ∧ a ≤ c := by
  simp only [getrangeSel, ite_neg_eq_max, ite_ge_eq_min, Option.ite_none_left_eq_some, Option.some.injEq,
    Prod.mk.injEq]
  -- the first conjunct is the same on both sides; of the two clamps only `0 ≤ lo` and `hi ≤ len - 1` matter
  refine and_congr Iff.rfl ?_
  generalize hlo : max 0 (if s < 0 then (len : Int) + s else s) = lo
  generalize hhi : min (max 0 (if e < 0 then (len : Int) + e else e)) (len - 1) = hi
  have : 0 ≤ lo := hlo ▸ Int.le_max_left ..
  have : hi ≤ len - 1 := hhi ▸ Int.min_le_right ..
  clear hlo hhi
  omega

theorem slice_eq_self {α : Type} {xs : List α} {sel : Option (Nat × Nat)}
    (h : xs ≠ [] → sel = some (0, xs.length - 1)) : slice xs sel = xs := by
  cases xs with
  | nil => cases sel <;> simp [slice]
  | cons x t => simp [h (List.cons_ne_nil x t), slice]

end Ferrous.KS
