/-
  The engine-level functions (`zadd`, `zrem`, `zrange`, pops, the ZADD command loop and the
  one-call storage functions) refine the Spec on a key that holds a well-formed, non-empty skip list.
-/
import FerrousSpec.Proofs.ZSetQuery
namespace Ferrous.ZSet
open Ferrous Code

theorem keyInv_none : KeyInv none := by
  intro sl h; cases h

theorem remove_old (sl : SkipList) (m : Bytes) : (remove m sl).2 = getScore m sl := by
  unfold remove getScore
  split <;> simp [*]

theorem remove_none {sl : SkipList} {m : Bytes} (h : (remove m sl).2 = none) : (remove m sl).1 = sl := by
  unfold remove at h ⊢
  split at h
  · rfl
  · cases h

/-- `zadd` of one (non-NaN) pair; an absent key behaves as the empty skip list. -/
theorem zadd_refines {k : ZKey} (hk : KeyInv k) (ht : Nat) (m : Bytes) (s : Score) :
    KeyInv (Code.zadd ht m (.num s) k).1 ∧
    absKey (Code.zadd ht m (.num s) k).1 = Spec.zadd m s (absKey k) ∧
    (Code.zadd ht m (.num s) k).2 = (Spec.zscore m (absKey k)).isNone := by
  have key : ∀ sl, Inv sl →
      KeyInv (some (Code.insert ht m (.num s) sl).1) ∧
      abs (Code.insert ht m (.num s) sl).1 = Spec.zadd m s (abs sl) ∧
      (Code.insert ht m (.num s) sl).2.isNone = (Spec.zscore m (abs sl)).isNone := by
    intro sl h
    refine ⟨?_, abs_insert h ht m s, ?_⟩
    · intro sl' hsl
      cases hsl
      exact ⟨inv_insert h ht m s, List.ne_nil_of_mem (insert_stores h ht m s).2.1⟩
    · rw [(insert_eq h ht m s).2, remove_old, getScore_refines h]
      cases Spec.zscore m (abs sl) <;> rfl
  cases k with
  | none => exact key Code.empty inv_empty
  | some sl => exact key sl (hk sl rfl).1

theorem keyInv_nonempty {sl : SkipList} (h : Inv sl) :
    KeyInv (if sl.length == 0 then none else some sl) ∧
    absKey (if sl.length == 0 then none else some sl) = abs sl := by
  by_cases h0 : sl.length = 0
  · rw [h0]
    exact ⟨keyInv_none, (List.eq_nil_of_length_eq_zero ((abs_length h).trans h0)).symm⟩
  · rw [show (sl.length == 0) = false by simpa using h0]
    refine ⟨fun sl' e => ?_, rfl⟩
    cases e
    exact ⟨h, fun e => h0 (by rw [h.len, e]; rfl)⟩

theorem zrem_refines {k : ZKey} (hk : KeyInv k) (m : Bytes) :
    KeyInv (Code.zrem m k).1 ∧
    absKey (Code.zrem m k).1 = Spec.zrem m (absKey k) ∧
    (Code.zrem m k).2 = (Spec.zscore m (absKey k)).isSome := by
  cases k with
  | none => exact ⟨keyInv_none, rfl, rfl⟩
  | some sl =>
    have h := (hk sl rfl).1
    have hw := keyInv_nonempty (inv_remove h m)
    have ho : (remove m sl).2.isSome = (Spec.zscore m (abs sl)).isSome := by
      rw [remove_old, getScore_refines h]
      cases Spec.zscore m (abs sl) <;> rfl
    unfold Code.zrem
    cases hs : (remove m sl).2.isSome
    · have hn : (remove m sl).1 = sl := remove_none (by simpa using hs)
      simp only [hs, Bool.false_eq_true, if_false]
      exact ⟨by rw [hn]; exact hk, abs_remove h m, hs.symm.trans ho⟩
    · simp only [hs, if_true]
      exact ⟨hw.1, hw.2.trans (abs_remove h m), hs.symm.trans ho⟩

theorem keyInv_absKey_nil {k : ZKey} (hk : KeyInv k) : absKey k = [] ↔ k = none := by
  cases k with
  | none => simp [absKey]
  | some sl =>
    simp only [absKey, reduceCtorEq, iff_false]
    intro e
    have h := hk sl rfl
    apply h.2
    rw [level0_eq_lift_abs h.1, e]
    rfl

theorem wf_absKey {k : ZKey} (hk : KeyInv k) : Spec.WF (absKey k) := by
  cases k with
  | none => exact ⟨List.Pairwise.nil, List.nodup_nil⟩
  | some sl => exact abs_wf (hk sl rfl).1

theorem zcard_pos_of_ne {k : ZKey} (hk : KeyInv k) (h : absKey k ≠ []) : 0 < zcard k := by
  cases k with
  | none => exact absurd rfl h
  | some sl =>
    have hi := (hk sl rfl).1
    simp only [zcard, absKey] at *
    rw [← abs_length hi]
    exact List.length_pos_iff.mpr h

theorem zrange_refines {k : ZKey} (hk : KeyInv k) (fixed rev : Bool) (start stop : Int)
    (hd : fixed = true ∨ zrangeDev rev (zcard k) start stop = false) :
    Code.zrange fixed start stop rev k =
      (if rev then Spec.zrevrange (absKey k) start stop else Spec.zrange (absKey k) start stop).map lift := by
  cases k with
  | none =>
    simp only [Code.zrange, absKey, spec_zrange_nil]
    cases rev <;> rfl
  | some sl =>
    exact zrange_refines_of (hk sl rfl).1 fixed rev start stop
      fun hpos => (zrangeIdx_iff _ hpos fixed rev start stop).mpr hd

theorem zrangebyscore_refines {k : ZKey} (hk : KeyInv k) (lo hi : Score) (rev : Bool) :
    Code.zrangebyscore (.num lo) (.num hi) rev k =
      (if rev then Spec.zrevrangebyscore (absKey k) lo hi else Spec.zrangebyscore (absKey k) lo hi).map lift := by
  cases k with
  | none => cases rev <;> rfl
  | some sl =>
    simp only [Code.zrangebyscore, absKey, rangeByScore_refines (hk sl rfl).1, Spec.zrevrangebyscore]
    cases rev <;> simp

namespace Spec

theorem zrem_mid {l1 l2 : ZSet} {e : Entry} (h : WF (l1 ++ e :: l2)) : zrem e.2 (l1 ++ e :: l2) = l1 ++ l2 := by
  have hnd := h.2
  rw [List.map_append, List.map_cons, List.nodup_append, List.nodup_cons] at hnd
  have keep : ∀ l : ZSet, (∀ a ∈ l, a.2 ≠ e.2) → l.filter (fun x => x.2 != e.2) = l :=
    fun l hl => List.filter_eq_self.mpr fun a ha => by simpa using hl a ha
  unfold zrem
  rw [List.filter_append, List.filter_cons_of_neg (by simp),
    keep l1 fun a ha heq => hnd.2.2 _ (List.mem_map_of_mem ha) _ List.mem_cons_self heq,
    keep l2 fun a ha heq => hnd.2.1.1 (heq ▸ List.mem_map_of_mem ha)]

theorem zrem_of_not_mem {z : ZSet} {m : Bytes} (h : zscore m z = none) : zrem m z = z :=
  List.filter_eq_self.mpr fun a ha => by
    simp only [bne_iff_ne, ne_eq]
    intro heq
    exact zscore_eq_none.mp h a.1 (heq ▸ ha)

theorem length_zrem {z : ZSet} (h : WF z) (m : Bytes) :
    (zrem m z).length = if (zscore m z).isSome then z.length - 1 else z.length := by
  cases hz : zscore m z with
  | none => rw [zrem_of_not_mem hz]; rfl
  | some s =>
    obtain ⟨l1, l2, rfl⟩ := List.append_of_mem (zscore_some_mem hz)
    rw [zrem_mid h]
    simp

theorem length_zadd {z : ZSet} (h : WF z) (m : Bytes) (s : Score) :
    (zadd m s z).length = if (zscore m z).isNone then z.length + 1 else z.length := by
  unfold zadd
  rw [length_insSorted, length_zrem h]
  cases hz : zscore m z with
  | none => rfl
  | some s0 =>
    have := List.length_pos_of_mem (zscore_some_mem hz)
    simp only [Option.isSome_some, if_true, Option.isNone_some, Bool.false_eq_true, if_false]
    omega

theorem zpop_cases (max : Bool) (z : ZSet) :
    (z = [] ∧ (if max then zpopmax z else zpopmin z) = none) ∨
    ∃ e r, z = (if max then r ++ [e] else e :: r) ∧ (if max then zpopmax z else zpopmin z) = some (e, r) := by
  cases max
  · cases z with
    | nil => exact Or.inl ⟨rfl, rfl⟩
    | cons e r => exact Or.inr ⟨e, r, rfl, rfl⟩
  · cases hl : z.getLast? with
    | none => exact Or.inl ⟨List.getLast?_eq_none_iff.mp hl, by simp [zpopmax, hl]⟩
    | some e =>
      obtain ⟨r, rfl⟩ := List.getLast?_eq_some_iff.mp hl
      exact Or.inr ⟨e, r, rfl, by simp [zpopmax]⟩

section Pop
variable {max : Bool} {z : ZSet} {e : Entry} {r : ZSet} (hz : z = if max then r ++ [e] else e :: r)
include hz

theorem zrem_pop (h : WF z) : zrem e.2 z = r := by
  subst hz
  cases max
  · exact zrem_mid (l1 := []) h
  · exact (zrem_mid (l2 := []) h).trans (List.append_nil r)

theorem mem_pop : e ∈ z := by
  subst hz
  cases max <;> simp

theorem slice_pop :
    slice z (if max then z.length - 1 else 0) (if max then z.length - 1 else 0) = [e] := by
  subst hz
  cases max
  · rfl
  · simp [slice]

theorem zpopN_succ (n : Nat) : zpopN max (n + 1) z = ((zpopN max n r).1, e :: (zpopN max n r).2) := by
  subst hz
  cases max
  · simp [zpopN]
  · simp only [zpopN, if_true, List.length_append, List.length_cons, List.length_nil]
    have h1 : r.length + (0 + 1) - (n + 1) = r.length - n := by omega
    rw [h1, List.take_append_of_le_length (by omega), List.drop_append_of_le_length (by omega)]
    simp

end Pop

theorem rangeIdx_pop (max : Bool) {len : Nat} (h : 0 < len) :
    rangeIdx len (if max then -1 else 0) (if max then -1 else 0) =
      some (if max then len - 1 else 0, if max then len - 1 else 0) := by
  cases max
  · simp only [Bool.false_eq_true, if_false]
    exact rangeIdx_eq_some.mpr (by rw [normIdx_zero]; omega)
  · simp only [if_true]
    exact rangeIdx_eq_some.mpr (by rw [normIdx_neg_one]; omega)

theorem zrange_pop {max : Bool} {z : ZSet} {e : Entry} {r : ZSet} (hz : z = if max then r ++ [e] else e :: r) :
    zrange z (if max then -1 else 0) (if max then -1 else 0) = [e] := by
  unfold zrange
  rw [rangeIdx_pop max (List.length_pos_of_mem (mem_pop hz))]
  exact slice_pop hz

theorem zpop_spec {max : Bool} {z : ZSet} {e : Entry} {r : ZSet} (h : WF z)
    (hp : (if max then zpopmax z else zpopmin z) = some (e, r)) :
    (∀ x ∈ r, (if max then entLt x e else entLt e x) = true) ∧ r = zrem e.2 z ∧
    zrange z (if max then -1 else 0) (if max then -1 else 0) = [e] := by
  rcases zpop_cases max z with ⟨_, hn⟩ | ⟨e', r', hz, hs⟩
  · rw [hn] at hp; cases hp
  · rw [hs] at hp
    cases hp
    refine ⟨?_, (zrem_pop hz h).symm, zrange_pop hz⟩
    subst hz
    cases max
    · exact (List.pairwise_cons.mp h.1).1
    · exact fun x hx => (List.pairwise_append.mp h.1).2.2 x hx e (by simp)

end Spec

theorem zrangeDev_pop (max : Bool) {len : Nat} (hl : 0 < len) :
    zrangeDev false len (if max then -1 else 0) (if max then -1 else 0) = false := by
  cases max <;>
    simp only [Bool.false_eq_true, if_false, if_true, zrangeDev_fwd hl, normIdx_zero, normIdx_neg_one] <;> omega

/-- One iteration of the handlers' pop loop pops as the Spec does, whatever `fixed` is
    (`0 0` and `-1 -1` are never deviating ranges). -/
theorem zpop_refines {k : ZKey} (hk : KeyInv k) (fixed max : Bool) :
    match (if max then Spec.zpopmax (absKey k) else Spec.zpopmin (absKey k)) with
    | none => Code.zpop fixed max k = (k, none)
    | some (e, r) => (Code.zpop fixed max k).2 = some (lift e) ∧
        absKey (Code.zpop fixed max k).1 = r ∧ KeyInv (Code.zpop fixed max k).1 := by
  have hw := wf_absKey hk
  unfold Code.zpop
  rcases Spec.zpop_cases max (absKey k) with ⟨hz, hp⟩ | ⟨e, r, hz, hp⟩
  · rw [hp]
    have : k = none := (keyInv_absKey_nil hk).mp hz
    subst this
    rfl
  · have hpos := zcard_pos_of_ne hk (List.ne_nil_of_mem (Spec.mem_pop hz))
    have hr := zrem_refines hk e.2
    have hs : (Spec.zscore e.2 (absKey k)).isSome = true := by
      rw [(Spec.zscore_eq_some hw).mpr (Spec.mem_pop hz)]; rfl
    rw [hp, zrange_refines hk fixed false _ _ (Or.inr (zrangeDev_pop max hpos))]
    simp only [Bool.false_eq_true, if_false, Spec.zrange_pop hz, List.map_cons, List.map_nil, lift]
    rw [hr.2.2, hs]
    exact ⟨rfl, hr.2.1.trans (Spec.zrem_pop hz hw), hr.1⟩

theorem Spec.wf_zaddAll : ∀ (vs : List (Score × Bytes)) {z : Spec.ZSet}, Spec.WF z → Spec.WF (Spec.zaddAll vs z)
  | [], _, h => h
  | p :: vs, _, h => Spec.wf_zaddAll vs (Spec.wf_zadd h p.2 p.1)

def badPair (p : Option CScore × Bytes) : Bool := decide (p.1 = none) || decide (p.1 = some CScore.nan)

theorem validPairs_none_iff : ∀ (ps : List (Option CScore × Bytes)),
    Spec.validPairs ps = none ↔ ps.any badPair = true
  | [] => by simp [Spec.validPairs]
  | (none, m) :: r => by simp [Spec.validPairs, badPair]
  | (some .nan, m) :: r => by simp [Spec.validPairs, badPair]
  | (some (.num s), m) :: r => by
    simp [Spec.validPairs, badPair, validPairs_none_iff r]

theorem zaddCmd_eq_zaddMany (fixed : Bool) : ∀ (ps : List (Option CScore × Bytes)) (vs : List (Score × Bytes))
    (hs : List Nat) (k : ZKey) (n : Nat), Spec.validPairs ps = some vs →
    Code.zaddCmd fixed hs ps k n = ((Code.zaddMany hs vs k n).1, some (Code.zaddMany hs vs k n).2)
  | [], vs, hs, k, n, hv => by
    cases hv
    rfl
  | (none, m) :: r, vs, hs, k, n, hv => by cases hv
  | (some .nan, m) :: r, vs, hs, k, n, hv => by cases hv
  | (some (.num s), m) :: r, vs, hs, k, n, hv => by
    simp only [Spec.validPairs, Option.map_eq_some_iff] at hv
    obtain ⟨vs', hv', rfl⟩ := hv
    have hany : r.any (fun p => decide (p.1 = none) || decide (p.1 = some CScore.nan)) = false := by
      cases ha : r.any badPair with
      | false => exact ha
      | true => rw [(validPairs_none_iff r).mpr ha] at hv'; cases hv'
    unfold Code.zaddCmd Code.zaddMany
    simp only [reduceCtorEq, decide_false, hany, Bool.or_false, Bool.and_false, Bool.false_eq_true, if_false]
    exact zaddCmd_eq_zaddMany fixed r vs' _ _ _ hv'

theorem zaddCmd_fixed_refuses (ps : List (Option CScore × Bytes)) (hs : List Nat) (k : ZKey) (n : Nat)
    (hne : ps ≠ []) (hv : Spec.validPairs ps = none) : Code.zaddCmd true hs ps k n = (k, none) := by
  cases ps with
  | nil => exact absurd rfl hne
  | cons p r =>
    obtain ⟨sc, m⟩ := p
    cases sc with
    | none => rfl
    | some s =>
      cases s with
      | nan => simp [Code.zaddCmd]
      | num s =>
        have : Spec.validPairs r = none := by
          simp only [Spec.validPairs, Option.map_eq_none_iff] at hv
          exact hv
        have ha := (validPairs_none_iff r).mp this
        unfold badPair at ha
        simp [Code.zaddCmd, ha]

theorem applyCmd_refines {k : ZKey} (hk : KeyInv k) (fixed : Bool) (c : Cmd) :
    KeyInv (Code.applyCmd fixed k c) ∧ absKey (Code.applyCmd fixed k c) = Spec.applyCmd (absKey k) c := by
  have pop : ∀ max : Bool, KeyInv (Code.zpop fixed max k).1 ∧ absKey (Code.zpop fixed max k).1 =
      match (if max then Spec.zpopmax (absKey k) else Spec.zpopmin (absKey k)) with
      | none => absKey k
      | some (_, r) => r := by
    intro max
    have h := zpop_refines hk fixed max
    cases hz : (if max then Spec.zpopmax (absKey k) else Spec.zpopmin (absKey k)) with
    | none => rw [hz] at h; simp only at h; rw [h]; exact ⟨hk, rfl⟩
    | some p => rw [hz] at h; exact ⟨h.2.2, h.2.1⟩
  cases c with
  | zadd h m s => exact ⟨(zadd_refines hk h m s).1, (zadd_refines hk h m s).2.1⟩
  | zincrby h m sum => exact ⟨(zadd_refines hk h m sum).1, (zadd_refines hk h m sum).2.1⟩
  | zrem m => exact ⟨(zrem_refines hk m).1, (zrem_refines hk m).2.1⟩
  | popmin => exact pop false
  | popmax => exact pop true

theorem runCmds_refines_from (fixed : Bool) (cs : List Cmd) : ∀ (k : ZKey), KeyInv k →
    KeyInv (cs.foldl (Code.applyCmd fixed) k) ∧
    absKey (cs.foldl (Code.applyCmd fixed) k) = cs.foldl Spec.applyCmd (absKey k) := by
  induction cs with
  | nil => intro k hk; exact ⟨hk, rfl⟩
  | cons c cs ih =>
    intro k hk
    have h1 := applyCmd_refines hk fixed c
    have h2 := ih _ h1.1
    simp only [List.foldl_cons]
    exact ⟨h2.1, by rw [h2.2, h1.2]⟩

/-- What the queries read: level 0, the key index and the length. -/
def obs (sl : SkipList) : List CEntry × List (Bytes × CScore) × Nat := (level0 sl, sl.keyIndex, sl.length)

theorem removeNode_keyIndex (m : Bytes) (s : CScore) (sl : SkipList) :
    (removeNode m s sl).keyIndex = sl.keyIndex := by
  unfold removeNode
  split
  · rfl
  · split <;> rfl

theorem keyIndex_insert (ht : Nat) (m : Bytes) (s : CScore) (sl : SkipList) :
    (Code.insert ht m s sl).1.keyIndex = idxSet m s sl.keyIndex := by
  unfold Code.insert
  split <;> simp [insertNode, removeNode_keyIndex]

theorem keyIndex_remove (m : Bytes) (sl : SkipList) :
    (remove m sl).1.keyIndex = match idxGet m sl.keyIndex with
      | none => sl.keyIndex
      | some _ => idxDel m sl.keyIndex := by
  unfold remove
  split <;> simp [removeNode_keyIndex, *]

theorem obs_eq {a b : SkipList} (ha : Inv a) (hb : Inv b) (h0 : level0 a = level0 b)
    (hi : a.keyIndex = b.keyIndex) : obs a = obs b := by
  simp only [obs, ha.len, hb.len, h0, hi]

theorem obs_insert {sl sl' : SkipList} (h : Inv sl) (h' : Inv sl') (e : obs sl = obs sl')
    (a b : Nat) (m : Bytes) (s : Score) :
    obs (Code.insert a m (.num s) sl).1 = obs (Code.insert b m (.num s) sl').1 ∧
    (Code.insert a m (.num s) sl).2 = (Code.insert b m (.num s) sl').2 := by
  simp only [obs, Prod.mk.injEq] at e
  obtain ⟨e0, ei, _⟩ := e
  refine ⟨obs_eq (inv_insert h a m s) (inv_insert h' b m s) ?_ ?_, ?_⟩
  · rw [level0_insert h, level0_insert h', e0]
  · rw [keyIndex_insert, keyIndex_insert, ei]
  · rw [(insert_eq h a m s).2, (insert_eq h' b m s).2, remove_old, remove_old, getScore, getScore, ei]

theorem obs_remove {sl sl' : SkipList} (h : Inv sl) (h' : Inv sl') (e : obs sl = obs sl') (m : Bytes) :
    obs (remove m sl).1 = obs (remove m sl').1 ∧ (remove m sl).2 = (remove m sl').2 := by
  simp only [obs, Prod.mk.injEq] at e
  obtain ⟨e0, ei, _⟩ := e
  refine ⟨obs_eq (inv_remove h m) (inv_remove h' m) ?_ ?_, ?_⟩
  · rw [level0_remove h, level0_remove h', e0]
  · rw [keyIndex_remove, keyIndex_remove, ei]
  · rw [remove_old, remove_old, getScore, getScore, ei]

/-- `zadd_many` applies every pair in order; the count it returns, added to the members there were,
    is the number of members there are. -/
theorem zaddMany_refines : ∀ (vs : List (Score × Bytes)) (hs : List Nat) (k : ZKey) (n : Nat), KeyInv k →
    KeyInv (Code.zaddMany hs vs k n).1 ∧
    absKey (Code.zaddMany hs vs k n).1 = Spec.zaddAll vs (absKey k) ∧
    (Code.zaddMany hs vs k n).2 + (absKey k).length = n + (Spec.zaddAll vs (absKey k)).length
  | [], hs, k, n, hk => ⟨hk, rfl, Nat.add_comm _ _ ▸ rfl⟩
  | (s, m) :: vs, hs, k, n, hk => by
    have hz := zadd_refines hk (hs.headD 0) m s
    have ih := zaddMany_refines vs hs.tail (Code.zadd (hs.headD 0) m (.num s) k).1
      (if (Code.zadd (hs.headD 0) m (.num s) k).2 = true then n + 1 else n) hz.1
    have hl := Spec.length_zadd (wf_absKey hk) m s
    unfold Code.zaddMany
    refine ⟨ih.1, by rw [ih.2.1, hz.2.1]; rfl, ?_⟩
    have h2 := ih.2.2
    rw [hz.2.1] at h2
    rw [← hz.2.2] at hl
    show (Code.zaddMany hs.tail vs _ _).2 + _ = n + (Spec.zaddAll vs (Spec.zadd m s (absKey k))).length
    cases hsc : (Code.zadd (hs.headD 0) m (.num s) k).2 <;>
      simp only [hsc, Bool.false_eq_true, if_false, if_true] at hl h2 ⊢ <;> omega

theorem Spec.zremAll_nil (ms : List Bytes) : Spec.zremAll ms [] = [] := by
  induction ms with
  | nil => rfl
  | cons m ms ih => exact ih

theorem Spec.wf_zremAll : ∀ (ms : List Bytes) {z : Spec.ZSet}, Spec.WF z → Spec.WF (Spec.zremAll ms z)
  | [], _, h => h
  | m :: ms, _, h => Spec.wf_zremAll ms (Spec.wf_zrem h m)

/-- `zrem_many` removes the members one after the other; the count it returns, added to the members that
    remain, is the number of members there were. -/
theorem zremMany_refines : ∀ (ms : List Bytes) (k : ZKey) (n : Nat), KeyInv k →
    KeyInv (Code.zremMany ms k n).1 ∧
    absKey (Code.zremMany ms k n).1 = Spec.zremAll ms (absKey k) ∧
    (Code.zremMany ms k n).2 + (Spec.zremAll ms (absKey k)).length = n + (absKey k).length
  | [], k, n, hk => ⟨hk, rfl, rfl⟩
  | m :: ms, none, n, _ => by
    simp [Code.zremMany, absKey, Spec.zremAll_nil, keyInv_none]
  | m :: ms, some sl, n, hk => by
    have hz := zrem_refines hk m
    have ih := zremMany_refines ms (Code.zrem m (some sl)).1
      (if (Code.zrem m (some sl)).2 = true then n + 1 else n) hz.1
    have hl := Spec.length_zrem (wf_absKey hk) m
    unfold Code.zremMany
    refine ⟨ih.1, by rw [ih.2.1, hz.2.1]; rfl, ?_⟩
    have h2 := ih.2.2
    rw [hz.2.1] at h2
    rw [← hz.2.2] at hl
    show (Code.zremMany ms _ _).2 + (Spec.zremAll ms (Spec.zrem m (absKey (some sl)))).length = _
    cases hsc : (Code.zrem m (some sl)).2
    · simp only [hsc, Bool.false_eq_true, if_false] at hl h2 ⊢
      omega
    · have hpos : 0 < (absKey (some sl)).length := by
        cases hz' : Spec.zscore m (absKey (some sl)) with
        | none => rw [hz.2.2, hz'] at hsc; cases hsc
        | some s0 => exact List.length_pos_of_mem (Spec.zscore_some_mem hz')
      simp only [hsc, if_true] at hl h2 ⊢
      omega

theorem rangeByRank_refines {sl : SkipList} (h : Inv sl) {a b : Nat} (ha : a < sl.length) (hb : b < sl.length)
    (hab : a ≤ b) : rangeByRank a b sl = (slice (abs sl) a b).map lift := by
  rw [rangeByRank_norm sl h.len, normIv_clamped ha hb, if_neg (by omega)]
  show slice (level0 sl) a b = _
  rw [level0_eq_lift_abs h, slice_map]

theorem zpopStep_refines {k : ZKey} (hk : KeyInv k) (max : Bool) :
    match (if max then Spec.zpopmax (absKey k) else Spec.zpopmin (absKey k)) with
    | none => Code.zpopStep max k = none
    | some (e, r) => ∃ k', Code.zpopStep max k = some (lift e, k') ∧ absKey k' = r ∧ KeyInv k' := by
  rcases Spec.zpop_cases max (absKey k) with ⟨hz, hp⟩ | ⟨e, r, hz, hp⟩
  · rw [hp]
    have : k = none := (keyInv_absKey_nil hk).mp hz
    subst this
    rfl
  · rw [hp]
    cases k with
    | none => exact absurd rfl (List.ne_nil_of_mem (Spec.mem_pop hz))
    | some sl =>
      have h := (hk sl rfl).1
      have hz : abs sl = if max then r ++ [e] else e :: r := hz
      have hpos : 0 < sl.length := by rw [← abs_length h]; exact List.length_pos_of_mem (Spec.mem_pop hz)
      have hr : rangeByRank (if max then sl.length - 1 else 0) (if max then sl.length - 1 else 0) sl = [lift e] := by
        have hj : (if max then sl.length - 1 else 0) < sl.length := by cases max <;> simp <;> omega
        rw [rangeByRank_refines h hj hj (Nat.le_refl _), ← abs_length h, Spec.slice_pop hz]
        rfl
      have hzr := zrem_refines hk e.2
      have hs : (remove e.2 sl).2.isSome = true := by
        rw [remove_old, getScore_refines h, (Spec.zscore_eq_some (abs_wf h)).mpr (Spec.mem_pop hz)]; rfl
      refine ⟨(Code.zrem e.2 (some sl)).1, ?_, hzr.2.1.trans (Spec.zrem_pop hz (abs_wf h)), hzr.1⟩
      have hz0 : (sl.length == 0) = false := by simp; omega
      simp only [Code.zpopStep, hz0, Bool.false_eq_true, if_false, hr, List.head?_cons, Code.zrem, hs, if_true]
      rfl

theorem zpopMany_refines (max : Bool) : ∀ (n : Nat) (k : ZKey) (acc : List CEntry), KeyInv k →
    KeyInv (Code.zpopMany max n k acc).1 ∧
    absKey (Code.zpopMany max n k acc).1 = (Spec.zpopN max n (absKey k)).1 ∧
    (Code.zpopMany max n k acc).2 = acc ++ ((Spec.zpopN max n (absKey k)).2).map lift
  | 0, k, acc, hk => by
    cases max <;> simp [Code.zpopMany, Spec.zpopN, hk]
  | n + 1, k, acc, hk => by
    have hs := zpopStep_refines hk max
    unfold Code.zpopMany
    rcases Spec.zpop_cases max (absKey k) with ⟨hz, hp⟩ | ⟨e, r, hz, hp⟩
    · rw [hp] at hs
      rw [hs, hz]
      cases max <;> simp [Spec.zpopN, hk]
    · rw [hp] at hs
      obtain ⟨k', hk1, hk2, hk3⟩ := hs
      have ih := zpopMany_refines max n k' (acc ++ [lift e]) hk3
      rw [hk1, Spec.zpopN_succ hz, ← hk2]
      refine ⟨ih.1, ih.2.1, ?_⟩
      rw [ih.2.2]; simp

end Ferrous.ZSet
