/-
  C18 — the connection machine touches the store only through `access`; which database every access uses;
  what a request of one connection can change in the others.  Valid for EVERY setting of the switches.
-/
import FerrousSpec.Proofs.DbsFrame
namespace Ferrous.Dbs
open Ferrous Ferrous.KS

/-- `st'` was reached from `st` by store accesses that all satisfy `P` (and by nothing else that touches the store) -/
def Logs (q : Quirks) (P : Access → Prop) (st st' : State) : Prop :=
  ∃ as, st'.log = st.log ++ as ∧ st'.store = runAcc q st.store as ∧ ∀ a ∈ as, P a

variable {q : Quirks} {P Q : Access → Prop} {D E : Nat → Prop} {i c : Nat} {ns : Bool} {st st' a b d : State}

theorem Logs.of_eq (hl : st'.log = st.log) (hs : st'.store = st.store) :
    Logs q P st st' := ⟨[], by simp [hl], by simp [hs, runAcc], by simp⟩

theorem Logs.refl (st : State) : Logs q P st st := Logs.of_eq rfl rfl

theorem Logs.trans : Logs q P a b → Logs q P b d → Logs q P a d := by
  rintro ⟨as, h1, h2, h3⟩ ⟨bs, g1, g2, g3⟩
  refine ⟨as ++ bs, by rw [g1, h1, List.append_assoc], by rw [g2, h2, runAcc_append], ?_⟩
  intro x hx
  rcases List.mem_append.mp hx with h | h
  · exact h3 x h
  · exact g3 x h

theorem Logs.access (st : State) (a : Access) (h : P a) : Logs q P st (access q st a).1 :=
  ⟨[a], rfl, rfl, by simp [h]⟩

theorem Logs.mono (h : ∀ x, P x → Q x) : Logs q P a b → Logs q Q a b := by
  rintro ⟨as, h1, h2, h3⟩
  exact ⟨as, h1, h2, fun x hx => h x (h3 x hx)⟩

theorem Logs.frame {j : Nat} (h : Logs q (fun x => concerns j x = false) a b) :
    getDb b.store j = getDb a.store j := by
  obtain ⟨as, _, s1, p1⟩ := h
  rw [s1]
  exact runAcc_frame q a.store j as p1

def SameCore (a b : Conn) : Prop := a.db = b.db ∧ a.inMulti = b.inMulti ∧ a.queue = b.queue

def Cores (st st' : State) : Prop := ∀ d, SameCore (st'.conns d) (st.conns d)

theorem Cores.of_eq (h : st'.conns = st.conns) : Cores st st' := by
  intro d; rw [h]; exact ⟨rfl, rfl, rfl⟩

theorem SameCore.trans {x y z : Conn} (h1 : SameCore y x) (h2 : SameCore z y) : SameCore z x :=
  ⟨h2.1.trans h1.1, h2.2.1.trans h1.2.1, h2.2.2.trans h1.2.2⟩

theorem Cores.trans (h1 : Cores a b) (h2 : Cores b d) : Cores a d := fun e => (h1 e).trans (h2 e)

theorem Cores.blocked (st : State) (d : Nat) (b : Bool) : Cores st (updConn st d fun x => { x with blocked := b }) := by
  intro e
  simp only [updConn]
  by_cases h : e = d <;> simp [h, SameCore]

def Others (c : Nat) (st st' : State) : Prop := ∀ c', c' ≠ c → SameCore (st'.conns c') (st.conns c')

theorem Cores.others (c : Nat) (h : Cores st st') : Others c st st' := fun d _ => h d

theorem Others.trans (h1 : Others c a b) (h2 : Others c b d) : Others c a d := fun e he => (h1 e he).trans (h2 e he)

theorem Others.updConn (c : Nat) (st : State) (f : Conn → Conn) : Others c st (updConn st c f) := by
  intro c' hc; simp [Dbs.updConn, hc]; exact ⟨rfl, rfl, rfl⟩

def Tr (q : Quirks) (P : Access → Prop) (c : Nat) (st st' : State) : Prop := Logs q P st st' ∧ Others c st st'

theorem exec_cases {motive : State × Out → Prop} (w : Switches) (q : Quirks) (st : State) (now c : Nat) (r : Req)
    (same : ∀ o, motive (st, o))
    (upd : ∀ (f : Conn → Conn) o, (∀ x, (f x).db = x.db) → motive (updConn st c f, o))
    (queue : reqName r = "EXEC" →
      ∀ x, x = execQueue w q c now (updConn st c fun x => { x with inMulti := false, queue := [] }) (st.conns c).queue →
      motive ({ processWakes q now x.1 with outbox := [] }, ⟨some (.array x.2), (processWakes q now x.1).outbox⟩))
    (direct : ∀ x, x = dispatch w q st c now false r →
      motive ({ processWakes q now x.1 with outbox := [] }, ⟨x.2, (processWakes q now x.1).outbox⟩)) :
    motive (exec w q st now c r) := by
  -- one `if` at a time, so that `split` only ever sees the small inner one
  unfold exec
  by_cases h0 : (st.conns c).blocked = true
  · rw [if_pos h0]; exact same _
  rw [if_neg h0]
  by_cases h1 : reqName r = "MULTI"
  · rw [if_pos h1]
    split
    · exact same _
    · exact upd _ _ (fun _ => rfl)
  rw [if_neg h1]
  by_cases h2 : reqName r = "DISCARD"
  · rw [if_pos h2]
    split
    · exact upd _ _ (fun _ => rfl)
    · exact same _
  rw [if_neg h2]
  by_cases h3 : reqName r = "EXEC"
  · rw [if_pos h3]
    split
    · exact same _
    · exact queue h3 _ rfl
  rw [if_neg h3]
  split
  · exact upd _ _ (fun _ => rfl)
  · exact direct _ rfl

def Plain (D : Nat → Prop) (a : Access) : Prop :=
  a.db = a.sel ∧ D a.sel ∧ isFlushAll a.cmd = false ∧ ∀ b, a.path ≠ .script b

/-- what blocking pops and the wake-ups serving them do: pops on their prescribed databases (among `D`), outside scripts;
    selections, transactions and pending wake-ups stay -/
def Quiet (q : Quirks) (D : Nat → Prop) (st st' : State) : Prop :=
  Logs q (Plain D) st st' ∧ Cores st st' ∧ st'.wakes = st.wakes

theorem isFlushAll_false_of_ne {cmd : List Bytes} (h : nameOf cmd ≠ "FLUSHALL") : isFlushAll cmd = false := by
  simp [isFlushAll, h]

theorem popCmd_not_flushall (l : Bool) (k : Bytes) : isFlushAll (popCmd l k) = false := by
  apply isFlushAll_false_of_ne
  cases l <;> simp only [popCmd, nameOf, Bool.false_eq_true, if_false, if_true] <;> decide

theorem firstWaiter_db {ws : List Waiter} {db : Nat} {k : Bytes} {x : Waiter} (h : firstWaiter ws db k = some x) : x.db = db := by
  unfold firstWaiter at h
  have := List.find?_some h
  simp only [Bool.and_eq_true, beq_iff_eq] at this
  exact this.1

theorem path_not_script (inExec b : Bool) : (if inExec then Path.exec else Path.direct) ≠ Path.script b := by
  cases inExec <;> simp

theorem Quiet.refl (st : State) : Quiet q D st st := ⟨Logs.refl st, Cores.of_eq rfl, rfl⟩

theorem Quiet.trans (h1 : Quiet q D a b) (h2 : Quiet q D b d) : Quiet q D a d :=
  ⟨h1.1.trans h2.1, h1.2.1.trans h2.2.1, h2.2.2.trans h1.2.2⟩

theorem Quiet.mono (h : ∀ d, D d → E d) (hq : Quiet q D a b) : Quiet q E a b :=
  ⟨hq.1.mono fun _ ha => ⟨ha.1, h _ ha.2.1, ha.2.2⟩, hq.2⟩

theorem Quiet.pop (st : State) (d c now : Nat) (left : Bool) (k : Bytes) (path : Path)
    (hd : D d) (hp : ∀ b, path ≠ .script b) :
    Quiet q D st (access q st { db := d, sel := d, conn := c, path := path, now := now, cmd := popCmd left k, obs := none }).1 :=
  ⟨Logs.access st _ ⟨rfl, hd, popCmd_not_flushall left k, hp⟩, Cores.of_eq rfl, rfl⟩

theorem Quiet.blocked (st : State) (e : Nat) (f : Bool) (ws : List Waiter) (o : List (Nat × Frame)) :
    Quiet q D st { updConn st e (fun x => { x with blocked := f }) with waiting := ws, outbox := o } :=
  ⟨Logs.of_eq rfl rfl, Cores.blocked st e f, rfl⟩

section Q
variable (q : Quirks)

theorem tryPops_quiet (c : Nat) (path : Path) (hpath : ∀ b, path ≠ .script b) (now : Nat) (left : Bool) (keys : List Bytes) :
    ∀ (st : State), Quiet q (· = (st.conns c).db) st (tryPops q c path now left st keys).1 := by
  induction keys with
  | nil => intro st; exact Quiet.refl st
  | cons k rest ih =>
    intro st
    have h := Quiet.pop (q := q) (D := (· = (st.conns c).db)) st (st.conns c).db c now left k path rfl hpath
    simp only [tryPops]
    split
    · exact h
    · exact h.trans (ih _)
    · exact h

theorem doBpop_quiet (st : State) (c now : Nat) (inExec left : Bool) (args : List Bytes) :
    Quiet q (· = (st.conns c).db) st (doBpop q st c now inExec left args).1 := by
  have h := tryPops_quiet q c _ (path_not_script inExec) now left args.dropLast st
  unfold doBpop
  split
  · exact Quiet.refl st
  · split
    · exact Quiet.refl st
    · dsimp only
      split
      · exact h
      · cases inExec
        · exact h.trans (Quiet.blocked _ c true _ _)
        · exact h

theorem serveKey_quiet (now db : Nat) (k : Bytes) (f : Nat) : ∀ (st : State), Quiet q (· = db) st (serveKey q now db k f st) := by
  induction f with
  | zero => intro st; exact Quiet.refl st
  | succ f ih =>
    intro st
    simp only [serveKey]
    split
    · exact Quiet.refl st
    · rename_i x hx
      have h := Quiet.pop (q := q) (D := (· = db)) st x.db x.conn now x.left k .served (firstWaiter_db hx) (fun _ => Path.noConfusion)
      split
      · refine h.trans (Quiet.trans ?_ (ih _))
        exact Quiet.blocked _ x.conn false _ _
      · exact h

theorem sweepKeys_quiet (now db : Nat) (ks : List Bytes) : ∀ (st : State), Quiet q (· = db) st (sweepKeys q now db ks st) := by
  induction ks with
  | nil => intro st; exact Quiet.refl st
  | cons k r ih => intro st; exact (serveKey_quiet q now db k _ st).trans (ih _)

theorem servePushed_quiet (now : Nat) (wks : List Wake) (hD : ∀ wk ∈ wks, D wk.db) :
    ∀ (st : State), Quiet q D st (servePushed q now wks st) := by
  induction wks with
  | nil => intro st; exact Quiet.refl st
  | cons wk r ih =>
    intro st
    have ih' := ih fun x hx => hD x (List.mem_cons_of_mem wk hx)
    simp only [servePushed]
    split
    · exact ((serveKey_quiet q now wk.db _ _ st).mono fun d e => e ▸ hD wk List.mem_cons_self).trans (ih' _)
    · exact ih' _

theorem serveSwept_quiet (now : Nat) (wks : List Wake) (hD : ∀ wk ∈ wks, D wk.db) :
    ∀ (st : State), Quiet q D st (serveSwept q now wks st) := by
  induction wks with
  | nil => intro st; exact Quiet.refl st
  | cons wk r ih =>
    intro st
    have ih' := ih fun x hx => hD x (List.mem_cons_of_mem wk hx)
    simp only [serveSwept]
    split
    · exact ih' _
    · exact ((sweepKeys_quiet q now wk.db _ st).mono fun d e => e ▸ hD wk List.mem_cons_self).trans (ih' _)

theorem processWakes_quiet (now : Nat) (st : State) :
    Logs q (Plain fun d => ∃ wk ∈ st.wakes, wk.db = d) st (processWakes q now st) ∧ Cores st (processWakes q now st) ∧
      (processWakes q now st).wakes = [] :=
  have hD : ∀ wk ∈ st.wakes, ∃ x ∈ st.wakes, x.db = wk.db := fun wk h => ⟨wk, h, rfl⟩
  (servePushed_quiet q now st.wakes hD { st with wakes := [] }).trans (serveSwept_quiet q now st.wakes hD _)

end Q

/-- Every access uses the prescribed database `sel`, except at the two places the switches describe. -/
def Disc (w : Switches) (a : Access) : Prop :=
  a.db = a.sel ∨
  (w.evalshaDb0 = true ∧ a.path = .script true ∧ a.db = 0) ∨
  (w.scriptDbCmdsDb0 = true ∧ (∃ b, a.path = .script b) ∧ scriptDbCmds.contains (nameOf a.cmd) = true ∧ a.db = 0)

theorem disc_script (w : Switches) (sel c now : Nat) (sha : Bool) (cmd : List Bytes) :
    Disc w { db := scriptCmdDb w (scriptDb w sel sha) cmd, sel := sel, conn := c, path := .script sha, now := now, cmd := cmd, obs := none } := by
  unfold Disc scriptCmdDb scriptDb
  cases hs : w.scriptDbCmdsDb0 <;> cases hc : scriptDbCmds.contains (nameOf cmd) <;> cases he : w.evalshaDb0 <;> cases sha <;> simp

theorem Disc.fixed {a : Access} (h : Disc Switches.fixed a) : a.db = a.sel := by
  rcases h with h | h | h
  · exact h
  · exact absurd h.1 Bool.false_ne_true
  · exact absurd h.1 Bool.false_ne_true

def PB (i : Nat) (ns : Bool) (a : Access) : Prop :=
  a.sel = i ∧ isFlushAll a.cmd = false ∧ (ns = true → ∀ b, a.path ≠ .script b)

/-- a request that neither selects nor flushes everything; with `ns` also: not a script -/
def Clean (ns : Bool) : Req → Prop
  | .plain a _ => nameOf a ≠ "SELECT" ∧ nameOf a ≠ "FLUSHALL"
  | .script _ cmds _ => ns = false ∧ ∀ x ∈ cmds, nameOf x ≠ "FLUSHALL"

def Stay (i c : Nat) (st : State) : Prop := (st.conns c).db = i ∧ ∀ wk ∈ st.wakes, wk.db = i

/-- outside the deviations — database 0 selected, or no script — the discipline puts the access on its prescribed database -/
theorem Disc.db_eq {w : Switches} {x : Access} (hd : Disc w x) (hp : PB i ns x) (hex : i = 0 ∨ ns = true) : x.db = i := by
  rcases hd with h | h | h
  · rw [h, hp.1]
  · rcases hex with h0 | h1
    · rw [h.2.2, h0]
    · exact absurd h.2.1 (hp.2.2 h1 true)
  · rcases hex with h0 | h1
    · rw [h.2.2.2, h0]
    · obtain ⟨b, hb⟩ := h.2.1
      exact absurd hb (hp.2.2 h1 b)

/-- What a step of connection `c` does, both descriptions in one traversal of the machine.  Always: every access obeys
    the discipline of the switches and the other connections keep their selection.  Under `G` — the lemmas below take it as
    "the request is `Clean` and `c` stays on database `i`" — also: every access is prescribed database `i` and `c` still
    stays there.  `G := False` is the unconditional statement, `G := True` the frame rule. -/
def Step (w : Switches) (q : Quirks) (i : Nat) (ns : Bool) (c : Nat) (G : Prop) (st st' : State) : Prop :=
  Logs q (fun a => Disc w a ∧ (G → PB i ns a)) st st' ∧ Others c st st' ∧ (G → Stay i c st')

variable {w : Switches} {G : Prop}

theorem Step.refl (h : G → Stay i c st) : Step w q i ns c G st st := ⟨Logs.refl st, (Cores.of_eq rfl).others c, h⟩

theorem Step.trans (h1 : Step w q i ns c G a b) (h2 : (G → Stay i c b) → Step w q i ns c G b d) : Step w q i ns c G a d :=
  ⟨h1.1.trans (h2 h1.2.2).1, h1.2.1.trans (h2 h1.2.2).2.1, (h2 h1.2.2).2.2⟩

theorem Step.access (x : Access) (h : G → Stay i c st) (hd : Disc w x) (hp : G → PB i ns x) :
    Step w q i ns c G st (access q st x).1 := ⟨Logs.access st x ⟨hd, hp⟩, (Cores.of_eq rfl).others c, h⟩

/-- a command of `c` on the database it has selected, outside scripts -/
theorem Step.own (path : Path) (hpath : ∀ b, path ≠ .script b) (now : Nat) (cmd : List Bytes) (obs : Option (List Bytes))
    (hf : G → isFlushAll cmd = false) (h : G → Stay i c st) :
    Step w q i ns c G st (Dbs.access q st { db := (st.conns c).db, sel := (st.conns c).db, conn := c, path := path, now := now,
                                            cmd := cmd, obs := obs }).1 :=
  Step.access _ h (Or.inl rfl) fun g => ⟨(h g).1, hf g, fun _ => hpath⟩

theorem Step.wake (k : Option Bytes) (db : Nat) (hdb : G → db = i) (h : G → Stay i c st) :
    Step w q i ns c G st { st with wakes := st.wakes ++ [{ db := db, key := k }] } := by
  refine ⟨Logs.of_eq rfl rfl, (Cores.of_eq rfl).others c, fun g => ⟨(h g).1, fun wk hwk => ?_⟩⟩
  rcases List.mem_append.mp hwk with hwk | hwk
  · exact (h g).2 wk hwk
  · rw [List.mem_singleton.mp hwk, hdb g]

theorem Step.updConn (f : Conn → Conn) (hf : G → ∀ x, (f x).db = x.db) (h : G → Stay i c st) :
    Step w q i ns c G st (updConn st c f) := by
  refine ⟨Logs.of_eq rfl rfl, Others.updConn c st f, fun g => ⟨?_, (h g).2⟩⟩
  simp only [Dbs.updConn, if_true, hf g]
  exact (h g).1

theorem Plain.pb (ns : Bool) {x : Access} (hD : ∀ d, D d → d = i) (h : Plain D x) : PB i ns x :=
  ⟨hD _ h.2.1, h.2.2.1, fun _ => h.2.2.2⟩

theorem Quiet.step (hq : Quiet q D st st') (hD : G → ∀ d, D d → d = i) (h : G → Stay i c st) : Step w q i ns c G st st' :=
  ⟨hq.1.mono fun _ hx => ⟨Or.inl hx.1, fun g => hx.pb ns (hD g)⟩, hq.2.1.others c,
    fun g => ⟨(hq.2.1 c).1.trans (h g).1, hq.2.2 ▸ (h g).2⟩⟩

section A
variable (w : Switches) (q : Quirks) (i : Nat) (ns : Bool) (c : Nat) (G : Prop)

theorem doSelect_step (st : State) (args : List Bytes) (eff : Bool) (hG : ¬ G) :
    Step w q i ns c G st (doSelect st c args eff).1 := by
  have no {p : Prop} : G → p := fun g => absurd g hG
  unfold doSelect
  split
  · exact Step.refl no
  · dsimp only
    split
    · exact Step.updConn _ no no
    · exact Step.refl no

theorem runScript_step (sel : Nat) (hsel : G → sel = i) (sha : Bool) (now : Nat) (hns : G → ns = false) (cmds : List (List Bytes))
    (hc : G → ∀ x ∈ cmds, nameOf x ≠ "FLUSHALL") :
    ∀ (st : State) (pcs : List Bool) (last : Frame), (G → Stay i c st) →
      Step w q i ns c G st (runScript w q c sel sha now st cmds pcs last).1 := by
  induction cmds with
  | nil => intro st pcs last h; exact Step.refl h
  | cons cmd rest ih =>
    intro st pcs last h
    have ha := Step.access (q := q) (st := st) _ h (disc_script w sel c now sha cmd) fun g =>
      ⟨hsel g, isFlushAll_false_of_ne (hc g cmd List.mem_cons_self), fun h' => absurd (hns g ▸ h') Bool.false_ne_true⟩
    have hc' : G → ∀ x ∈ rest, nameOf x ≠ "FLUSHALL" := fun g x hx => hc g x (List.mem_cons_of_mem _ hx)
    simp only [runScript]
    split
    · split
      · exact ih hc' _ _ _ h
      · exact Step.refl h
    · split
      · exact ha
      · exact ha.trans (fun h' => ih hc' _ _ _ h')

theorem processWakes_step (st : State) (now : Nat) (o : List (Nat × Frame)) (h : G → Stay i c st) :
    Step w q i ns c G st { processWakes q now st with outbox := o } := by
  obtain ⟨hl, hc, hw⟩ := processWakes_quiet q now st
  exact ⟨hl.mono fun _ hx => ⟨Or.inl hx.1, fun g => hx.pb ns fun d ⟨wk, hwk, e⟩ => e ▸ (h g).2 wk hwk⟩, hc.others c,
    fun g => ⟨(hc c).1.trans (h g).1, by simp [hw]⟩⟩

theorem doPush_step (st : State) (now : Nat) (path : Path) (hpath : ∀ b, path ≠ .script b) (cmd : List Bytes)
    (hn : nameOf cmd = "LPUSH" ∨ nameOf cmd = "RPUSH") (h : G → Stay i c st) :
    Step w q i ns c G st (doPush q st c now path cmd).1 := by
  have ha := Step.own (w := w) (q := q) (ns := ns) path hpath now cmd none
    (fun _ => isFlushAll_false_of_ne (by rcases hn with e | e <;> rw [e] <;> decide)) h
  unfold doPush
  dsimp only
  split
  · split
    · split
      · exact ha.trans fun h' => Step.wake _ _ (fun g => (h g).1) h'
      · exact ha.trans ((serveKey_quiet q now _ _ _ _).step (fun g d e => e.trans (h g).1))
    · exact ha
  · exact ha

theorem afterSweep_step (st : State) (now db : Nat) (hdb : G → db = i) (inExec : Bool) (h : G → Stay i c st) :
    Step w q i ns c G st (afterSweep q st now db inExec) := by
  unfold afterSweep
  split
  · exact Step.refl h
  · split
    · exact Step.wake _ db hdb h
    · exact (sweepKeys_quiet q now db _ st).step (fun g d e => e.trans (hdb g)) h

theorem dispatch_step (st : State) (now : Nat) (inExec : Bool) (r : Req) (hr : G → Clean ns r) (h : G → Stay i c st) :
    Step w q i ns c G st (dispatch w q st c now inExec r).1 := by
  have hi : G → (st.conns c).db = i := fun g => (h g).1
  cases r with
  | script sha cmds pcs =>
    exact (runScript_step w q i ns c G _ hi sha now (fun g => (hr g).1) cmds (fun g => (hr g).2) st _ _ h).trans
      (fun h' => afterSweep_step w q i ns c G _ now _ hi inExec h')
  | plain a obs =>
    cases a with
    | nil => exact Step.refl h
    | cons n args =>
      have hb := fun left => (doBpop_quiet q st c now inExec left args).step (w := w) (ns := ns) (fun g d e => e.trans (hi g)) h
      have ha := Step.own (w := w) (q := q) (ns := ns) _ (path_not_script inExec) now (n :: args) obs
        (fun g => isFlushAll_false_of_ne (hr g).2) h
      -- `by_cases` and rewriting the conditions: `split` re-simplifies the rest of the chain at every `if`
      by_cases h1 : nameOf (n :: args) = "SELECT"
      · simp only [dispatch, h1, ↓reduceIte]
        exact doSelect_step w q i ns c G st args _ (fun g => (hr g).1 h1)
      by_cases h2 : nameOf (n :: args) = "BLPOP"
      · simp only [dispatch, h2, ↓reduceIte]
        exact hb true
      by_cases h3 : nameOf (n :: args) = "BRPOP"
      · simp only [dispatch, h3, ↓reduceIte]
        exact hb false
      by_cases h4 : nameOf (n :: args) = "LPUSH" ∨ nameOf (n :: args) = "RPUSH"
      · simp only [dispatch, h1, h2, h3, h4, ↓reduceIte]
        exact doPush_step w q i ns c G st now _ (path_not_script inExec) _ h4 h
      by_cases h5 : nameOf (n :: args) = "RENAME" ∨ nameOf (n :: args) = "RENAMENX"
      · simp only [dispatch, h1, h2, h3, h4, h5, ↓reduceIte]
        exact ha.trans (fun h' => afterSweep_step w q i ns c G _ now _ hi inExec h')
      · simp only [dispatch, h1, h2, h3, h4, h5, ↓reduceIte]
        exact ha

theorem execQueue_step (now : Nat) (rs : List Req) (hrs : G → ∀ r ∈ rs, Clean ns r) :
    ∀ (st : State), (G → Stay i c st) → Step w q i ns c G st (execQueue w q c now st rs).1 := by
  induction rs with
  | nil => intro st h; exact Step.refl h
  | cons r rest ih =>
    intro st h
    simp only [execQueue]
    exact (dispatch_step w q i ns c G st now true r (fun g => hrs g r List.mem_cons_self) h).trans
      (fun h' => ih (fun g x hx => hrs g x (List.mem_cons_of_mem _ hx)) _ h')

theorem exec_step (st : State) (now : Nat) (r : Req) (hr : G → Clean ns r)
    (hq : G → reqName r = "EXEC" → ∀ x ∈ (st.conns c).queue, Clean ns x) (h : G → Stay i c st) :
    Step w q i ns c G st (exec w q st now c r).1 := by
  refine exec_cases (motive := fun x => Step w q i ns c G st x.1) w q st now c r ?_ ?_ ?_ ?_
  · exact fun _ => Step.refl h
  · exact fun f _ hf => Step.updConn f (fun _ => hf) h
  · rintro he x rfl
    refine Step.trans (b := updConn st c fun x => { x with inMulti := false, queue := [] }) (Step.updConn _ (fun _ _ => rfl) h) (fun h' => ?_)
    exact (execQueue_step w q i ns c G now _ (fun g => hq g he) _ h').trans (fun h'' => processWakes_step w q i ns c G _ now [] h'')
  · rintro x rfl
    exact (dispatch_step w q i ns c G st now false r hr h).trans (fun h' => processWakes_step w q i ns c G _ now [] h')

end A

section T
variable (w : Switches) (q : Quirks)

theorem exec_tr (st : State) (now c : Nat) (r : Req) : Tr q (Disc w) c st (exec w q st now c r).1 :=
  have h := exec_step w q 0 false c False st now r False.elim False.elim False.elim
  ⟨h.1.mono fun _ hx => hx.1, h.2.1⟩

theorem stepEv_tr (st : State) (e : Dbs.Ev) : Tr q (Disc w) e.conn st (stepEv w q st e) := by
  have same : Tr q (Disc w) e.conn st st := ⟨Logs.refl st, (Cores.of_eq rfl).others _⟩
  cases e with
  | req now c r => exact exec_tr w q st now c r
  | timeout c =>
    simp only [stepEv, timeoutConn]
    split
    · exact ⟨Logs.of_eq rfl rfl, Others.updConn c (dropWaiters st c) fun x => { x with blocked := false }⟩
    · exact same
  | close c =>
    simp only [stepEv, closeConn]
    split
    · exact same
    · exact ⟨Logs.of_eq rfl rfl, Others.updConn c (dropWaiters st c) fun _ => {}⟩

theorem run_logs (evs : List Dbs.Ev) : ∀ (st : State), Logs q (Disc w) st (run w q st evs) := by
  induction evs with
  | nil => intro st; exact Logs.refl st
  | cons e rest ih =>
    intro st
    simp only [run, List.foldl_cons]
    exact (stepEv_tr w q st e).1.trans (ih _)

/-- Frame rule of the connection machine: when the discipline of `w` and the request together keep every access on
    database `i`, a request of a connection that has `i` selected leaves every other database untouched. -/
theorem exec_frame (i : Nat) (ns : Bool) (c : Nat) (st : State) (now j : Nat) (r : Req) (hr : Clean ns r)
    (hq : reqName r = "EXEC" → ∀ x ∈ (st.conns c).queue, Clean ns x) (h : Stay i c st)
    (hdb : ∀ a, Disc w a → PB i ns a → a.db = i) (hj : j ≠ i) :
    getDb (exec w q st now c r).1.store j = getDb st.store j := by
  apply Logs.frame (q := q)
  refine Logs.mono ?_ (exec_step w q i ns c True st now r (fun _ => hr) (fun _ => hq) (fun _ => h)).1
  rintro a ⟨hd, hp⟩
  simp only [concerns, (hp trivial).2.1, Bool.or_false, beq_eq_false_iff_ne, ne_eq]
  rw [hdb a hd (hp trivial)]
  exact fun e => hj e.symm

end T

end Ferrous.Dbs
