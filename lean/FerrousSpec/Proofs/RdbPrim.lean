/-
  RDB codec, part 1: `Res`, fixed-width integers, the three length forms, strings and the homogeneous
  sequences.  Every round trip has the compositional shape `read (enc x ++ rest) = ok x rest allocs`.
-/
import FerrousSpec.Model.Rdb
namespace Ferrous.Rdb
open Ferrous

@[simp] theorem Res.bind_ok {α β : Type} (a : α) (r : Bytes) (al : List Nat) (f : α → Bytes → Res β) :
    (Res.ok a r al).bind f = (f a r).pre al := rfl
@[simp] theorem Res.bind_err {α β : Type} (e : Err) (al : List Nat) (f : α → Bytes → Res β) :
    (Res.err e al : Res α).bind f = .err e al := rfl
@[simp] theorem Res.pre_ok {α : Type} (a : α) (r : Bytes) (al al' : List Nat) :
    (Res.ok a r al').pre al = .ok a r (al ++ al') := rfl
@[simp] theorem Res.pre_err {α : Type} (e : Err) (al al' : List Nat) :
    (Res.err e al' : Res α).pre al = .err e (al ++ al') := rfl
@[simp] theorem Res.pre_nil {α : Type} (r : Res α) : r.pre [] = r := by
  cases r <;> rfl
@[simp] theorem Res.pre_pre {α : Type} (r : Res α) (a b : List Nat) : (r.pre a).pre b = r.pre (b ++ a) := by
  cases r <;> simp only [Res.pre, List.append_assoc]

@[simp] theorem Res.map_ok {α β : Type} (f : α → β) (a : α) (r : Bytes) (al : List Nat) :
    (Res.ok a r al).map f = .ok (f a) r al := rfl
@[simp] theorem Res.map_err {α β : Type} (f : α → β) (e : Err) (al : List Nat) :
    (Res.err e al : Res α).map f = .err e al := rfl

@[simp] theorem lift_ok {α : Type} (a : α) (r : Bytes) : lift (.ok a : Except Err α) r = .ok a r [] := rfl
@[simp] theorem lift_error {α : Type} (e : Err) (r : Bytes) : lift (.error e : Except Err α) r = .err e [] := rfl

theorem readExact_some {n : Nat} {bs h r : Bytes} (hh : readExact n bs = some (h, r)) :
    bs = h ++ r ∧ h.length = n := by
  unfold readExact at hh
  dsimp only at hh
  split at hh
  · rename_i hl
    cases hh
    exact ⟨(List.take_append_drop n bs).symm, hl⟩
  · cases hh

theorem readExact_prefix (n : Nat) (s rest : Bytes) (h : n ≤ s.length) :
    readExact n (s ++ rest) = some (s.take n, s.drop n ++ rest) := by
  simp [readExact, List.take_append_of_le_length h, List.drop_append_of_le_length h, Nat.min_eq_left h]

theorem readFixed_append (n : Nat) (s rest : Bytes) (h : s.length = n) :
    readFixed n (s ++ rest) = .ok s rest [] := by
  subst h
  simp [readFixed, readExact_prefix s.length s rest (Nat.le_refl _)]

theorem readByte_cons (b : Nat) (r : Bytes) : readByte (b :: r) = .ok b r [] := rfl

theorem leBytes_length (k n : Nat) : (leBytes k n).length = k := by
  induction k generalizing n with
  | zero => rfl
  | succ k ih => simp only [leBytes, List.length_cons, ih]

theorem leVal_leBytes (k n : Nat) : leVal (leBytes k n) = n % 256 ^ k := by
  induction k generalizing n with
  | zero => simp only [leBytes, leVal, Nat.pow_zero, Nat.mod_one]
  | succ k ih =>
    simp only [leBytes, leVal, ih]
    rw [Nat.pow_succ, Nat.mul_comm (256 ^ k) 256, Nat.mod_mul]

theorem u64le_length (n : Nat) : (u64le n).length = 8 := leBytes_length 8 n

theorem leVal_u64le_mod (n : Nat) : leVal (u64le n) = n % two64 := by
  unfold u64le
  rw [leVal_leBytes]
  rfl

theorem leVal_u64le (n : Nat) (h : n < two64) : leVal (u64le n) = n := by
  rw [leVal_u64le_mod, Nat.mod_eq_of_lt h]

theorem readFixed_u64le (n : Nat) (rest : Bytes) : readFixed 8 (u64le n ++ rest) = .ok (u64le n) rest [] :=
  readFixed_append 8 _ rest (u64le_length n)

theorem readLen_6bit (b : Nat) (r : Bytes) (h : b < 64) : readLen (b :: r) = .ok b r [] := by
  have : b / 64 = 0 := by omega
  simp [readLen, this]

theorem readLen_14bit (b c : Nat) (r : Bytes) (h : 64 ≤ b) (h' : b < 128) :
    readLen (b :: c :: r) = .ok (b % 64 * 256 + c) r [] := by
  have : b / 64 = 1 := by omega
  simp [readLen, this]

/-- the low six bits of the first byte are ignored -/
theorem readLen_32bit (b b3 b2 b1 b0 : Nat) (r : Bytes) (h : 128 ≤ b) (h' : b < 192) :
    readLen (b :: b3 :: b2 :: b1 :: b0 :: r) = .ok (((b3 * 256 + b2) * 256 + b1) * 256 + b0) r [] := by
  have : b / 64 = 2 := by omega
  simp [readLen, this, readExact, beVal]

theorem mod_mul_256 (x m : Nat) : x % (256 * m) = x / 256 % m * 256 + x % 256 := by
  rw [Nat.mod_mul, Nat.add_comm, Nat.mul_comm]

/-- `from_be_bytes((len as u32).to_be_bytes())` -/
theorem be32_value (n : Nat) :
    ((n / 16777216 % 256 * 256 + n / 65536 % 256) * 256 + n / 256 % 256) * 256 + n % 256 = n % two32 := by
  rw [two32, show 4294967296 = 256 * (256 * (256 * 256)) from rfl, mod_mul_256, mod_mul_256, mod_mul_256]
  simp only [Nat.div_div_eq_div_mul, Nat.reduceMul]

theorem be14_value (n : Nat) (h : n ≤ 16383) : (n / 256 % 64 + 64) % 64 * 256 + n % 256 = n := by
  rw [Nat.add_mod_right, Nat.mod_mod, Nat.mod_eq_of_lt (a := n / 256) (by omega), Nat.div_add_mod']

/-- `read_length ∘ write_length` is `len as u32`: the identity below 2^32, whatever follows, and
    reduction modulo 2^32 from there on.  The case split is the code's (`0..=63`, `64..=16383`, the
    rest), so 63/64 and 16383/16384 are not special. -/
theorem readLen_encLen_mod (n : Nat) (rest : Bytes) : readLen (encLen n ++ rest) = .ok (n % two32) rest [] := by
  unfold encLen
  split
  · rename_i h
    rw [Nat.mod_eq_of_lt (b := two32) (Nat.lt_of_le_of_lt h (by decide))]
    exact readLen_6bit n rest (Nat.lt_succ_of_le h)
  · split
    · rename_i h
      rw [Nat.mod_eq_of_lt (b := two32) (Nat.lt_of_le_of_lt h (by decide))]
      refine (readLen_14bit _ _ rest (Nat.le_add_left _ _) (Nat.add_lt_add_right (Nat.mod_lt _ (by decide)) 64)).trans ?_
      rw [be14_value n h]
    · rw [← be32_value]
      exact readLen_32bit 128 _ _ _ _ rest (Nat.le_refl _) (by decide)

theorem readLen_encLen (n : Nat) (h : n < two32) (rest : Bytes) :
    readLen (encLen n ++ rest) = .ok n rest [] := by
  rw [readLen_encLen_mod, Nat.mod_eq_of_lt h]

theorem encLen_length_pos (n : Nat) : 0 < (encLen n).length := by
  unfold encLen
  split
  · exact Nat.zero_lt_succ _
  · split <;> exact Nat.zero_lt_succ _

/-- `write_string` declares `len as u32` and then writes all of `s`: the loader takes the first
    `|s| mod 2^32` bytes for the string and leaves the others in the stream. -/
theorem readString_encString_mod (s rest : Bytes) :
    readString (encString s ++ rest) =
      .ok (s.take (s.length % two32)) (s.drop (s.length % two32) ++ rest) [s.length % two32] := by
  unfold readString encString
  rw [List.append_assoc, readLen_encLen_mod, Res.bind_ok, readExact_prefix _ s rest (Nat.mod_le _ _)]
  rfl

theorem readString_encString (s : Bytes) (h : s.length < two32) (rest : Bytes) :
    readString (encString s ++ rest) = .ok s rest [s.length] := by
  rw [readString_encString_mod, Nat.mod_eq_of_lt h, List.take_length, List.drop_length, List.nil_append]

def lengths (xs : List Bytes) : List Nat := xs.map List.length

theorem readStrings_encStrings (xs : List Bytes) (h : ∀ x ∈ xs, x.length < two32) (rest : Bytes) :
    readStrings xs.length (encStrings xs ++ rest) = .ok xs rest (lengths xs) := by
  induction xs with
  | nil => rfl
  | cons x xs ih =>
    have ⟨hx, hxs⟩ := List.forall_mem_cons.mp h
    unfold encStrings at ih ⊢
    rw [List.length_cons, readStrings, List.flatMap_cons, List.append_assoc, readString_encString x hx,
      Res.bind_ok, ih hxs]
    rfl

def pairLengths (fs : List (Bytes × Bytes)) : List Nat := fs.flatMap fun p => [p.1.length, p.2.length]

theorem readPairs_encPairs (fs : List (Bytes × Bytes))
    (h : ∀ p ∈ fs, p.1.length < two32 ∧ p.2.length < two32) (rest : Bytes) :
    readPairs fs.length (encPairs fs ++ rest) = .ok fs rest (pairLengths fs) := by
  induction fs with
  | nil => rfl
  | cons p fs ih =>
    have ⟨hp, hfs⟩ := List.forall_mem_cons.mp h
    unfold encPairs at ih ⊢
    rw [List.length_cons, readPairs, List.flatMap_cons, encPair, List.append_assoc, List.append_assoc,
      readString_encString p.1 hp.1, Res.bind_ok, readString_encString p.2 hp.2, Res.bind_ok, ih hfs]
    rfl

def zLengths (zs : List (Bytes × Nat)) : List Nat := zs.map fun p => p.1.length

theorem readZPairs_encZItems (zs : List (Bytes × Nat))
    (h : ∀ p ∈ zs, p.1.length < two32 ∧ p.2 < two64) (rest : Bytes) :
    readZPairs zs.length (encZItems zs ++ rest) = .ok zs rest (zLengths zs) := by
  induction zs with
  | nil => rfl
  | cons p zs ih =>
    have ⟨hp, hzs⟩ := List.forall_mem_cons.mp h
    unfold encZItems at ih ⊢
    rw [List.length_cons, readZPairs, List.flatMap_cons, encZItem, List.append_assoc, List.append_assoc,
      readString_encString p.1 hp.1, Res.bind_ok, readFixed_u64le, Res.bind_ok, ih hzs, leVal_u64le p.2 hp.2]
    rfl

theorem decSnapshot_of_ok {fix : Fix} {bs : Bytes} {now : Nat} {s : Store} {r : Bytes} {al : List Nat}
    (h : decSnapshotT fix bs now = .ok s r al) : decSnapshot fix bs now = .ok s := by
  rw [decSnapshot, h]

theorem decSnapshot_of_err {fix : Fix} {bs : Bytes} {now : Nat} {e : Err} {al : List Nat}
    (h : decSnapshotT fix bs now = .err e al) : decSnapshot fix bs now = .error e := by
  rw [decSnapshot, h]

end Ferrous.Rdb
