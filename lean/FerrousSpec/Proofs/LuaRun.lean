/-
  Script execution in Model/Lua.lean (property C12): step lists compose, a failing `redis.call` aborts,
  `redis.pcall` continues, the event loop runs every script as one contiguous block of data commands.
  Last, `intOf`, through which Props/C12.lean decides its concrete integer replies.
-/
import FerrousSpec.Proofs.LuaConv
import FerrousSpec.Proofs.KsAtomic
import FerrousSpec.Proofs.NameCode
namespace Ferrous.Lua
open Ferrous

variable {q : Quirks} {kq : KS.Quirks} {env : Env} {db now : Nat} {s : KS.Store} {acc : List LuaVal} {c : Cache}

theorem resolveArgs_lits (env : Env) (cmd : List Bytes) : resolveArgs env (cmd.map Arg.lit) = some cmd := by
  induction cmd with
  | nil => rfl
  | cons b t ih => simp [resolveArgs, ih]

theorem resolveArgs_unpack (env : Env) : resolveArgs env [Arg.unpackArgv] = some env.argv := by
  simp [resolveArgs]

theorem runSteps_cons (st : Step) (rest : List Step) :
    runSteps q kq env db now s acc (st :: rest) =
      match resolveArgs env st.args with
      | none =>
        if st.pcall then runSteps q kq env db now s (acc ++ [pcallFailure q (strBytes "ERR Invalid argument type")]) rest
        else (s, .error (strBytes "ERR Invalid argument type"))
      | some cmd =>
        match respToLua q (execCall q kq s db now cmd).2 with
        | .errTable m =>
          if st.pcall then runSteps q kq env db now (execCall q kq s db now cmd).1 (acc ++ [pcallFailure q m]) rest
          else ((execCall q kq s db now cmd).1, .error m)
        | v => runSteps q kq env db now (execCall q kq s db now cmd).1 (acc ++ [v]) rest := by
  rw [runSteps]; rfl

theorem callsOf_cons (conn : Nat) (st : Step) (rest : List Step) :
    callsOf q kq env conn db now s (st :: rest) =
      match resolveArgs env st.args with
      | none => if st.pcall then callsOf q kq env conn db now s rest else []
      | some cmd =>
        match respToLua q (execCall q kq s db now cmd).2 with
        | .errTable _ =>
          if st.pcall then
            { conn := conn, db := db, now := now, scripted := true, cmd := cmd } :: callsOf q kq env conn db now (execCall q kq s db now cmd).1 rest
          else [{ conn := conn, db := db, now := now, scripted := true, cmd := cmd }]
        | _ => { conn := conn, db := db, now := now, scripted := true, cmd := cmd } :: callsOf q kq env conn db now (execCall q kq s db now cmd).1 rest := by
  rw [callsOf]; rfl

/-- the result a step leaves in the result list, and whether the script goes on -/
theorem runSteps_cons_ok (q : Quirks) (kq : KS.Quirks) (env : Env) (db now : Nat) (s : KS.Store) (acc : List LuaVal)
    (st : Step) (rest : List Step) (cmd : List Bytes) (hc : resolveArgs env st.args = some cmd)
    (hne : ∀ m, (execCall q kq s db now cmd).2 ≠ .error m) :
    runSteps q kq env db now s acc (st :: rest) =
      runSteps q kq env db now (execCall q kq s db now cmd).1 (acc ++ [respToLua q (execCall q kq s db now cmd).2]) rest := by
  rw [runSteps_cons]
  simp only [hc]
  split
  · next m hm => exact absurd ((respToLua_errTable_iff q _ m).1 hm) (hne m)
  · rfl

theorem runSteps_cons_err {st : Step} {cmd : List Bytes} {m : Bytes} (rest : List Step)
    (hc : resolveArgs env st.args = some cmd) (he : (execCall q kq s db now cmd).2 = .error m) :
    runSteps q kq env db now s acc (st :: rest) =
      if st.pcall then runSteps q kq env db now (execCall q kq s db now cmd).1 (acc ++ [pcallFailure q m]) rest
      else ((execCall q kq s db now cmd).1, .error m) := by
  rw [runSteps_cons]
  simp only [hc, he, respToLua]

theorem runSteps_append (p1 p2 : List Step) :
    ∀ (s : KS.Store) (acc : List LuaVal),
    runSteps q kq env db now s acc (p1 ++ p2) =
      match runSteps q kq env db now s acc p1 with
      | (s', .ok acc') => runSteps q kq env db now s' acc' p2
      | (s', .error m) => (s', .error m) := by
  induction p1 with
  | nil => intro s acc; simp [runSteps]
  | cons st rest ih =>
    intro s acc
    simp only [List.cons_append]
    rw [runSteps_cons, runSteps_cons]
    split
    · split
      · exact ih _ _
      · rfl
    · split
      · split
        · exact ih _ _
        · rfl
      · exact ih _ _

theorem execCall_error_store {cmd : List Bytes} {m : Bytes} (h : (execCall q kq s db now cmd).2 = .error m) :
    (execCall q kq s db now cmd).1 = s ∨
    (execCall q kq s db now cmd).1 = KS.setDb s db (KS.purge now (KS.getDb s db)) := by
  unfold execCall at h ⊢
  split
  · left; rfl
  · split
    · left; rfl
    · split
      · left; rfl
      · next h1 h2 h3 =>
        simp only [h1, h2, h3, if_false, Bool.false_eq_true] at h
        exact KS.step_atomic kq s db now cmd none (by rw [h]; rfl)

theorem execCall_refused {cmd : List Bytes} (h : refusedNames.contains (nameOf cmd) = true) :
    ∃ m, execCall q kq s db now cmd = (s, .error m) := by
  unfold execCall
  split
  · exact ⟨_, rfl⟩
  · split
    · exact ⟨_, rfl⟩
    · exact ⟨_, rfl⟩

/-- what is not refused is the direct command -/
def allowed (q : Quirks) (cmd : List Bytes) : Bool :=
  !cmd.isEmpty && (!q.utf8ArgsOnly || cmd.all validUtf8) && !refusedNames.contains (nameOf cmd)

theorem execCall_allowed {cmd : List Bytes} (h : allowed q cmd = true) :
    execCall q kq s db now cmd = KS.step kq s db now cmd none := by
  unfold allowed at h
  simp only [Bool.and_eq_true, Bool.not_eq_true', Bool.or_eq_true] at h
  obtain ⟨⟨h1, h2⟩, h3⟩ := h
  unfold execCall
  have hu : (q.utf8ArgsOnly && !cmd.all validUtf8) = false := by
    cases h2 with
    | inl hq => simp [hq]
    | inr hv => simp [hv]
  rw [if_neg (by simp [h1]), if_neg (by simp [hu]), if_neg (by rw [h3]; exact Bool.false_ne_true)]

theorem eval_call {keys argv cmd : List Bytes} :
    eval q kq s db now keys argv ⟨[⟨false, cmd.map Arg.lit⟩], .res 1⟩ =
      ((execCall q kq s db now cmd).1, viaLua q (execCall q kq s db now cmd).2) := by
  unfold eval viaLua
  rw [runSteps_cons]
  simp only [resolveArgs_lits]
  generalize respToLua q (execCall q kq s db now cmd).2 = v
  cases v <;> rfl

theorem runSteps_store_eq_calls (conn : Nat) (steps : List Step) :
    ∀ (s : KS.Store) (acc : List LuaVal),
    (runSteps q kq env db now s acc steps).1 = (callsOf q kq env conn db now s steps).foldl (microStep q kq) s := by
  induction steps with
  | nil => intro s acc; simp [runSteps, callsOf]
  | cons st rest ih =>
    intro s acc
    rw [runSteps_cons, callsOf_cons]
    split
    · split
      · exact ih _ _
      · simp
    · next cmd hc =>
      split
      · split
        · rw [ih]; simp [microStep]
        · simp [microStep]
      · rw [ih]; simp [microStep]

theorem eval_store_eq_calls (conn : Nat) (keys argv : List Bytes) (p : Program) :
    (eval q kq s db now keys argv p).1 =
      (callsOf q kq (mkEnv q keys argv) conn db now s p.steps).foldl (microStep q kq) s := by
  have h := runSteps_store_eq_calls (q := q) (kq := kq) (env := mkEnv q keys argv) (db := db) (now := now) conn p.steps s []
  unfold eval
  split
  · next s' m hm => simp only [hm] at h; exact h
  · next s' rs hm =>
    simp only [hm] at h
    split <;> exact h

theorem processFrame_store_eq_micros (e : Ev) :
    (processFrame q kq c s e).1 = (microsOf q kq c s e).foldl (microStep q kq) s := by
  unfold processFrame microsOf
  split
  · simp [microStep]
  · exact eval_store_eq_calls ..
  · unfold evalsha
    split
    · simp
    · exact eval_store_eq_calls ..

theorem runLoop_store_eq_flatten (evs : List Ev) :
    ∀ s, (runLoop q kq c s evs).1 = (flatten q kq c s evs).foldl (microStep q kq) s := by
  induction evs with
  | nil => intro s; simp [runLoop, flatten]
  | cons e rest ih =>
    intro s
    simp only [runLoop, flatten, List.foldl_append]
    rw [ih, processFrame_store_eq_micros]

theorem runLoop_append (pre post : List Ev) :
    ∀ s, runLoop q kq c s (pre ++ post) =
      ((runLoop q kq c (runLoop q kq c s pre).1 post).1, (runLoop q kq c s pre).2 ++ (runLoop q kq c (runLoop q kq c s pre).1 post).2) := by
  induction pre with
  | nil => intro s; simp [runLoop]
  | cons e rest ih => intro s; simp [runLoop, ih]

theorem flatten_append (pre post : List Ev) :
    ∀ s, flatten q kq c s (pre ++ post) = flatten q kq c s pre ++ flatten q kq c (runLoop q kq c s pre).1 post := by
  induction pre with
  | nil => intro s; simp [flatten, runLoop]
  | cons e rest ih => intro s; simp [flatten, runLoop, ih]

theorem observable_prefix (evs : List Ev) :
    ∀ s st, st ∈ observable q kq c s evs → ∃ k, k ≤ evs.length ∧ st = (runLoop q kq c s (evs.take k)).1 := by
  induction evs with
  | nil =>
    intro s st h
    simp [observable] at h
    exact ⟨0, by simp, by simp [h, runLoop]⟩
  | cons e rest ih =>
    intro s st h
    simp only [observable, List.mem_cons] at h
    cases h with
    | inl h0 => exact ⟨0, by simp, by simp [h0, runLoop]⟩
    | inr h1 =>
      obtain ⟨k, hk, hst⟩ := ih _ _ h1
      exact ⟨k + 1, by simp; omega, by simp [runLoop, hst]⟩

/-- `Frame` is a nested type without `DecidableEq`; a concrete script's integer reply is decided through this -/
def intOf : Frame → Option Int
  | .int m => some m
  | _ => none

instance (f : Frame) (n : Int) : Decidable (f = .int n) :=
  decidable_of_iff (intOf f = some n) (by cases f <;> simp [intOf])

end Ferrous.Lua
