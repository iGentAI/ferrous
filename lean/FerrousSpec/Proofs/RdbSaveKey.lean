/-
  C10, part 2: the save loop seen from one key.  `SaverInv`: as long as no command ran between the
  saver's reads of the key, what the saver holds is the key's current state, and a finished record
  is the key's state at one instant of the history — for both save loops; reading under one lock
  only makes sure that no command ever falls between the reads (`Quiet`).
-/
import FerrousSpec.Model.RdbSave
namespace Ferrous.RdbSave
open Ferrous Ferrous.Rdb

theorem isZset_zset {v : Value} (h : isZset v = true) : v = .zset (zitems v) := by
  cases v <;> first | rfl | cases h

/-- what the saver holds agrees with the key; what it has written is a state the key had -/
def PhaseOK (m : KM) : Prop :=
  match m.phase with
  | .start => True
  | .gotValue v => (∃ dl, m.cur = some (v, dl)) ∧ m.held = zitems v
  | .gotTtl v ttl => m.cur = some (v, ttl) ∧ m.held = zitems v ∧ isZset v = true
  | .gotLen ttl len => m.cur = some (.zset m.held, ttl) ∧ len = m.held.length
  | .done none => True
  | .done (some r) => r.consistent m.hist

def SaverInv (m : KM) : Prop :=
  m.cur ∈ m.hist ∧ (m.disturbed = false → PhaseOK m)

theorem SaverInv.done {m : KM} (h : SaverInv m) {r : Rec} (hr : m.phase = .done (some r)) (hq : m.disturbed = false) :
    r.consistent m.hist := by
  have hp := h.2 hq
  unfold PhaseOK at hp
  rw [hr] at hp
  exact hp

theorem saverInv_cmd (m : KM) (c : Cmd) (h : SaverInv m) : SaverInv (cmdStep m c) := by
  refine ⟨List.mem_cons_self, fun hd => ?_⟩
  obtain ⟨hd1, hd2⟩ := Bool.or_eq_false_iff.mp hd
  have hp := h.2 hd1
  obtain ⟨cur, hist, phase, held, attached, disturbed⟩ := m
  -- the saver is not in the middle of the key, so it holds nothing yet / any more
  cases phase with
  | start => trivial
  | done r =>
    cases r with
    | none => trivial
    | some r => exact ⟨List.mem_cons_of_mem _ hp.1, hp.2⟩
  | gotValue | gotTtl | gotLen => cases hd2

theorem saverStep_reads (atomic itemsFirst : Bool) (m : KM) :
    (saverStep atomic itemsFirst m).cur = m.cur ∧ (saverStep atomic itemsFirst m).hist = m.hist ∧
      (saverStep atomic itemsFirst m).disturbed = m.disturbed := by
  unfold saverStep
  repeat' split
  all_goals exact ⟨rfl, rfl, rfl⟩

theorem saverInv_saver (atomic itemsFirst : Bool) (m : KM) (h : SaverInv m) :
    SaverInv (saverStep atomic itemsFirst m) := by
  obtain ⟨hc, hh, hdist⟩ := saverStep_reads atomic itemsFirst m
  obtain ⟨h1, h3⟩ := h
  refine ⟨by rw [hc, hh]; exact h1, fun hd => ?_⟩
  have hp := h3 (hdist ▸ hd)
  clear hc hh hdist hd h3
  obtain ⟨cur, hist, phase, held, attached, disturbed⟩ := m
  cases phase with
  | start =>
    cases cur with
    | none => trivial
    | some p =>
      obtain ⟨v, dl⟩ := p
      cases atomic
      · exact ⟨⟨dl, rfl⟩, rfl⟩
      · exact ⟨h1, rfl⟩
  | gotValue v =>
    obtain ⟨⟨dl, hcur⟩, hheld⟩ := hp
    cases hcur
    simp only [saverStep]
    split
    · rename_i hz; exact ⟨rfl, hheld, hz⟩
    · rename_i hz; exact ⟨h1, by simp [hz]⟩
  | gotTtl v ttl =>
    obtain ⟨hcur, hheld, hz⟩ := hp
    obtain ⟨zs, rfl⟩ : ∃ zs, v = .zset zs := ⟨_, isZset_zset hz⟩
    cases hcur
    cases (hheld : held = zs)
    cases itemsFirst
    · exact ⟨rfl, rfl⟩
    · exact ⟨h1, rfl⟩
  | gotLen ttl len =>
    obtain ⟨hcur, hlen⟩ : cur = some (.zset held, ttl) ∧ len = held.length := hp
    subst hcur hlen
    show Rec.consistent ⟨.zset (held.take held.length), some held.length, ttl⟩ hist
    rw [List.take_length]
    exact ⟨h1, rfl⟩
  | done r => exact hp

theorem saverInv_run (atomic itemsFirst : Bool) (st : KeyState) (evs : List KEv) :
    SaverInv (krun atomic itemsFirst (kinit st) evs) :=
  List.foldlRecOn (motive := SaverInv) evs (kstep atomic itemsFirst) ⟨List.mem_singleton_self st, fun _ => trivial⟩
    fun m h e _ => by cases e; exact saverInv_saver _ _ m h; exact saverInv_cmd m _ h

/-- A record written while no command ran between the saver's reads of the key is the key's state
    at one instant of the save — for both save loops. -/
theorem consistent_of_undisturbed (atomic itemsFirst : Bool) (st : KeyState) (evs : List KEv) (r : Rec)
    (h : (krun atomic itemsFirst (kinit st) evs).phase = .done (some r))
    (hq : (krun atomic itemsFirst (kinit st) evs).disturbed = false) :
    r.consistent (krun atomic itemsFirst (kinit st) evs).hist :=
  (saverInv_run atomic itemsFirst st evs).done h hq

def Quiet (m : KM) : Prop := midKey m.phase = false ∧ m.disturbed = false

theorem quiet_step (itemsFirst : Bool) (m : KM) (e : KEv) (h : Quiet m) : Quiet (kstep true itemsFirst m e) := by
  obtain ⟨cur, hist, phase, held, attached, disturbed⟩ := m
  obtain ⟨hm, hd⟩ := h
  cases e with
  | cmd c => exact ⟨hm, Bool.or_eq_false_iff.mpr ⟨hd, hm⟩⟩
  | saver =>
    cases phase with
    | start =>
      cases cur with
      | none => exact ⟨rfl, hd⟩
      | some p => exact ⟨rfl, hd⟩
    | done r => exact ⟨rfl, hd⟩
    | gotValue | gotTtl | gotLen => cases hm

theorem undisturbed_of_atomic (itemsFirst : Bool) (st : KeyState) (evs : List KEv) :
    (krun true itemsFirst (kinit st) evs).disturbed = false :=
  (List.foldlRecOn (motive := Quiet) evs (kstep true itemsFirst) ⟨rfl, rfl⟩ fun m h e _ => quiet_step itemsFirst m e h).2

/-- with the items materialised first, the declared length is always the number of items -/
def LenOK (m : KM) : Prop :=
  match m.phase with
  | .gotLen _ _ => False
  | .done (some r) => r.zlen = if isZset r.val then some (zitems r.val).length else none
  | _ => True

theorem LenOK.done {m : KM} (h : LenOK m) {r : Rec} (hr : m.phase = .done (some r)) :
    r.zlen = if isZset r.val then some (zitems r.val).length else none := by
  unfold LenOK at h
  rw [hr] at h
  exact h

theorem lenOK_step (atomic : Bool) (m : KM) (e : KEv) (h : LenOK m) : LenOK (kstep atomic true m e) := by
  obtain ⟨cur, hist, phase, held, attached, disturbed⟩ := m
  cases e with
  | cmd c => exact h
  | saver =>
    cases phase with
    | start =>
      cases cur with
      | none => trivial
      | some p =>
        obtain ⟨v, dl⟩ := p
        cases atomic
        · trivial
        · exact rfl
    | gotValue v =>
      simp only [kstep, saverStep]
      split
      · trivial
      · rename_i hz; simp [LenOK, hz]
    | gotTtl v ttl => exact rfl
    | gotLen ttl len => exact h.elim
    | done r => exact h

theorem lenOK_run (atomic : Bool) (st : KeyState) (evs : List KEv) : LenOK (krun atomic true (kinit st) evs) :=
  List.foldlRecOn (motive := LenOK) evs (kstep atomic true) trivial fun m h e _ => lenOK_step atomic m e h

theorem recBytes_eq_encEntry (t : Nat) (k : Bytes) (r : Rec)
    (hz : r.zlen = if isZset r.val then some (zitems r.val).length else none)
    (ht : ∀ d, r.ttl = some d → t ≤ d) : recBytes t k r = encEntry t ⟨k, r.val, r.ttl⟩ := by
  obtain ⟨v, zl, ttl⟩ := r
  have hz : zl = if isZset v then some (zitems v).length else none := hz
  have hbody : recBytes t k ⟨v, zl, none⟩ = encKV k v := by subst hz; cases v <;> rfl
  cases ttl with
  | none => exact hbody
  | some d =>
    show 252 :: (u64le (t + (d - t)) ++ recBytes t k ⟨v, zl, none⟩) = _
    rw [hbody]
    exact (if_neg (Nat.not_lt.mpr (ht d rfl))).symm

theorem fileOf_eq_encSnapshot (ver : Bytes) (t db : Nat) (e : Entry) :
    fileOf ver t db (encEntry t e) = encSnapshot ver [(db, [e])] t := by
  simp [fileOf, encSnapshot, encBody, encDbs, encDb, encEntries, List.append_assoc]

end Ferrous.RdbSave
