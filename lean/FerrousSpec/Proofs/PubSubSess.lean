/-
  The connection layer: a step of a session is summed up by the operations it executed (`StepSpec`), from
  which follow that a closing connection receives nothing more and that a blocked one holds no subscription.
-/
import FerrousSpec.Proofs.PubSubPublish
set_option linter.unusedSimpArgs false
namespace Ferrous.PubSub

theorem Code.after_nil (st : State) : Code.after st [] = st := rfl

theorem Sess.step_op (q : Quirks) (s : Sess) (o : Op) (c : ConnId) (ho : o.sender = some c) :
    Sess.step q s (.op o) =
      if c ∈ s.closed ∨ c ∈ s.blocked then (s, [])
      else if q.gate && subscribed s.st c && o.isPublish then (s, [])
      else ({ s with st := Code.next s.st o }, [o]) := by
  cases o with
  | disconnect c' => cases ho
  | subscribe c' k xs => cases ho; rfl
  | unsubscribe c' k xs => cases ho; rfl
  | publish c' ch m => cases ho; rfl

theorem Sess.step_close (q : Quirks) (s : Sess) (c : ConnId) :
    Sess.step q s (.close c) =
      if q.releaseAtClose = true then
        ({ st := unsubscribeAll s.st c, closed := sins s.closed c, blocked := s.blocked }, [.disconnect c])
      else ({ st := s.st, closed := sins s.closed c, blocked := s.blocked }, []) := rfl

theorem Sess.step_cmd (q : Quirks) (s : Sess) (c : ConnId) (b : Bool) :
    Sess.step q s (.cmd c b) =
      if c ∈ s.closed ∨ c ∈ s.blocked then (s, [])
      else if q.gate && subscribed s.st c then (s, [])
      else if b then ({ s with blocked := sins s.blocked c }, [])
      else (s, []) := rfl

/-- What one step of a session amounts to: the operations it executed account for its new pub/sub
    state and come from connections that are neither closing nor blocked; a closing connection stays
    so until it is removed; whoever is newly blocked got past the gate and nothing was executed. -/
structure StepSpec (q : Quirks) (s : Sess) (lo : LOp) (r : Sess × List Op) : Prop where
  st : r.1.st = Code.after s.st r.2
  sender : ∀ o ∈ r.2, ∀ c, o.sender = some c → c ∉ s.closed ∧ c ∉ s.blocked
  closed : ∀ c ∈ s.closed, lo ≠ .op (.disconnect c) → c ∈ r.1.closed
  blocked : ∀ x ∈ r.1.blocked, x ∈ s.blocked ∨ (r.2 = [] ∧ (q.gate && subscribed s.st x) = false)

theorem StepSpec.same (q : Quirks) (s : Sess) (lo : LOp) : StepSpec q s lo (s, []) :=
  ⟨rfl, nofun, fun _ h _ => h, fun _ h => Or.inl h⟩

theorem Sess.step_spec (q : Quirks) (s : Sess) (lo : LOp) : StepSpec q s lo (Sess.step q s lo) := by
  cases lo with
  | op o =>
    cases ho : o.sender with
    | none =>
      cases o with
      | disconnect c =>
        exact ⟨rfl, fun o ho c hc => (by cases List.mem_singleton.1 ho; cases hc),
          fun c' hc' hne => (mem_srem _ _ _).2 ⟨hc', fun e => hne (e ▸ rfl)⟩,
          fun x hx => Or.inl ((mem_srem _ _ _).1 hx).1⟩
      | subscribe c k xs => cases ho
      | unsubscribe c k xs => cases ho
      | publish c ch m => cases ho
    | some c =>
      rw [Sess.step_op q s o c ho]
      split
      · exact .same q s _
      · rename_i hcb
        split
        · exact .same q s _
        · refine ⟨rfl, fun o' ho' c' hc' => ?_, fun _ h _ => h, fun _ h => Or.inl h⟩
          cases List.mem_singleton.1 ho'
          cases ho.symm.trans hc'
          exact not_or.1 hcb
  | close c =>
    rw [Sess.step_close]
    split
    · exact ⟨rfl, fun o ho c' hc' => (by cases List.mem_singleton.1 ho; cases hc'),
        fun c' hc' _ => (mem_sins _ _ _).2 (Or.inl hc'), fun _ h => Or.inl h⟩
    · exact ⟨rfl, nofun, fun c' hc' _ => (mem_sins _ _ _).2 (Or.inl hc'), fun _ h => Or.inl h⟩
  | cmd c b =>
    rw [Sess.step_cmd]
    split
    · exact .same q s _
    · split
      · exact .same q s _
      · rename_i hg
        split
        · exact ⟨rfl, nofun, fun _ h _ => h, fun x hx =>
            ((mem_sins _ _ _).1 hx).imp id fun (e : x = c) => ⟨rfl, e ▸ Bool.eq_false_iff.2 hg⟩⟩
        · exact .same q s _
  | unblock c => exact ⟨rfl, nofun, fun _ h _ => h, fun x hx => Or.inl ((mem_srem _ _ _).1 hx).1⟩

theorem Sess.run_state (q : Quirks) : ∀ (l : List LOp) (s : Sess),
    (Sess.run q s l).1.st = Code.after s.st (Sess.run q s l).2 := by
  intro l
  induction l with
  | nil => intro s; rfl
  | cons lo l ih =>
    intro s
    simp only [Sess.run]
    rw [ih, Code.after_append, ← (Sess.step_spec q s lo).st]

theorem Sess.run_append (q : Quirks) : ∀ (l1 l2 : List LOp) (s : Sess),
    (Sess.run q s (l1 ++ l2)).1 = (Sess.run q (Sess.run q s l1).1 l2).1 := by
  intro l1
  induction l1 with
  | nil => intro l2 s; rfl
  | cons lo l ih => intro l2 s; simp only [List.cons_append, Sess.run]; exact ih l2 _

theorem Sess.run_induction {q : Quirks} {P : Sess → Prop} {l : List LOp}
    (hstep : ∀ s, ∀ lo ∈ l, P s → P (Sess.step q s lo).1) {s : Sess} (h : P s) : P (Sess.run q s l).1 := by
  induction l generalizing s with
  | nil => exact h
  | cons lo l ih =>
    exact ih (fun s' lo' hlo => hstep s' lo' (List.mem_cons_of_mem _ hlo)) (hstep s lo List.mem_cons_self h)

theorem Inv.sess_step {q : Quirks} {s : Sess} (h : Inv s.st) (lo : LOp) : Inv (Sess.step q s lo).1.st := by
  rw [(Sess.step_spec q s lo).st]
  exact h.after _

theorem Op.sender_of_subscribesAs {o : Op} {c : ConnId} (h : o.subscribesAs c = true) : o.sender = some c := by
  cases o with
  | subscribe c' k xs => exact congrArg some (of_decide_eq_true h)
  | unsubscribe c' k xs => cases h
  | disconnect c' => cases h
  | publish c' ch m => cases h

theorem held_sess_step_subset {q : Quirks} {s : Sess} {lo : LOp} {c : ConnId} (hc : c ∈ s.closed) (k : Kind) :
    held (Sess.step q s lo).1.st c k ⊆ held s.st c k := by
  have sp := Sess.step_spec q s lo
  rw [sp.st]
  refine held_after_subset (fun o ho => ?_) k
  cases hs : o.subscribesAs c with
  | false => rfl
  | true => exact absurd hc (sp.sender o ho c (Op.sender_of_subscribesAs hs)).1

theorem closed_quiet_run (q : Quirks) (c : ConnId) (l : List LOp) (s : Sess) (hi : Inv s.st) (hc : c ∈ s.closed)
    (hh : ∀ k, held s.st c k = []) (hl : LOp.op (.disconnect c) ∉ l) :
    Inv (Sess.run q s l).1.st ∧ ∀ k, held (Sess.run q s l).1.st c k = [] := by
  have := Sess.run_induction (q := q) (l := l) (P := fun s => Inv s.st ∧ c ∈ s.closed ∧ ∀ k, held s.st c k = [])
    (fun s lo hlo ⟨hi, hc, hh⟩ => ⟨hi.sess_step lo, (Sess.step_spec q s lo).closed c hc (fun e => hl (e ▸ hlo)),
      fun k => List.eq_nil_of_subset_nil (hh k ▸ held_sess_step_subset hc k)⟩) ⟨hi, hc, hh⟩
  exact ⟨this.1, this.2.2⟩

theorem closed_receives_nothing {q : Quirks} (hq : q.releaseAtClose = true) (dedup : Bool) {s : Sess} (hinv : Inv s.st)
    (c : ConnId) {l : List LOp} (hl : LOp.op (.disconnect c) ∉ l) (ch : Bytes) :
    ∀ d ∈ publish dedup (Sess.run q s (.close c :: l)).1.st ch, d.1 ≠ c := by
  have hstep : (Sess.step q s (.close c)).1 =
      { st := unsubscribeAll s.st c, closed := sins s.closed c, blocked := s.blocked } := by
    rw [Sess.step_close, if_pos hq]
  obtain ⟨hinv', hh⟩ := closed_quiet_run q c l (Sess.step q s (.close c)).1 (hinv.sess_step _)
    (by rw [hstep]; exact (mem_sins _ _ _).2 (Or.inr rfl))
    (fun k => by rw [hstep]; exact (held_unsubscribeAll _ _ _ _).trans (if_pos rfl)) hl
  rintro ⟨_, o⟩ hd rfl
  exact not_receiver_of_idle hinv' hh ch o hd

theorem subscribed_of_held {st : State} {c : ConnId} {k : Kind} {y : Bytes} (h : y ∈ held st c k) :
    subscribed st c = true := by
  unfold subscribed
  cases ha : aget st.subs c with
  | none => rw [held_nil_of_no_entry ha] at h; cases h
  | some i => rfl

theorem subscribed_of_delivery {dedup : Bool} {st : State} (hinv : Inv st) {ch : Bytes} {d : Delivery}
    (h : d ∈ publish dedup st ch) : subscribed st d.1 = true := by
  obtain ⟨c, o⟩ := d
  have hm := held_of_mem_publish hinv h
  cases o with
  | none => exact subscribed_of_held hm
  | some p => exact subscribed_of_held hm.1

theorem subscribed_after_other {x : ConnId} {ops : List Op} (hops : ∀ o ∈ ops, o.sender ≠ some x) {st : State}
    (h : subscribed st x = false) : subscribed (Code.after st ops) x = false := by
  refine Code.after_induction (P := fun s => subscribed s x = false) (fun s o ho hs => ?_) h
  unfold subscribed at hs ⊢
  cases hsd : o.sender with
  | some c => rw [subs_next_other hsd (fun (e : x = c) => hops o ho (e ▸ hsd))]; exact hs
  | none =>
    cases o with
    | disconnect c =>
      show (aget (adel s.subs c) x).isSome = false
      rw [aget_adel]
      split
      · rfl
      · exact hs
    | subscribe c k xs => cases hsd
    | unsubscribe c k xs => cases hsd
    | publish c ch m => cases hsd

/-- With the gate, whoever is blocked holds no subscription. -/
def BlockedIdle (s : Sess) : Prop := ∀ c ∈ s.blocked, subscribed s.st c = false

theorem BlockedIdle.step {q : Quirks} (hq : q.gate = true) {s : Sess} (h : BlockedIdle s) (lo : LOp) :
    BlockedIdle (Sess.step q s lo).1 := by
  intro x hx
  have sp := Sess.step_spec q s lo
  rw [sp.st]
  rcases sp.blocked x hx with hb | ⟨he, hg⟩
  · exact subscribed_after_other (fun o ho hs => (sp.sender o ho x hs).2 hb) (h x hb)
  · rw [he, hq] at *
    exact hg

theorem BlockedIdle.run {q : Quirks} (hq : q.gate = true) (l : List LOp) (s : Sess) (h : BlockedIdle s) :
    BlockedIdle (Sess.run q s l).1 :=
  Sess.run_induction (fun _ lo _ hs => hs.step hq lo) h

theorem Inv.sess_run {q : Quirks} (l : List LOp) (s : Sess) (h : Inv s.st) : Inv (Sess.run q s l).1.st :=
  Sess.run_induction (P := fun s => Inv s.st) (fun _ lo _ hs => hs.sess_step lo) h

end Ferrous.PubSub
