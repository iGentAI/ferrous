/-
  C05: the connection loop (`connRun`, Model/Conn.lean) is the handler applied, in order, to the events
  the incremental parser yields for the same chunks (`connRun_eq`); a stream of serialised commands
  yields exactly those commands (`drainF_cmds`, from the RESP round trip).
-/
import FerrousSpec.Model.Conn
import FerrousSpec.Proofs.RespRoundtrip
import FerrousSpec.Proofs.RespStream
namespace Ferrous.Conn
open Ferrous

variable {σ : Type}

def noErr (evs : List Ev) : Bool := evs.all fun | .frame _ => true | .err => false

theorem noErr_append (a b : List Ev) : noErr (a ++ b) = (noErr a && noErr b) :=
  List.all_append

theorem noErr_frames (fs : List Frame) : noErr (fs.map Ev.frame) = true :=
  List.all_eq_true.2 fun _ he => by obtain ⟨f, _, rfl⟩ := List.mem_map.1 he; rfl

theorem applyEvs_frames (h : σ → Frame → σ × Frame) (s : σ) (fs : List Frame) :
    applyEvs h s (fs.map Ev.frame) = execAll h s fs := by
  induction fs generalizing s with
  | nil => rfl
  | cons f r ih => simp only [List.map_cons, applyEvs, execAll, ih]

theorem execAll_length (h : σ → Frame → σ × Frame) (s : σ) (fs : List Frame) :
    (execAll h s fs).2.length = fs.length := by
  induction fs generalizing s with
  | nil => rfl
  | cons f r ih => simp only [execAll, List.length_cons, ih]

theorem applyEvs_append (h : σ → Frame → σ × Frame) (s : σ) (a b : List Ev) (ha : noErr a = true) :
    applyEvs h s (a ++ b) =
      ((applyEvs h (applyEvs h s a).1 b).1, (applyEvs h s a).2 ++ (applyEvs h (applyEvs h s a).1 b).2) := by
  induction a generalizing s with
  | nil => rfl
  | cons e r ih =>
    cases e with
    | frame f => simp only [List.cons_append, applyEvs, ih _ ha]
    | err => cases ha

theorem noErr_drainF (pf : Bool) (n : Nat) (x : Bytes) :
    noErr (drainF pf n x).1 = !(drainF pf n x).2.2 := by
  induction n generalizing x with
  | zero => rfl
  | succ n ih =>
    cases hp : parserParse pf x with
    | mk res b =>
      cases res with
      | none => rw [drainF_none hp]; rfl
      | err => rw [drainF_err hp]; rfl
      | frame f => rw [drainF_frame hp]; exact ih b

/-- The connection loop is the handler applied, in order, to the events the incremental parser
    yields for the same chunks; it closes exactly when the parser reported a protocol error. -/
theorem connRun_eq (h : σ → Frame → σ × Frame) (cs : List Bytes) : ∀ (s : σ) (buf : Bytes),
    connRun h s buf cs =
      ⟨(applyEvs h s (runChunks true buf cs)).1, (applyEvs h s (runChunks true buf cs)).2,
       !noErr (runChunks true buf cs)⟩ := by
  induction cs with
  | nil => intro s buf; rfl
  | cons c cs ih =>
    intro s buf
    have hd := noErr_drainF true ((buf ++ c).length + 1) (buf ++ c)
    unfold connRun runChunks drain
    generalize drainF true ((buf ++ c).length + 1) (buf ++ c) = d at hd ⊢
    obtain ⟨evs, b', e⟩ := d
    cases e with
    | true => simp only [if_true, hd]; rfl
    | false =>
      simp only [Bool.false_eq_true, if_false, ih, applyEvs_append h s evs _ hd, noErr_append, hd]
      rfl

theorem connRun_frames_then (h : σ → Frame → σ × Frame) (s : σ) (buf : Bytes) (cs : List Bytes)
    (fs : List Frame) (evs : List Ev) (hev : runChunks true buf cs = fs.map Ev.frame ++ evs) :
    connRun h s buf cs =
      ⟨(applyEvs h (execAll h s fs).1 evs).1, (execAll h s fs).2 ++ (applyEvs h (execAll h s fs).1 evs).2,
       !noErr evs⟩ := by
  rw [connRun_eq, hev, applyEvs_append h s _ _ (noErr_frames fs), applyEvs_frames, noErr_append,
    noErr_frames, Bool.true_and]

def StartsStar (l : Bytes) : Prop := l = [] ∨ ∃ t, l = 42 :: t

/-- command frames: well-formed arrays (what every client sends) -/
def isCmd : Frame → Bool
  | .array xs => wf (.array xs) && decide ((Frame.array xs).depth ≤ maxNesting + 1)
  | _ => false

theorem isCmd_elim {f : Frame} (hf : isCmd f = true) :
    ∃ xs, f = .array xs ∧ wf f = true ∧ f.depth ≤ maxNesting + 1 := by
  cases f with
  | array xs => exact ⟨xs, rfl, by simpa only [isCmd, Bool.and_eq_true, decide_eq_true_eq] using hf⟩
  | _ => cases hf

theorem serList_cmds_startsStar (fs : List Frame) (hfs : ∀ f ∈ fs, isCmd f = true) : StartsStar (serList fs) := by
  cases fs with
  | nil => exact .inl rfl
  | cons f r =>
    obtain ⟨xs, rfl, _⟩ := isCmd_elim (hfs f (List.mem_cons_self ..))
    exact .inr ⟨_, by rw [serList, ser, List.cons_append]⟩

theorem startsStar_dropNl (l : Bytes) (h : StartsStar l) : l.dropWhile isNl = l := by
  rcases h with rfl | ⟨t, rfl⟩ <;> rfl

theorem parserParse_cmd (f : Frame) (hf : isCmd f = true) (rest : Bytes) (hrest : rest.dropWhile isNl = rest) :
    parserParse true (ser f ++ rest) = (.frame f, rest) := by
  obtain ⟨xs, rfl, hw, hd⟩ := isCmd_elim hf
  have hrt := parseBytes_ser _ hw hd rest
  rw [ser, List.cons_append] at hrt ⊢
  rw [parserParse_star, hrt]
  simp only [hrest]

/-- Draining a stream of serialised commands followed by `tail` yields the commands, then whatever
    `tail` yields. -/
theorem drainF_cmds (fs : List Frame) (hfs : ∀ f ∈ fs, isCmd f = true) (tail : Bytes)
    (htail : tail.dropWhile isNl = tail ∧ (fs ≠ [] → tail = [] ∨ ∀ f ∈ fs, True)) :
    ∀ n, (serList fs ++ tail).length < n →
      drainF true n (serList fs ++ tail) =
        (fs.map Ev.frame ++ (drainF true (tail.length + 1) tail).1,
         (drainF true (tail.length + 1) tail).2.1, (drainF true (tail.length + 1) tail).2.2) := by
  induction fs with
  | nil => intro n hn; exact drainF_fuel n (tail.length + 1) tail hn (Nat.lt_succ_self _)
  | cons f r ih =>
    intro n hn
    cases n with
    | zero => omega
    | succ n =>
      have hr : ∀ g ∈ r, isCmd g = true := fun g hg => hfs g (List.mem_cons_of_mem _ hg)
      have hrest : (serList r ++ tail).dropWhile isNl = serList r ++ tail := by
        rcases serList_cmds_startsStar r hr with h0 | ⟨t, ht⟩
        · rw [h0]; exact htail.1
        · rw [ht]; rfl
      have hp := parserParse_cmd f (hfs f (List.mem_cons_self ..)) (serList r ++ tail) hrest
      have hlen := parserParse_frame_length true _ f _ hp
      simp only [serList, List.append_assoc] at hn ⊢
      rw [drainF_frame hp, ih hr ⟨htail.1, fun _ => .inr fun _ _ => trivial⟩ n (by omega)]
      rfl

theorem runWhole_cmds (fs : List Frame) (hfs : ∀ f ∈ fs, isCmd f = true) (tail : Bytes)
    (htail : tail.dropWhile isNl = tail) :
    runWhole true (serList fs ++ tail) = fs.map Ev.frame ++ runWhole true tail := by
  unfold runWhole drain
  rw [drainF_cmds fs hfs tail ⟨htail, fun _ => .inr fun _ _ => trivial⟩ _ (Nat.lt_succ_self _)]

end Ferrous.Conn
