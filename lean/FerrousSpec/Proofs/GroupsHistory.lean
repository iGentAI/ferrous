/-
  C16: the agreement invariant along whole histories.
  `Good g` = the representations agree AND no pending id lies beyond the cursor; it is preserved by every
  operation of a history that never re-delivers (`HOp.plainFor q`: no SETID; no explicit-id re-read where
  `q.histFix = false`, no NOACK read under `>` where `q.noackFix = false`, as on the pinned tree), because then
  everything `>` delivers is fresh.
-/
import FerrousSpec.Proofs.GroupsOnce
namespace Ferrous.Grp
open Code

structure Good (g : Group) : Prop where
  agree : Agree g
  behind : ∀ e ∈ g.byId, idLe e.id g.lastDelivered = true

theorem good_newGroup (q : Quirks) (start : Id) : Good (newGroup q start) :=
  ⟨⟨agreeCore_newGroup q start, rfl⟩, fun _ he => nomatch he⟩

theorem Quiet.good {g g' : Group} (hq : Quiet g g') (h : Good g) : Good g' := by
  refine ⟨hq.2.2 h.agree, fun e he => ?_⟩
  obtain ⟨e0, he0, hid⟩ := List.mem_map.mp (hq.2.1 e he)
  rw [hq.1, ← hid]; exact h.behind e0 he0

/-- a step under `>` keeps the state good when its result agrees, has the cursor where a delivery of the entries
    after the old cursor leaves it, and holds only old or delivered ids: these lie beyond everything pending -/
theorem good_of_delivery {g r : Group} (h : Good g) {stream : List Id} (hs : IdSorted stream) (count : Option Nat)
    (ha : Agree r)
    (hl : r.lastDelivered = cursorAfter g.lastDelivered (rangeAfter stream g.lastDelivered count))
    (hm : ∀ e ∈ r.byId, e.id ∈ g.byId.map (·.id) ∨ e.id ∈ rangeAfter stream g.lastDelivered count) : Good r := by
  have hold : ∀ i ∈ g.byId.map (·.id), idLe i g.lastDelivered = true := by
    intro i hi; obtain ⟨e0, he0, rfl⟩ := List.mem_map.mp hi; exact h.behind e0 he0
  refine ⟨ha, fun e he => ?_⟩
  rw [hl, cursorAfter_rangeAfter]
  cases hlast : (rangeAfter stream g.lastDelivered count).getLast? with
  | none =>
    rcases hm e he with h' | h'
    · exact hold _ h'
    · rw [List.getLast?_eq_none_iff.mp hlast] at h'; cases h'
  | some m =>
    rcases hm e he with h' | h'
    · exact idLe_of_lt (idLt_of_le_of_lt (hold _ h') (mem_rangeAfter (List.mem_of_getLast? hlast)).2)
    · exact (sorted_rangeAfter hs g.lastDelivered count).le_getLast hlast _ h'

/-- every operation but the two that re-deliver: SETID, and an explicit-id read on a tree that re-reads the stream -/
theorem good_gstep (q : Quirks) {stream : List Id} (hs : IdSorted stream) {g : Group} (h : Good g) (op : GOp)
    (hset : ∀ id, op ≠ .setid id) (hread : ∀ c a count noack, op = .read c (some a) count noack → q.histFix = true) :
    Good (gstep q stream g op).1 := by
  cases op with
  | setid id => exact absurd rfl (hset id)
  | read c frm count noack =>
    cases frm with
    | some a => simp only [gstep, readGroup, hread c a count noack rfl, if_true]; exact h
    | none =>
      show Good (readGroup q stream g c none count noack).1
      rw [readGroup_new_eq]
      dsimp only
      split
      · refine good_of_delivery h hs count (agree_addPendingQ h.agree c (Or.inr ⟨?_, ?_⟩)) (addPendingQ_last q g c _)
          (addPendingQ_ids q g c _)
        · exact (sorted_rangeAfter hs g.lastDelivered count).imp idLt_ne
        · exact fun id hid e he e0 => idLt_le_false (mem_rangeAfter hid).2 (e0 ▸ h.behind e he)
      · split
        · exact good_of_delivery h hs count (agree_setLast h.agree _) rfl
            (fun e he => Or.inl (List.mem_map_of_mem he))
        · exact h
  | _ => exact (gstep_quiet q stream g rfl).good h

/-- With the repaired `add_pending` the agreement of the representations survives EVERY operation of a group —
    SETID backwards and explicit-id re-reads included — from every agreeing state. -/
theorem agree_gstep_fixed (q : Quirks) (hq : q.redeliverFix = true) (stream : List Id) {g : Group} (h : Agree g)
    (op : GOp) : Agree (gstep q stream g op).1 := by
  cases op with
  | setid id => exact agree_setLast h id
  | read c frm count noack =>
    cases frm with
    | some a =>
      simp only [gstep, readGroup]
      split
      · exact h
      · split
        · exact agree_addPendingQ h c (Or.inl hq)
        · exact h
    | none =>
      show Agree (readGroup q stream g c none count noack).1
      rw [readGroup_new_eq]
      dsimp only
      split
      · exact agree_addPendingQ h c (Or.inl hq)
      · split
        · exact agree_setLast h _
        · exact h
  | _ => exact (gstep_quiet q stream g rfl).2.2 h

theorem agree_run_fixed (q : Quirks) (hq : q.redeliverFix = true) (ops : List HOp) {σ : Code.Sys} (h : Agree σ.grp) :
    Agree (Code.run q σ ops).grp := by
  refine List.foldlRecOn ops (Code.hstep q) (motive := fun σ : Code.Sys => Agree σ.grp) h ?_
  intro σ h op _
  cases op with
  | add id => simp only [Code.hstep]; split <;> exact h
  | del ids => exact h
  | g op => exact agree_gstep_fixed q hq σ.stream h op

theorem good_hstep (q : Quirks) {σ : Code.Sys} (hs : StreamOk σ.stream σ.lastId) (h : Good σ.grp) (op : HOp)
    (hop : op.plainFor q = true) :
    StreamOk (Code.hstep q σ op).stream (Code.hstep q σ op).lastId ∧ Good (Code.hstep q σ op).grp := by
  cases op with
  | add id =>
    simp only [Code.hstep]
    split
    · exact ⟨hs, h⟩
    · rename_i hle; exact ⟨hs.add (idLt_of_not_idLe hle), h⟩
  | del ids => exact ⟨hs.del _, h⟩
  | g op =>
    exact ⟨hs, good_gstep q hs.sorted h op (fun id e => by subst e; cases hop)
      (fun c a count noack e => by subst e; exact hop)⟩

theorem good_run (q : Quirks) (ops : List HOp) : ∀ {σ : Code.Sys}, StreamOk σ.stream σ.lastId → Good σ.grp →
    (∀ op ∈ ops, op.plainFor q = true) → Good (Code.run q σ ops).grp := by
  induction ops with
  | nil => intro σ _ h _; exact h
  | cons op ops ih =>
    intro σ hs h hops
    obtain ⟨hs', h'⟩ := good_hstep q hs h op (hops op List.mem_cons_self)
    exact ih hs' h' (fun o ho => hops o (List.mem_cons_of_mem _ ho))

end Ferrous.Grp
