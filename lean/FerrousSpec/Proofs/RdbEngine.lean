/-
  RDB codec, part 2: the modelled engine operations — what each loader call does to a key that is
  absent or that the previous call created — and the store (`getDb`, `setDb`).
-/
import FerrousSpec.Proofs.RdbPrim
namespace Ferrous.Rdb
open Ferrous

def keys (db : Db) : List Bytes := db.map (·.key)

theorem findKey_fresh {db : Db} {k : Bytes} (h : k ∉ keys db) : findKey db k = none := by
  rw [findKey, List.find?_eq_none]
  exact fun x hx hk => h (List.mem_map.mpr ⟨x, hx, beq_iff_eq.mp hk⟩)

theorem findKey_put (db : Db) (k : Bytes) (v : Value) (dl : Option Nat) :
    findKey (putEntry db ⟨k, v, dl⟩) k = some ⟨k, v, dl⟩ := by
  induction db with
  | nil => simp [putEntry, findKey]
  | cons x xs ih =>
    unfold putEntry
    split
    · simp [findKey]
    · rename_i hne
      unfold findKey at ih ⊢
      simpa [hne] using ih

theorem putEntry_put (db : Db) (k : Bytes) (v v' : Value) (dl dl' : Option Nat) :
    putEntry (putEntry db ⟨k, v, dl⟩) ⟨k, v', dl'⟩ = putEntry db ⟨k, v', dl'⟩ := by
  induction db with
  | nil => simp [putEntry]
  | cons x xs ih => by_cases hx : x.key = k <;> simp [putEntry, hx, ih]

theorem putEntry_fresh (db : Db) (e : Entry) (h : e.key ∉ keys db) : putEntry db e = db ++ [e] := by
  induction db with
  | nil => rfl
  | cons x xs ih =>
    have ⟨hx, hxs⟩ := not_or.mp (mt List.mem_cons.mpr h)
    simp [putEntry, Ne.symm hx, ih hxs]

theorem eraseKey_append_single (db : Db) (e : Entry) (h : e.key ∉ keys db) :
    eraseKey (db ++ [e]) e.key = db := by
  have : db.filter (fun x => !(x.key == e.key)) = db :=
    List.filter_eq_self.mpr fun x hx => by
      have : x.key ≠ e.key := fun hk => h (hk ▸ List.mem_map_of_mem hx)
      simp [this]
  simp [eraseKey, List.filter_append, this]

theorem upsert_fresh {β : Type} (m : List (Bytes × β)) (k : Bytes) (v : β) (h : k ∉ m.map (·.1)) :
    upsert m k v = m ++ [(k, v)] := by
  induction m with
  | nil => rfl
  | cons p m ih =>
    have ⟨hp, hm⟩ := not_or.mp (mt List.mem_cons.mpr h)
    simp [upsert, Ne.symm hp, ih hm]

theorem upsertAll_nodup {β : Type} (m kvs : List (Bytes × β)) (h : ((m ++ kvs).map (·.1)).Nodup) :
    upsertAll m kvs = m ++ kvs := by
  induction kvs generalizing m with
  | nil => simp [upsertAll]
  | cons p kvs ih =>
    have hp : p.1 ∉ m.map (·.1) := by
      intro hm
      rw [List.map_append, List.nodup_append] at h
      exact h.2.2 _ hm _ (List.mem_map_of_mem List.mem_cons_self) rfl
    have := ih (m ++ [p]) (by simpa using h)
    unfold upsertAll at this ⊢
    rw [List.foldl_cons, upsert_fresh m p.1 p.2 hp, this, List.append_assoc]
    rfl

theorem insertAll_nodup (xs ys : List Bytes) (h : (xs ++ ys).Nodup) : insertAll xs ys = xs ++ ys := by
  induction ys generalizing xs with
  | nil => simp [insertAll]
  | cons y ys ih =>
    have hy : y ∉ xs := by
      intro hm
      rw [List.nodup_append] at h
      exact h.2.2 _ hm _ List.mem_cons_self rfl
    have := ih (xs ++ [y]) (by simpa using h)
    unfold insertAll at this ⊢
    rw [List.foldl_cons, show insertNew xs y = xs ++ [y] by simp [insertNew, hy], this, List.append_assoc]
    rfl

theorem lastId_append_single (acc : List SEntry) (e : SEntry) : lastId (acc ++ [e]) = (e.ms, e.seq) := by
  induction acc with
  | nil => rfl
  | cons a acc ih =>
    cases acc with
    | nil => rfl
    | cons b acc => simpa [lastId] using ih

theorem setValue_valid (db : Db) (e : Entry) (hd : dlOk e.deadline = true) :
    setValue true db e = .ok (putEntry db e) := by
  simp [setValue, hd]

theorem rpush_fresh (db : Db) (k x : Bytes) (h : k ∉ keys db) :
    rpush true db k x = .ok (putEntry db ⟨k, .list [x], none⟩) := by
  simp [rpush, findKey_fresh h]

theorem rpushMore_put (db : Db) (k : Bytes) (xs ys : List Bytes) (dl : Option Nat) :
    rpushMore (putEntry db ⟨k, .list xs, dl⟩) k ys = putEntry db ⟨k, .list (xs ++ ys), dl⟩ := by
  simp only [rpushMore, findKey_put, putEntry_put]

theorem sadd_fresh (db : Db) (k : Bytes) (ms : List Bytes) (h : k ∉ keys db) :
    sadd true db k ms = .ok (putEntry db ⟨k, .set (insertAll [] ms), none⟩) := by
  simp [sadd, findKey_fresh h]

theorem hset_fresh (db : Db) (k : Bytes) (fvs : List (Bytes × Bytes)) (h : k ∉ keys db) :
    hset true db k fvs = .ok (putEntry db ⟨k, .hash (upsertAll [] fvs), none⟩) := by
  simp [hset, findKey_fresh h]

theorem zadd_fresh (db : Db) (k m : Bytes) (score : Nat) (h : k ∉ keys db) :
    zadd true db k m score = .ok (putEntry db ⟨k, .zset [(m, score)], none⟩) := by
  simp [zadd, findKey_fresh h]

theorem zaddMore_put (db : Db) (k : Bytes) (zs items : List (Bytes × Nat)) (dl : Option Nat) :
    zaddMore (putEntry db ⟨k, .zset zs, dl⟩) k items = putEntry db ⟨k, .zset (upsertAll zs items), dl⟩ := by
  simp only [zaddMore, findKey_put, putEntry_put]

theorem ensureStream_fresh (db : Db) (k : Bytes) (h : k ∉ keys db) :
    ensureStream true db k = .ok (putEntry db ⟨k, .stream [], none⟩) := by
  simp [ensureStream, findKey_fresh h]

theorem ensureStream_put (db : Db) (k : Bytes) (es : List SEntry) (dl : Option Nat) :
    ensureStream true (putEntry db ⟨k, .stream es, dl⟩) k = .ok (putEntry db ⟨k, .stream es, dl⟩) := by
  simp [ensureStream, findKey_put]

theorem expireOpt_put (db : Db) (k : Bytes) (v : Value) (dl : Option Nat) (hd : dlOk dl = true) :
    expireOpt true (putEntry db ⟨k, v, none⟩) k dl = .ok (putEntry db ⟨k, v, dl⟩) := by
  cases dl with
  | none => rfl
  | some d => simp [expireOpt, expire, hd, findKey_put, putEntry_put]

def indices (s : Store) : List Nat := s.map (·.1)

def withDb (s : Store) (i : Nat) (db : Db) : Store := if db.isEmpty then s else s ++ [(i, db)]

theorem withDb_cons (p : Nat × Db) (s : Store) (i : Nat) (db : Db) : withDb (p :: s) i db = p :: withDb s i db := by
  unfold withDb
  split <;> rfl

theorem getDb_cons_ne (p : Nat × Db) (s : Store) (i : Nat) (h : i ≠ p.1) : getDb (p :: s) i = getDb s i := by
  have : (i == p.1) = false := by simpa using h
  simp [getDb, List.lookup, this]

theorem setDb_cons_ne (p : Nat × Db) (s : Store) (i : Nat) (db : Db) (h : i ≠ p.1) :
    setDb (p :: s) i db = p :: setDb s i db := by
  simp [setDb, Ne.symm h]

theorem getDb_withDb (s : Store) (i : Nat) (db : Db) (h : i ∉ indices s) : getDb (withDb s i db) i = db := by
  induction s with
  | nil => cases db <;> simp [withDb, getDb]
  | cons p s ih =>
    have ⟨hp, hs⟩ := not_or.mp (mt List.mem_cons.mpr h)
    rw [withDb_cons, getDb_cons_ne _ _ _ hp, ih hs]

theorem setDb_withDb (s : Store) (i : Nat) (db db' : Db) (h : i ∉ indices s) :
    setDb (withDb s i db) i db' = withDb s i db' := by
  induction s with
  | nil => cases db <;> cases db' <;> simp [withDb, setDb]
  | cons p s ih =>
    have ⟨hp, hs⟩ := not_or.mp (mt List.mem_cons.mpr h)
    rw [withDb_cons, setDb_cons_ne _ _ _ _ hp, ih hs, withDb_cons]

theorem mem_indices_withDb {s : Store} {i j : Nat} {db : Db} (h : j ∈ indices (withDb s i db)) :
    j ∈ indices s ∨ j = i := by
  unfold withDb at h
  split at h
  · exact Or.inl h
  · simpa [indices] using h

end Ferrous.Rdb
