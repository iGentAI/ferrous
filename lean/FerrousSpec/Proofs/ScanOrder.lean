/-
  Byte-wise order of keys (it is the lexicographic order of `List Nat`), insertion sort by any
  decidable relation, and the counting lemma behind the rank argument of C19.
-/
import FerrousSpec.Model.Scan
namespace Ferrous.Scan

theorem bytesLe_iff : ∀ {a b : Bytes}, bytesLe a b = true ↔ a ≤ b
  | [], b => by simp [bytesLe]
  | _ :: _, [] => by simp [bytesLe]
  | x :: as, y :: bs => by
    rw [bytesLe, List.cons_le_cons_iff, ← bytesLe_iff (a := as)]
    by_cases h : x < y
    · simp [h]
    · by_cases h' : x = y <;> simp [h, h']

theorem bytesLe_refl : ∀ a : Bytes, bytesLe a a = true := fun a => bytesLe_iff.mpr (List.le_refl a)

theorem bytesLt_iff {a b : Bytes} : bytesLt a b = true ↔ a ≤ b ∧ a ≠ b := by
  simp [bytesLt, bytesLe_iff]

theorem bytesLt_asymm {a b : Bytes} (h : bytesLt a b = true) (h' : bytesLt b a = true) : False :=
  (bytesLt_iff.mp h).2 (List.le_antisymm (bytesLt_iff.mp h).1 (bytesLt_iff.mp h').1)

theorem insertBy_perm (le : Bytes → Bytes → Bool) (x : Bytes) : ∀ l, (insertBy le x l).Perm (x :: l)
  | [] => .refl _
  | y :: l => by
    unfold insertBy
    split
    · exact .refl _
    · exact ((insertBy_perm le x l).cons y).trans (.swap x y l)

theorem sortBy_perm (le : Bytes → Bytes → Bool) : ∀ l, (sortBy le l).Perm l
  | [] => .refl _
  | x :: l => (insertBy_perm le x _).trans ((sortBy_perm le l).cons x)

/-- The sorted list is ordered by every transitive `R` that holds where `le` says yes and holds
    the other way round where it says no (`le` itself when it is total; for the order of
    (slot, name), the slots alone). -/
theorem pairwise_sortBy {le : Bytes → Bytes → Bool} {R : Bytes → Bytes → Prop} (hle : ∀ a b, le a b = true → R a b)
    (hnle : ∀ a b, le a b = false → R b a) (htr : ∀ a b c, R a b → R b c → R a c) :
    ∀ l, (sortBy le l).Pairwise R
  | [] => .nil
  | x :: l => insert x _ (pairwise_sortBy hle hnle htr l)
where
  insert (x : Bytes) : ∀ l, l.Pairwise R → (insertBy le x l).Pairwise R
    | [], _ => List.pairwise_singleton R x
    | z :: l, hs => by
      have hz := List.pairwise_cons.mp hs
      unfold insertBy
      cases hxz : le x z with
      | true =>
        refine List.pairwise_cons.mpr ⟨fun b hb => ?_, hs⟩
        rcases List.mem_cons.mp hb with rfl | hb
        · exact hle x b hxz
        · exact htr x z b (hle x z hxz) (hz.1 b hb)
      | false =>
        refine List.pairwise_cons.mpr ⟨fun b hb => ?_, insert x l hz.2⟩
        rcases List.mem_cons.mp ((insertBy_perm le x l).mem_iff.mp hb) with rfl | hb
        · exact hnle b z hxz
        · exact hz.1 b hb

theorem sortKeys_eq : ∀ l, sortKeys l = sortBy bytesLe l
  | [] => rfl
  | x :: l => by
    rw [sortKeys, sortBy, sortKeys_eq l]
    induction sortBy bytesLe l with
    | nil => rfl
    | cons y l ih => rw [insertKey, insertBy, ih]

theorem sortKeys_perm (l : List Bytes) : (sortKeys l).Perm l := sortKeys_eq l ▸ sortBy_perm bytesLe l

/-- Strictly increasing (what `sort()` yields on the distinct keys of a `HashMap`). -/
def Sorted (l : List Bytes) : Prop := l.Pairwise (fun a b => bytesLt a b = true)

theorem Sorted.nodup {l : List Bytes} (h : Sorted l) : l.Nodup :=
  List.Pairwise.imp (fun hab => (bytesLt_iff.mp hab).2) h

theorem sorted_sortKeys (l : List Bytes) (h : l.Nodup) : Sorted (sortKeys l) := by
  rw [sortKeys_eq]
  have hle : (sortBy bytesLe l).Pairwise (· ≤ ·) :=
    pairwise_sortBy (fun _ _ => bytesLe_iff.mp)
      (fun a b hab => (List.le_total a b).resolve_left fun h' => by rw [bytesLe_iff.mpr h'] at hab; cases hab)
      (fun _ _ _ => List.le_trans) l
  exact hle.imp₂ (fun _ _ h1 h2 => bytesLt_iff.mpr ⟨h1, h2⟩) ((sortBy_perm _ l).nodup_iff.mpr h)

theorem Sorted.mem_take_of_lt {l : List Bytes} (hs : Sorted l) {j : Nat} {k : Bytes} (h : l[j]? = some k)
    {x : Bytes} (hx : x ∈ l) (hlt : bytesLt x k = true) : x ∈ l.take j := by
  obtain ⟨hj, rfl⟩ := List.getElem?_eq_some_iff.mp h
  rw [← List.take_append_drop j l, List.mem_append, List.drop_eq_getElem_cons hj] at hx
  rcases hx with hx | hx
  · exact hx
  · have hd : Sorted (l[j] :: l.drop (j + 1)) := List.drop_eq_getElem_cons hj ▸ List.Pairwise.drop hs
    rcases List.mem_cons.mp hx with rfl | hx
    · exact absurd rfl (bytesLt_iff.mp hlt).2
    · exact (bytesLt_asymm hlt ((List.pairwise_cons.mp hd).1 x hx)).elim

/-- **The rank step.**  `k` sits at or after rank `c` of the sorted list `l`; every one of the first
    `c` elements of `l` is still in the sorted list `l'`, and so is `k`: then `k` sits at or after
    rank `c` of `l'` (whatever else was added to or removed from `l'`). -/
theorem rank_step {l l' : List Bytes} (hs : Sorted l) (hs' : Sorted l') {c : Nat} {k : Bytes}
    (hk : k ∈ l.drop c) (hkeep : ∀ x ∈ l.take c, x ∈ l') (hk' : k ∈ l') : k ∈ l'.drop c := by
  obtain ⟨j', hj'⟩ := List.mem_iff_getElem?.mp hk'
  -- the first c elements of l are distinct, smaller than k, and so among the first j' of l'
  have hsub : l.take c ⊆ l'.take j' := fun x hx =>
    hs'.mem_take_of_lt hj' (hkeep x hx) (hs.rel_of_mem_take_of_mem_drop hx hk)
  have := (hs.nodup.sublist (List.take_sublist c l)).length_le_of_subset hsub
  have hcl := List.length_pos_of_mem hk
  obtain ⟨hlt, rfl⟩ := List.getElem?_eq_some_iff.mp hj'
  simp only [List.length_take, List.length_drop] at this hcl
  exact List.mem_drop_iff_getElem.mpr ⟨j' - c, by omega, by simp only [show c + (j' - c) = j' by omega]⟩

end Ferrous.Scan
