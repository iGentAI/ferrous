/-
  Helper lemmas for C17.  `LockedOut pw b s` — the server runs with password `pw` and connection `b` is `low`, neither
  authenticated nor blocked — is what every frame, batch and event keeps true of a connection that does not present the
  password (`frame_low` … `run_low`).  `processFrame_gated` is the frame behind the gate: for such a connection
  `process_frame` is the `match` on the allow-list, from which `gate_refuses` / `unauth_refused` read the refusal.
-/
import FerrousSpec.Model.Auth
import FerrousSpec.Proofs.NameCode
namespace Ferrous.Auth
open Ferrous

/-! ### Names of the tables as bytes

`nameBytes` goes through `String.toList`, which decodes the string's UTF-8 bytes; the kernel pays for that decoding
at every name of a table.  For ASCII text the bytes are the code points, and the bytes of a literal need no decoding:
`nameBytes_eq_asciiBytes` lets an evaluation read them instead. -/

def utf8Bytes (s : String) : Bytes := s.toByteArray.data.toList.map UInt8.toNat

theorem utf8EncodeChar_ascii (c : Char) (h : ∀ b ∈ String.utf8EncodeChar c, b.toNat < 128) :
    (String.utf8EncodeChar c).map UInt8.toNat = [c.toNat] := by
  have hv : c.val.toNat ≤ 127 := by
    apply Decidable.byContradiction
    intro hv
    unfold String.utf8EncodeChar at h
    simp only [if_neg hv] at h
    -- a character of two to four bytes starts with a byte ≥ 0xc0
    split at h
    · have := h _ (List.mem_cons_self ..); simp only [UInt8.toNat_ofNat'] at this; omega
    · split at h <;> (have := h _ (List.mem_cons_self ..); simp only [UInt8.toNat_ofNat'] at this; omega)
  unfold String.utf8EncodeChar
  simp only [if_pos hv, List.map_cons, List.map_nil, UInt8.toNat_ofNat']
  show [_] = [c.val.toNat]
  congr 1; omega

theorem map_toNat_of_ascii (l : List Char) (h : ∀ b ∈ l.flatMap String.utf8EncodeChar, b.toNat < 128) :
    l.map Char.toNat = (l.flatMap String.utf8EncodeChar).map UInt8.toNat := by
  induction l with
  | nil => rfl
  | cons c t ih =>
    simp only [List.flatMap_cons, List.mem_append] at h
    rw [List.flatMap_cons, List.map_append, utf8EncodeChar_ascii c (fun b hb => h b (.inl hb)), List.map_cons,
      ih (fun b hb => h b (.inr hb))]
    rfl

def asciiBytes (s : String) : Bytes := if (utf8Bytes s).all (· < 128) then utf8Bytes s else nameBytes s

theorem nameBytes_eq_asciiBytes (s : String) : nameBytes s = asciiBytes s := by
  unfold asciiBytes
  split
  · rename_i h
    obtain ⟨l, rfl⟩ := s.exists_eq_ofList
    have hl : utf8Bytes (String.ofList l) = (l.flatMap String.utf8EncodeChar).map UInt8.toNat := by
      simp [utf8Bytes, List.utf8Encode]
    rw [hl] at h ⊢
    rw [nameBytes, String.toList_ofList]
    exact map_toNat_of_ascii l fun b hb => of_decide_eq_true (List.all_eq_true.1 h _ (List.mem_map_of_mem hb))
  · rfl

theorem stateOf_setState_self (cs : List Conn) (c : Nat) (st : CState) :
    stateOf (setState cs c st) c = (stateOf cs c).map fun _ => st := by
  induction cs with
  | nil => rfl
  | cons x t ih => by_cases hx : x.id = c <;> simp [setState, stateOf, hx, ih]

theorem stateOf_setState_other (cs : List Conn) (c b : Nat) (st : CState) (hb : b ≠ c) :
    stateOf (setState cs c st) b = stateOf cs b := by
  induction cs with
  | nil => rfl
  | cons x t ih =>
    by_cases hx : x.id = c
    · simp [setState, stateOf, hx, Ne.symm hb]
    · simp [setState, stateOf, hx, ih]

theorem stateOf_removeConn (cs : List Conn) (c b : Nat) :
    stateOf (removeConn cs c) b = if b = c then none else stateOf cs b := by
  induction cs with
  | nil => simp [removeConn, stateOf]
  | cons x t ih =>
    rw [removeConn, stateOf]
    by_cases hx : x.id = c
    · subst hx
      rw [if_pos rfl, ih]
      split
      · rfl
      · rename_i hb; rw [if_neg (Ne.symm hb)]
    · rw [if_neg hx, stateOf, ih]
      split
      · rename_i hb; rw [if_neg fun h => hx (hb.trans h)]
      · rfl

theorem setState_absent (cs : List Conn) (c : Nat) (st : CState) (h : stateOf cs c = none) : setState cs c st = cs := by
  induction cs with
  | nil => rfl
  | cons x t ih =>
    by_cases hx : x.id = c
    · simp [stateOf, hx] at h
    · rw [stateOf, if_neg hx] at h
      rw [setState, if_neg hx, ih h]

/-- no live connection has an id below the first id the accept loop hands out -/
theorem stateOf_below_start (cs : List Conn) (start i : Nat) (hids : ∀ x ∈ cs, start ≤ x.id) (hi : i < start) :
    stateOf cs i = none := by
  induction cs with
  | nil => rfl
  | cons x t ih =>
    have hx : ¬ x.id = i := fun h => by have := hids x (by simp); omega
    rw [stateOf, if_neg hx]
    exact ih (fun y hy => hids y (by simp [hy]))

theorem low_none : low none := by simp [low]
theorem low_connected : low (some .connected) := by simp [low]
theorem low_closing : low (some .closing) := by simp [low]

theorem low_setState {cs : List Conn} {c b : Nat} {st : CState} (hb : low (stateOf cs b)) (h : b = c → low (some st)) :
    low (stateOf (setState cs c st) b) := by
  by_cases hbc : b = c
  · subst hbc
    rw [stateOf_setState_self]
    cases stateOf cs b with
    | none => exact low_none
    | some _ => exact h rfl
  · rw [stateOf_setState_other _ _ _ _ hbc]; exact hb

theorem findArm_none_iff (arms : List (Bytes × Arm)) (n : Bytes) :
    findArm arms n = none ↔ n ∉ arms.map (·.1) := by
  induction arms with
  | nil => simp [findArm]
  | cons p t ih =>
    obtain ⟨k, a⟩ := p
    unfold findArm
    by_cases hk : k = n
    · simp [hk]
    · have hk' : ¬ n = k := fun h => hk h.symm
      simp [hk, hk', ih]

theorem findArm_known {arms : List (Bytes × Arm)} (hk : (arms.all fun p => p.2 != .other) = true) (n : Bytes) :
    findArm arms n ≠ some .other := by
  induction arms with
  | nil => simp [findArm]
  | cons p t ih =>
    simp only [List.all_cons, Bool.and_eq_true, bne_iff_ne] at hk
    unfold findArm
    split
    · exact fun h => hk.1 (Option.some.inj h)
    · exact ih hk.2

section
variable {D R : Type}

theorem auth_cases (s : Server D) (c : Nat) (args : List Arg) :
    (∃ pw, s.password = some pw ∧ args = [some pw] ∧ utf8Valid pw = true ∧
        (Code.auth s c args : Server D × Reply D R) =
          ({ s with conns := setState s.conns c .authenticated }, .ok)) ∨
    ((¬ ∃ pw, s.password = some pw ∧ args = [some pw] ∧ utf8Valid pw = true) ∧
        (Code.auth s c args : Server D × Reply D R) = (s, .error .other)) := by
  unfold Code.auth
  match args with
  | [] => right; simp
  | [none] => right; simp
  | _ :: _ :: _ => right; simp
  | [some p] =>
    by_cases hv : utf8Valid p = true
    · cases hp : s.password with
      | none => right; simp [hv]
      | some pw =>
        by_cases he : p = pw
        · subst he
          left; exact ⟨p, rfl, rfl, hv, by simp [hv]⟩
        · right; simp [hv, he]
    · right
      simp only [hv]
      refine ⟨?_, by simp⟩
      rintro ⟨pw, _, h1, h2⟩
      have : p = pw := by simpa using h1
      exact hv (this ▸ h2)

theorem auth_authenticates_iff (s : Server D) (c : Nat) (args : List Arg) (pw : Bytes) (hpw : s.password = some pw)
    (hutf : utf8Valid pw = true) (hc : stateOf s.conns c = some .connected) :
    stateOf (Code.auth s c args : Server D × Reply D R).1.conns c = some .authenticated ↔ args = [some pw] := by
  rcases auth_cases (R := R) s c args with ⟨pw', hp', ha, _, he⟩ | ⟨hno, he⟩
  · obtain rfl : pw = pw' := Option.some.inj (hpw.symm.trans hp')
    rw [he]
    simp [stateOf_setState_self, hc, ha]
  · rw [he, hc]
    exact ⟨fun hx => (nomatch hx), fun ha => absurd ⟨pw, hpw, ha, hutf⟩ hno⟩

/-- What one frame does to the state: nothing; the calling connection authenticated by the exact password; the calling
    connection registered as a replica by a special case before the gate; or a dispatch, with the reason it got there. -/
inductive FrameOutcome (cfg : Cfg) (h : Dispatch D R) (s : Server D) (c : Nat) (req : Req) (s' : Server D) : Prop
  | same : s' = s → FrameOutcome cfg h s c req s'
  | authed : (∀ pw, s.password = some pw → isExactAuth cfg pw req = true) →
      s' = { s with conns := setState s.conns c .authenticated } → FrameOutcome cfg h s c req s'
  | replica : s' = Code.registerReplica s c →
      (∃ name args, req = .cmd name args ∧ cfg.normLoop name ∈ cfg.preGate) → FrameOutcome cfg h s c req s'
  | dispatched (name : Bytes) (args : List Arg) : s' = (h s c name args).1 →
      ((s.password.isSome → stateOf s.conns c = some .authenticated) ∨
        (∃ a, req = .cmd name a ∧ cfg.normLoop name ∈ cfg.preGate) ∨
        (∃ a, req = .cmd name a ∧ findArm cfg.allow (cfg.normFrame name) = some .other)) →
      FrameOutcome cfg h s c req s'

theorem auth_outcome (cfg : Cfg) (h : Dispatch D R) (s : Server D) (c : Nat) (name : Bytes) (args : List Arg)
    (hn : isAuthName cfg (cfg.normFrame name) = true) :
    FrameOutcome cfg h s c (.cmd name args) (Code.auth s c args : Server D × Reply D R).1 := by
  rcases auth_cases (R := R) s c args with ⟨pw, hpw, ha, _, he⟩ | ⟨_, he⟩
  · rw [he]
    refine .authed (fun pw' hpw' => ?_) rfl
    obtain rfl : pw = pw' := Option.some.inj (hpw.symm.trans hpw')
    simp [isExactAuth, hn, ha, Spec.authenticates]
  · rw [he]; exact .same rfl

theorem syncCommand_outcome (cfg : Cfg) (h : Dispatch D R) (s : Server D) (c : Nat) (name : Bytes) (args : List Arg)
    (hp : cfg.normLoop name ∈ cfg.preGate) :
    FrameOutcome cfg h s c (.cmd name args) (Code.syncCommand h s c (cfg.normLoop name) name args).1 := by
  have hrep : FrameOutcome cfg h s c (.cmd name args) (Code.registerReplica s c) :=
    .replica rfl ⟨name, args, rfl, hp⟩
  unfold Code.syncCommand
  by_cases h1 : cfg.normLoop name = SYNC
  · rw [if_pos h1]; exact hrep
  rw [if_neg h1]
  by_cases h2 : cfg.normLoop name = PSYNC
  · rw [if_pos h2]
    split
    · split
      · exact hrep
      · split
        · exact .same rfl
        · split
          · exact .same rfl
          · exact hrep
    · exact .same rfl
    · exact .same rfl
  · rw [if_neg h2]
    exact .dispatched name args rfl (Or.inr (Or.inl ⟨args, rfl, hp⟩))

theorem processConnectionFrame_cmd (cfg : Cfg) (h : Dispatch D R) (s : Server D) (c : Nat) (name : Bytes) (args : List Arg)
    (hpre : cfg.normLoop name ∉ cfg.preGate) :
    Code.processConnectionFrame cfg h s c (.cmd name args) = Code.processFrame cfg h s c (.cmd name args) :=
  if_neg hpre

theorem frame_outcome (cfg : Cfg) (h : Dispatch D R) (s : Server D) (c : Nat) (req : Req) :
    FrameOutcome cfg h s c req (Code.processConnectionFrame cfg h s c req).1 := by
  match req with
  | .notArray => exact .same rfl
  | .badName => exact .same rfl
  | .cmd name args =>
    by_cases hp : cfg.normLoop name ∈ cfg.preGate
    · rw [show Code.processConnectionFrame cfg h s c (.cmd name args) = _ from if_pos hp]
      exact syncCommand_outcome cfg h s c name args hp
    rw [processConnectionFrame_cmd cfg h s c name args hp]
    unfold Code.processFrame
    simp only
    split
    · exact .same rfl
    next st hst =>
      split
      · split
        next hf => exact auth_outcome cfg h s c name args (by simp [isAuthName, hf])
        · exact .same rfl
        · exact .same rfl
        next hf => exact .dispatched name args rfl (.inr (.inr ⟨args, rfl, hf⟩))
        · exact .same rfl
      next hg =>
        split
        next hn => exact auth_outcome cfg h s c name args (by simp [isAuthName, hn])
        · refine .dispatched name args rfl (.inl fun hpw => ?_)
          rw [hst, Decidable.not_not.1 fun hne => hg ⟨hpw, hne⟩]

theorem processFrame_gated (cfg : Cfg) (h : Dispatch D R) (s : Server D) (c : Nat) (name : Bytes) (args : List Arg)
    (st : CState) (hc : stateOf s.conns c = some st) (hpw : s.password.isSome = true) (hst : st ≠ .authenticated) :
    Code.processFrame cfg h s c (.cmd name args) =
      match findArm cfg.allow (cfg.normFrame name) with
      | some .auth => Code.auth s c args
      | some .ping => (s, Code.ping args)
      | some .okOnly => (s, .ok)
      | some .other => let (s', r) := h s c name args; (s', .dispatched r)
      | none => (s, .error .noauth) := by
  unfold Code.processFrame
  simp only [hc]
  rw [if_pos ⟨hpw, hst⟩]
  rfl

theorem gate_refuses (cfg : Cfg) (h : Dispatch D R) (s : Server D) (c : Nat) (name : Bytes) (args : List Arg)
    (hpw : s.password.isSome = true) (hst : stateOf s.conns c ≠ some .authenticated)
    (hallow : cfg.normFrame name ∉ cfg.allow.map (·.1)) (hpre : cfg.normLoop name ∉ cfg.preGate) :
    ∃ k, Code.processConnectionFrame cfg h s c (.cmd name args) = (s, .error k) := by
  rw [processConnectionFrame_cmd cfg h s c name args hpre]
  cases hc : stateOf s.conns c with
  | none => exact ⟨.other, by simp only [Code.processFrame, hc]⟩
  | some st =>
    rw [processFrame_gated cfg h s c name args st hc hpw (fun e => hst (by rw [hc, e])), (findArm_none_iff _ _).2 hallow]
    exact ⟨.noauth, rfl⟩

/-- A malformed request is answered with an error and changes nothing, whoever sends it. -/
theorem malformed_refused (cfg : Cfg) (h : Dispatch D R) (s : Server D) (c : Nat) (req : Req)
    (hreq : req = .badName ∨ req = .notArray) :
    Code.processConnectionFrame cfg h s c req = (s, .error .other) := by
  rcases hreq with rfl | rfl <;> rfl

/-- The server runs with password `pw` and connection `b` is neither authenticated nor blocked: what every step keeps
    true of a connection that does not present the password. -/
def LockedOut (pw : Bytes) (b : Nat) (s : Server D) : Prop := s.password = some pw ∧ low (stateOf s.conns b)

theorem unauth_refused (cfg : Cfg) (h : Dispatch D R) {s : Server D} {pw : Bytes} {c : Nat} (hl : LockedOut pw c s) (req : Req)
    (hallow : ∀ name args, req = .cmd name args → cfg.normFrame name ∉ cfg.allow.map (·.1))
    (hpre : ∀ name args, req = .cmd name args → cfg.normLoop name ∉ cfg.preGate) :
    ∃ k, Code.processConnectionFrame cfg h s c req = (s, .error k) :=
  match req with
  | .badName => ⟨.other, rfl⟩
  | .notArray => ⟨.other, rfl⟩
  | .cmd name args =>
    gate_refuses cfg h s c name args (by rw [hl.1]; rfl) hl.2.1 (hallow name args rfl) (hpre name args rfl)

theorem frame_low {cfg : Cfg} {h : Dispatch D R} (hh : Honest h) {s : Server D} {pw : Bytes} {b : Nat}
    (hl : LockedOut pw b s) (c : Nat) (req : Req) (hno : b = c → isExactAuth cfg pw req = false) :
    LockedOut pw b (Code.processConnectionFrame cfg h s c req).1 := by
  cases frame_outcome cfg h s c req with
  | same e => rw [e]; exact hl
  | authed hex e =>
    rw [e]
    exact ⟨hl.1, low_setState hl.2 fun hbc => absurd ((hno hbc).symm.trans (hex pw hl.1)) Bool.false_ne_true⟩
  | replica e _ => rw [e]; exact hl
  | dispatched name args e _ =>
    rw [e]
    exact ⟨by rw [hh.keepsPassword, hl.1], hh.keepsLow s c name args b hl.2⟩

theorem runFrames_low {cfg : Cfg} {h : Dispatch D R} (hh : Honest h) (c : Nat) {pw : Bytes} {b : Nat}
    (reqs : List Req) (hno : b = c → ∀ r ∈ reqs, isExactAuth cfg pw r = false) :
    ∀ {s : Server D}, LockedOut pw b s → LockedOut pw b (Code.runFrames cfg h s c reqs).1 := by
  induction reqs with
  | nil => exact id
  | cons r rs ih =>
    intro s hl
    exact ih (fun e r' hr' => hno e r' (by simp [hr'])) (frame_low hh hl c r fun e => hno e r (by simp))

theorem runFrames_length (cfg : Cfg) (h : Dispatch D R) (c : Nat) (reqs : List Req) :
    ∀ s : Server D, (Code.runFrames cfg h s c reqs).2.length = reqs.length := by
  induction reqs with
  | nil => intro s; rfl
  | cons r rs ih => intro s; exact congrArg (· + 1) (ih _)

theorem runFramesD_prefix (cfg : Cfg) (h : Dispatch D R) (c : Nat) (reqs : List Req) :
    ∀ s : Server D, ∃ k,
      (Code.runFramesD cfg h s c reqs).1 = (Code.runFrames cfg h s c (reqs.take k)).1 ∧
      (Code.runFramesD cfg h s c reqs).2.1 = (Code.runFrames cfg h s c (reqs.take k)).2 := by
  induction reqs with
  | nil => intro s; exact ⟨0, rfl, rfl⟩
  | cons r rs ih =>
    intro s
    obtain ⟨k, h1, h2⟩ := ih (Code.processConnectionFrame cfg h s c r).1
    unfold Code.runFramesD
    simp only
    split
    · exact ⟨1, rfl, rfl⟩
    · split
      · exact ⟨1, rfl, rfl⟩
      · exact ⟨k + 1, h1, congrArg (_ :: ·) h2⟩

theorem runFramesD_replies_length_le (cfg : Cfg) (h : Dispatch D R) (c : Nat) (reqs : List Req) (s : Server D) :
    (Code.runFramesD cfg h s c reqs).2.1.length ≤ reqs.length := by
  obtain ⟨k, _, h2⟩ := runFramesD_prefix cfg h c reqs s
  rw [h2, runFrames_length, List.length_take]
  exact Nat.min_le_right _ _

theorem processBatch_low {cfg : Cfg} {h : Dispatch D R} (hh : Honest h) {s : Server D} {pw : Bytes} {b : Nat}
    (hl : LockedOut pw b s) (c : Nat) (reqs : List Req) (hno : b = c → ∀ r ∈ reqs, isExactAuth cfg pw r = false) :
    LockedOut pw b (Code.processBatch cfg h s c reqs).1 := by
  obtain ⟨k, hk, _⟩ := runFramesD_prefix cfg h c reqs s
  have h1 := runFrames_low hh c (reqs.take k) (fun e r hr => hno e r (List.mem_of_mem_take hr)) hl
  unfold Code.processBatch
  simp only [hk]
  split
  · exact ⟨h1.1, low_setState h1.2 fun _ => low_closing⟩
  · exact h1

/-- `b` never presents the exact password in this history. -/
def neverAuthenticates (cfg : Cfg) (pw : Bytes) (b : Nat) (evs : List Code.Event) : Prop :=
  ∀ reqs, Code.Event.batch b reqs ∈ evs → ∀ r ∈ reqs, isExactAuth cfg pw r = false

theorem neverAuthenticates_of_all {cfg : Cfg} {pw : Bytes} {b : Nat} {evs : List Code.Event}
    (h : (evs.all fun e => match e with
      | .batch c reqs => c != b || reqs.all fun r => !isExactAuth cfg pw r
      | _ => true) = true) : neverAuthenticates cfg pw b evs := by
  intro reqs hm r hr
  have := List.all_eq_true.1 h _ hm
  simp only [bne_self_eq_false, Bool.false_or, List.all_eq_true, Bool.not_eq_true'] at this
  exact this r hr

theorem applyEvent_low {cfg : Cfg} {h : Dispatch D R} (hh : Honest h) {s : Server D} {pw : Bytes} {b : Nat}
    (hl : LockedOut pw b s) (e : Code.Event)
    (hno : ∀ reqs, e = .batch b reqs → ∀ r ∈ reqs, isExactAuth cfg pw r = false) :
    LockedOut pw b (Code.applyEvent cfg h s e).1 := by
  cases e with
  | accept c =>
    simp only [Code.applyEvent]
    split
    · exact hl
    · refine ⟨hl.1, ?_⟩
      simp only [hl.1, Option.isSome_some, if_true, stateOf]
      split
      · exact low_connected
      · exact hl.2
  | batch c reqs => exact processBatch_low hh hl c reqs fun e => hno reqs (by rw [e])
  | wake c =>
    simp only [Code.applyEvent]
    split
    · rename_i hc
      exact ⟨hl.1, low_setState hl.2 fun hbc => absurd (hbc ▸ hc) hl.2.2⟩
    · exact hl
  | close c => exact ⟨hl.1, low_setState hl.2 fun _ => low_closing⟩
  | drop c =>
    refine ⟨hl.1, ?_⟩
    simp only [Code.applyEvent, stateOf_removeConn]
    split
    · exact low_none
    · exact hl.2

theorem run_low {cfg : Cfg} {h : Dispatch D R} (hh : Honest h) {pw : Bytes} {b : Nat} (evs : List Code.Event)
    (hno : neverAuthenticates cfg pw b evs) :
    ∀ {s : Server D}, LockedOut pw b s → LockedOut pw b (Code.run cfg h s evs).1 := by
  induction evs with
  | nil => exact id
  | cons e es ih =>
    intro s hl
    exact ih (fun reqs hm => hno reqs (by simp [hm]))
      (applyEvent_low hh hl e fun reqs he => hno reqs (by simp [he]))

theorem runFramesD_low {cfg : Cfg} {h : Dispatch D R} (hh : Honest h) (c : Nat) {pw : Bytes}
    (reqs : List Req) (hno : ∀ r ∈ reqs, isExactAuth cfg pw r = false)
    (hq : cfg.quitEndsBatch = true → ∀ r ∈ reqs, Code.isQuit cfg r = false) :
    ∀ {s : Server D}, LockedOut pw c s →
      Code.runFramesD cfg h s c reqs = ((Code.runFrames cfg h s c reqs).1, (Code.runFrames cfg h s c reqs).2, []) := by
  induction reqs with
  | nil => intro s _; rfl
  | cons r rs ih =>
    intro s hl
    have h1 := frame_low hh hl c r fun _ => hno r (by simp)
    have hnq : (cfg.quitEndsBatch && Code.isQuit cfg r) = false := by
      cases hb : cfg.quitEndsBatch with
      | false => rfl
      | true => simp [hq hb r (by simp)]
    have := ih (fun r' hr' => hno r' (by simp [hr'])) (fun hb r' hr' => hq hb r' (by simp [hr'])) h1
    simp only [Code.runFramesD, Code.runFrames, h1.2.2, hnq, if_false, Bool.false_eq_true, this]

theorem runFramesD_behind_quit (cfg : Cfg) (hq : cfg.quitEndsBatch = true) (h : Dispatch D R) (c : Nat)
    (q : Req) (hquit : Code.isQuit cfg q = true) (post : List Req) (pre : List Req) :
    ∀ (s : Server D),
      (Code.runFramesD cfg h s c (pre ++ q :: post)).1 = (Code.runFramesD cfg h s c (pre ++ [q])).1 ∧
      (Code.runFramesD cfg h s c (pre ++ q :: post)).2.1 = (Code.runFramesD cfg h s c (pre ++ [q])).2.1 := by
  induction pre with
  | nil =>
    intro s
    simp [Code.runFramesD, hq, hquit]
  | cons r rs ih =>
    intro s
    have := ih (Code.processConnectionFrame cfg h s c r).1
    simp only [List.cons_append, Code.runFramesD]
    split
    · exact ⟨rfl, rfl⟩
    · split
      · exact ⟨rfl, rfl⟩
      · exact ⟨this.1, by rw [this.2]⟩

theorem runFrames_append (cfg : Cfg) (h : Dispatch D R) (c : Nat) (xs ys : List Req) :
    ∀ s : Server D, Code.runFrames cfg h s c (xs ++ ys) =
      ((Code.runFrames cfg h (Code.runFrames cfg h s c xs).1 c ys).1,
       (Code.runFrames cfg h s c xs).2 ++ (Code.runFrames cfg h (Code.runFrames cfg h s c xs).1 c ys).2) := by
  induction xs with
  | nil => intro s; simp [Code.runFrames]
  | cons x xs ih => intro s; simp [Code.runFrames, ih]

/-- The data an unauthenticated connection must not touch. -/
def sameData (s s' : Server D) : Prop :=
  s'.password = s.password ∧ s'.store = s.store ∧ s'.subs = s.subs ∧ s'.replicas = s.replicas ∧
  s'.monitors = s.monitors ∧ s'.replId = s.replId ∧ s'.backlogStart = s.backlogStart ∧ s'.backlogSize = s.backlogSize

theorem sameData_trans {a b c : Server D} (h1 : sameData a b) (h2 : sameData b c) : sameData a c := by
  obtain ⟨a1, a2, a3, a4, a5, a6, a7, a8⟩ := h1
  obtain ⟨b1, b2, b3, b4, b5, b6, b7, b8⟩ := h2
  exact ⟨b1.trans a1, b2.trans a2, b3.trans a3, b4.trans a4, b5.trans a5, b6.trans a6, b7.trans a7, b8.trans a8⟩

theorem unauth_frame_harmless (cfg : Cfg) (hk : cfg.allowKnown = true) (h : Dispatch D R) (s : Server D) (c : Nat)
    (req : Req) (pw : Bytes) (hpw : s.password = some pw) (hst : stateOf s.conns c ≠ some .authenticated)
    (hpre : ∀ name args, req = .cmd name args → cfg.normLoop name ∉ cfg.preGate) :
    let s' := (Code.processConnectionFrame cfg h s c req).1
    sameData s s' ∧ (∀ b, b ≠ c → stateOf s'.conns b = stateOf s.conns b) ∧
    (isExactAuth cfg pw req = false → s' = s) := by
  intro s'
  have ho : FrameOutcome cfg h s c req s' := frame_outcome cfg h s c req
  cases ho with
  | same e => rw [e]; exact ⟨by simp [sameData], fun _ _ => rfl, fun _ => rfl⟩
  | authed hex e =>
    rw [e]
    exact ⟨by simp [sameData], fun b hb => stateOf_setState_other _ _ _ _ hb,
      fun hno => absurd (hno.symm.trans (hex pw hpw)) Bool.false_ne_true⟩
  | replica _ hp =>
    obtain ⟨name, args, hr, hm⟩ := hp
    exact absurd hm (hpre name args hr)
  | dispatched name args _ hwhy =>
    rcases hwhy with hauth | ⟨a, hr, hm⟩ | ⟨a, _, hf⟩
    · exact absurd (hauth (by simp [hpw])) hst
    · exact absurd hm (hpre name a hr)
    · exact absurd hf (findArm_known hk _)

end
end Ferrous.Auth
