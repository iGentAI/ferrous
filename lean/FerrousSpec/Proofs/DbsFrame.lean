/-
  C18 — the key-space machine touches one database: frame rule, locality, and isolation over access lists.
-/
import FerrousSpec.Model.Dbs
namespace Ferrous.Dbs
open Ferrous Ferrous.KS

theorem getDb_setDb_ne (s : Store) (i j : Nat) (db : Db) (h : j ≠ i) : getDb (setDb s i db) j = getDb s j := by
  simp [getDb, setDb, List.getD, h.symm]

theorem getDb_setDb_self (s : Store) (i : Nat) (db : Db) (h : i < s.length) : getDb (setDb s i db) i = db := by
  simp [getDb, setDb, List.getD, h]

theorem getDb_setDb_self_ge (s : Store) (i : Nat) (db : Db) (h : s.length ≤ i) : getDb (setDb s i db) i = [] := by
  simp [getDb, setDb, List.getD, Nat.not_lt.mpr h]

theorem getDb_flushed (s : Store) (j : Nat) : getDb (s.map fun _ => ([] : Db)) j = [] := by
  simp [getDb, List.getD]
  cases s[j]? <;> simp

theorem getDb_ge (s : Store) (i : Nat) (h : s.length ≤ i) : getDb s i = [] := by
  simp [getDb, List.getD, List.getElem?_eq_none h]

/-- `KS.step` spelled out with `nameOf` -/
theorem step_eq (q : Quirks) (s : Store) (i now : Nat) (cmd : List Bytes) (obs : Option (List Bytes)) :
    KS.step q s i now cmd obs =
      match cmd with
      | [] => (s, err)
      | n :: args =>
        if isFlushAll (n :: args) = true then
          (if args.isEmpty then (s.map fun _ => [], ok) else (s, err))
        else
          (setDb s i (stepDb q (purge now (getDb s i)) now (nameOf (n :: args)) args obs).1,
           (stepDb q (purge now (getDb s i)) now (nameOf (n :: args)) args obs).2) := by
  cases cmd with
  | nil => rfl
  | cons n args =>
    simp only [KS.step, isFlushAll, nameOf, beq_iff_eq]

theorem step_length (q : Quirks) (s : Store) (i now : Nat) (cmd : List Bytes) (obs : Option (List Bytes)) :
    (KS.step q s i now cmd obs).1.length = s.length := by
  rw [step_eq]
  cases cmd with
  | nil => rfl
  | cons n args =>
    simp only []
    split
    · split <;> simp
    · simp [setDb]

/-- Frame rule: a command executed on database `i` — any command of the machine but FLUSHALL, any
    arguments, any store — leaves every other database exactly as it was. -/
theorem step_frame (q : Quirks) (s : Store) (i j now : Nat) (cmd : List Bytes) (obs : Option (List Bytes))
    (hij : j ≠ i) (hf : isFlushAll cmd = false) :
    getDb (KS.step q s i now cmd obs).1 j = getDb s j := by
  rw [step_eq]
  cases cmd with
  | nil => rfl
  | cons n args =>
    simp only [hf, Bool.false_eq_true, if_false]
    exact getDb_setDb_ne _ _ _ _ hij

theorem step_flushall_any_db (q : Quirks) (s : Store) (i i' now : Nat) (cmd : List Bytes) (obs : Option (List Bytes))
    (hf : isFlushAll cmd = true) : KS.step q s i now cmd obs = KS.step q s i' now cmd obs := by
  rw [step_eq, step_eq]
  cases cmd with
  | nil => rfl
  | cons n args => simp only [hf, if_true]

def Agree (j : Nat) (s s' : Store) : Prop := s.length = s'.length ∧ getDb s j = getDb s' j

theorem Agree.refl (j : Nat) (s : Store) : Agree j s s := ⟨rfl, rfl⟩

/-- Locality: what a command executed on database `i` answers, and what database `i` holds afterwards,
    depends on the content of database `i` only. -/
theorem step_local (q : Quirks) (s s' : Store) (i now : Nat) (cmd : List Bytes) (obs : Option (List Bytes))
    (h : Agree i s s') :
    (KS.step q s i now cmd obs).2 = (KS.step q s' i now cmd obs).2 ∧
    Agree i (KS.step q s i now cmd obs).1 (KS.step q s' i now cmd obs).1 := by
  obtain ⟨hl, hd⟩ := h
  rw [step_eq, step_eq]
  cases cmd with
  | nil => exact ⟨rfl, hl, hd⟩
  | cons n args =>
    dsimp only
    split
    · split
      · exact ⟨rfl, by simp [hl], by rw [getDb_flushed, getDb_flushed]⟩
      · exact ⟨rfl, hl, hd⟩
    · simp only [hd]
      refine ⟨trivial, by simp [setDb, hl], ?_⟩
      by_cases hi : i < s.length
      · rw [getDb_setDb_self _ _ _ hi, getDb_setDb_self _ _ _ (hl ▸ hi)]
      · rw [getDb_setDb_self_ge _ _ _ (Nat.not_lt.mp hi), getDb_setDb_self_ge _ _ _ (hl ▸ Nat.not_lt.mp hi)]

theorem agree_step_both (q : Quirks) (s s' : Store) (j i now : Nat) (cmd : List Bytes) (obs : Option (List Bytes))
    (h : Agree j s s') : Agree j (KS.step q s i now cmd obs).1 (KS.step q s' i now cmd obs).1 := by
  by_cases hij : j = i
  · subst hij; exact (step_local q s s' j now cmd obs h).2
  · cases hf : isFlushAll cmd with
    | false =>
      refine ⟨by rw [step_length, step_length, h.1], ?_⟩
      rw [step_frame q s i j now cmd obs hij hf, step_frame q s' i j now cmd obs hij hf]
      exact h.2
    | true =>
      rw [step_flushall_any_db q s i j now cmd obs hf, step_flushall_any_db q s' i j now cmd obs hf]
      exact (step_local q s s' j now cmd obs h).2

theorem agree_step_left (q : Quirks) (s s' : Store) (j i now : Nat) (cmd : List Bytes) (obs : Option (List Bytes))
    (h : Agree j s s') (hij : j ≠ i) (hf : isFlushAll cmd = false) :
    Agree j (KS.step q s i now cmd obs).1 s' := by
  refine ⟨by rw [step_length, h.1], ?_⟩
  rw [step_frame q s i j now cmd obs hij hf]
  exact h.2

/-- the accesses that concern database `j`: those executed on `j`, and every FLUSHALL -/
def concerns (j : Nat) (a : Access) : Bool := a.db == j || isFlushAll a.cmd

theorem runAcc_append (q : Quirks) (s : Store) (as bs : List Access) :
    runAcc q s (as ++ bs) = runAcc q (runAcc q s as) bs := by
  simp [runAcc, List.foldl_append]

theorem runAcc_length (q : Quirks) (s : Store) (as : List Access) : (runAcc q s as).length = s.length := by
  induction as generalizing s with
  | nil => rfl
  | cons a r ih => simp only [runAcc, List.foldl_cons] at ih ⊢; rw [ih, step_length]

theorem agree_runAcc_filter (q : Quirks) (j : Nat) (as : List Access) :
    ∀ s s', Agree j s s' → Agree j (runAcc q s as) (runAcc q s' (as.filter (concerns j))) := by
  induction as with
  | nil => intro s s' h; exact h
  | cons a r ih =>
    intro s s' h
    by_cases hc : concerns j a = true
    · simp only [List.filter_cons, hc, if_true, runAcc, List.foldl_cons]
      exact ih _ _ (agree_step_both q s s' j a.db a.now a.cmd a.obs h)
    · simp only [List.filter_cons, hc, runAcc, List.foldl_cons]
      simp only [concerns, Bool.or_eq_true, beq_iff_eq, not_or, Bool.not_eq_true] at hc
      exact ih _ _ (agree_step_left q s s' j a.db a.now a.cmd a.obs h (fun e => hc.1 e.symm) hc.2)

/-- Isolation over access lists: after ANY sequence of commands executed on any databases, database `j` holds
    what it would hold had only the commands executed on `j` (and the FLUSHALLs) been run. -/
theorem runAcc_isolated (q : Quirks) (s : Store) (j : Nat) (as : List Access) :
    getDb (runAcc q s as) j = getDb (runAcc q s (as.filter (concerns j))) j :=
  (agree_runAcc_filter q j as s s (Agree.refl j s)).2

theorem runAcc_frame (q : Quirks) (s : Store) (j : Nat) (as : List Access)
    (h : ∀ a ∈ as, concerns j a = false) : getDb (runAcc q s as) j = getDb s j := by
  rw [runAcc_isolated]
  have : as.filter (concerns j) = [] := by
    apply List.filter_eq_nil_iff.mpr
    intro a ha; simp [h a ha]
  rw [this]; rfl

end Ferrous.Dbs
