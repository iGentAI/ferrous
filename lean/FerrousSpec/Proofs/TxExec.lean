/-
  EXEC versus the same commands sent directly (C07): plain queues are folds of `KS.step`,
  the direct path is `execFold … false`, which slots can be `NoResponse`.
-/
import FerrousSpec.Proofs.TxSched
namespace Ferrous.Tx
open Ferrous

theorem foldl_plain (q : Quirks) (b : Bool) (cid now : Nat) (cs : List Cmd) (st : ExecSt)
    (h : ∀ c ∈ cs, plain c = true) :
    cs.foldl (fun st c => (runOne q b cid st now c).1) st =
      ⟨cs.foldl (fun s c => (KS.step q.ks s st.db now c none).1) st.store, st.db, st.ext⟩ := by
  induction cs generalizing st with
  | nil => rfl
  | cons c cs ih =>
    have hc := h c (by simp)
    simp only [List.foldl_cons]
    rw [ih _ (fun x hx => h x (by simp [hx])), runOne_plain q b cid st now c hc]

theorem runOne_exec_eq_direct (q : Quirks) (cid : Nat) (st : ExecSt) (now : Nat) (c : Cmd)
    (hb : isBlockingName (nameOf c) = false)
    (hs : q.selectInExecIgnored = false ∨ nameOf c ≠ "SELECT")
    (hcn : q.connCommandsUnderConnZero = false ∨ nameOf c ∉ connectionNames)
    (hu : q.controlArityUnchecked = false ∨ nameOf c ≠ "UNWATCH") :
    runOne q true cid st now c = runOne q false cid st now c := by
  cases hp : plain c
  · rcases plain_eq_false hp with h | h | h | h | h
    · rw [runOne_select h, runOne_select h]
      rcases hs with hs | hs
      · simp [hs]
      · exact absurd h hs
    · rw [hb] at h; cases h
    · rw [runOne_external h, runOne_external h]
    · rw [runOne_connection h, runOne_connection h]
      rcases hcn with hcn | hcn
      · simp [hcn]
      · exact absurd h hcn
    · rw [runOne_unwatch h, runOne_unwatch h]
      rcases hu with hu | hu
      · simp [hu]
      · exact absurd h hu
  · exact runOne_plain_indep q true false cid cid st now c hp

theorem execFold_congr {q : Quirks} {b b' : Bool} {cid cid' now : Nat} {cs : List Cmd} {st : ExecSt}
    (h : ∀ c ∈ cs, ∀ st, runOne q b cid st now c = runOne q b' cid' st now c) :
    execFold q b cid now st cs = execFold q b' cid' now st cs := by
  induction cs generalizing st with
  | nil => rfl
  | cons c cs ih =>
    rw [execFold_cons, execFold_cons, h c (by simp), ih fun x hx => h x (by simp [hx])]

/-- Frames of a connection that is NOT in a transaction, sent one after another with nothing in
    between, are `execFold … false` on the dataset. -/
theorem direct_run (q : Quirks) (cid now : Nat) (cmds : List Cmd) (s : Server)
    (hin : (s.conns cid).inTx = false) (hk : ∀ c ∈ cmds, c ≠ [] ∧ kindOf (nameOf c) = .other)
    {F : ExecSt × List Out} (hF : execFold q false cid now ⟨s.store, (s.conns cid).db, s.ext⟩ cmds = F) :
    run q s (framesOf cid now cmds) =
      setConn { s with store := F.1.store, ext := F.1.ext } cid { s.conns cid with db := F.1.db } ∧
    trace q s (framesOf cid now cmds) = F.2.map fun o => some (.one o) := by
  subst hF
  induction cmds generalizing s with
  | nil => exact ⟨(setConn_self s cid).symm, rfl⟩
  | cons c cs ih =>
    have hc := hk c (by simp)
    have hstep := processFrame_other (q := q) (s := s) (cid := cid) (r := { cmd := c, now := now }) hc.1 hc.2 rfl
    rw [hin, Bool.false_and, if_neg Bool.false_ne_true] at hstep
    obtain ⟨i1, i2⟩ := ih (processFrame q s cid { cmd := c, now := now }).1
      (by rw [hstep, setConn_same]; exact hin) fun x hx => hk x (by simp [hx])
    show run q (processFrame q s cid { cmd := c, now := now }).1 (framesOf cid now cs) = _ ∧
      some (processFrame q s cid { cmd := c, now := now }).2 :: trace q (processFrame q s cid { cmd := c, now := now }).1 (framesOf cid now cs) = _
    rw [i1, i2, hstep, setConn_same]
    exact ⟨setConn_setConn _ cid _ _ _ _, rfl⟩

def isNoResponse : Out → Bool
  | .noResponse => true
  | _ => false

theorem runOne_noResponse (q : Quirks) (b : Bool) (cid : Nat) (st : ExecSt) (now : Nat) (c : Cmd)
    (h : isNoResponse (runOne q b cid st now c).2 = true) :
    isBlockingName (nameOf c) = true ∧ (b = false ∨ q.blockingInExecNoResponse = true) := by
  cases hp : plain c
  · rcases plain_eq_false hp with e | e | e | e | e
    · rw [runOne_select e] at h
      split at h
      · cases h
      · split at h <;> cases h
    · rw [runOne_blocking e] at h
      rcases runBlocking_cases q b cid st now (nameOf c == "BLPOP") c with ⟨_, _, e'⟩ | ⟨hb, _⟩
      · rw [e'] at h; cases h
      · exact ⟨e, hb⟩
    · rw [runOne_external e] at h; cases h
    · rw [runOne_connection e] at h; cases h
    · rw [runOne_unwatch e] at h; split at h <;> cases h
  · rw [runOne_plain q b cid st now c hp] at h; cases h

theorem execFold_noResponse (q : Quirks) (b : Bool) (cid now : Nat) (st : ExecSt) (cs : List Cmd) (o : Out)
    (ho : o ∈ (execFold q b cid now st cs).2) (h : isNoResponse o = true) :
    (∃ c ∈ cs, isBlockingName (nameOf c) = true) ∧ (b = false ∨ q.blockingInExecNoResponse = true) := by
  induction cs generalizing st with
  | nil => cases ho
  | cons c cs ih =>
    rw [execFold_cons] at ho
    rcases List.mem_cons.1 ho with e | ho
    · obtain ⟨h1, h2⟩ := runOne_noResponse q b cid st now c (e ▸ h)
      exact ⟨⟨c, List.mem_cons_self, h1⟩, h2⟩
    · obtain ⟨⟨x, hx, h1⟩, h2⟩ := ih _ ho
      exact ⟨⟨x, List.mem_cons_of_mem _ hx, h1⟩, h2⟩

theorem runBlocking_ext (q : Quirks) (cid : Nat) (st : ExecSt) (now : Nat) (l : Bool) (c : Cmd)
    (hq : q.blockingInExecNoResponse = false) :
    (runBlocking q true cid st now l c).1.ext = st.ext := by
  rcases runBlocking_cases q true cid st now l c with ⟨_, _, e⟩ | ⟨hb, _⟩
  · rw [e]
  · rcases hb with hb | hb
    · cases hb
    · rw [hq] at hb; cases hb

end Ferrous.Tx
