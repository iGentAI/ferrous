/-
  RDB codec, part 5: on EVERY byte string each reader hands back a suffix of its input, so the
  recursion budgets (`input length + 1`) are never what stops the loader: `Err.fuel` is unreachable.
  `Good` is kept at one bound `n` along a chain of readers, so the proofs follow the model's text
  (`Good.bind` per `bind`, `Good.ite` per `if`) without arithmetic between the steps.
-/
import FerrousSpec.Proofs.RdbPrim
namespace Ferrous.Rdb
open Ferrous

/-- `x`, a reader run inside a file of `N` bytes: every allocation it lists is at most `N`; when it
    succeeds it leaves at most `n` bytes; when it fails, not for lack of fuel, and if in `read_string`
    then with at most `N` bytes still available. -/
def Good {α : Type} (N : Nat) (x : Res α) (n : Nat) : Prop :=
  (∀ a ∈ x.allocs, a ≤ N) ∧
  match x with
  | .ok _ r _ => r.length ≤ n
  | .err e _ => e ≠ .fuel ∧ ∀ w v, e = .shortString w v → v ≤ N

variable {α β : Type} {N n : Nat}

theorem Good.mono {x : Res α} {m : Nat} (h : Good N x n) (hnm : n ≤ m) : Good N x m := by
  cases x with
  | ok a r al => exact ⟨h.1, Nat.le_trans h.2 hnm⟩
  | err e al => exact h

theorem Good.pre {x : Res α} (h : Good N x n) {al : List Nat} (hal : ∀ a ∈ al, a ≤ N) : Good N (x.pre al) n := by
  cases x <;> exact ⟨fun a ha => (List.mem_append.mp ha).elim (hal a) (h.1 a), h.2⟩

theorem Good.bind {x : Res α} {f : α → Bytes → Res β} (hx : Good N x n)
    (hf : ∀ a r, r.length ≤ n → Good N (f a r) n) : Good N (x.bind f) n := by
  cases x with
  | ok a r al => exact (hf a r hx.2).pre hx.1
  | err e al => exact hx

theorem Good.map {x : Res α} {g : α → β} (hx : Good N x n) : Good N (x.map g) n := by
  cases x <;> exact hx

theorem Good.ite {c : Prop} [Decidable c] {x y : Res α} (hx : Good N x n) (hy : Good N y n) :
    Good N (if c then x else y) n := by
  split <;> assumption

theorem good_ok (a : α) (r : Bytes) (n : Nat) (h : r.length ≤ n) : Good N (Res.ok a r []) n :=
  ⟨nofun, h⟩

theorem good_err (e : Err) (n : Nat) (h : e ≠ .fuel) (hs : ∀ w v, e ≠ .shortString w v) :
    Good N (Res.err e [] : Res α) n :=
  ⟨nofun, h, fun w v he => absurd he (hs w v)⟩

inductive EngineAnswer : Except Err α → Prop
  | ok (a : α) : EngineAnswer (.ok a)
  | invalidDb : EngineAnswer (.error .invalidDb)
  | wrongType : EngineAnswer (.error .wrongType)
  | badExpire : EngineAnswer (.error .badExpire)

theorem good_lift {x : Except Err α} (hx : EngineAnswer x) {r : Bytes} (h : r.length ≤ n) : Good N (lift x r) n := by
  cases hx
  · exact good_ok _ _ _ h
  all_goals exact good_err _ _ nofun nofun

theorem readByte_good_lt {bs : Bytes} (h : bs.length ≤ n + 1) : Good N (readByte bs) n := by
  cases bs with
  | nil => exact good_err _ _ nofun nofun
  | cons b r => exact good_ok b r _ (Nat.le_of_succ_le_succ h)

theorem readByte_good {bs : Bytes} (h : bs.length ≤ n) : Good N (readByte bs) n :=
  readByte_good_lt (Nat.le_succ_of_le h)

theorem readExact_rest_le {k : Nat} {bs h r : Bytes} (hh : readExact k bs = some (h, r)) : r.length ≤ bs.length := by
  rw [(readExact_some hh).1, List.length_append]
  exact Nat.le_add_left _ _

theorem readFixed_good (k : Nat) {bs : Bytes} (h : bs.length ≤ n) : Good N (readFixed k bs) n := by
  unfold readFixed
  split
  · rename_i hh
    exact good_ok _ _ _ (Nat.le_trans (readExact_rest_le hh) h)
  · exact good_err _ _ nofun nofun

theorem readLen_good_lt {bs : Bytes} (h : bs.length ≤ n + 1) : Good N (readLen bs) n := by
  cases bs with
  | nil => exact good_err _ _ nofun nofun
  | cons b r =>
    have hr : r.length ≤ n := Nat.le_of_succ_le_succ h
    unfold readLen
    refine Good.ite (good_ok _ _ _ hr) (Good.ite ?_ (Good.ite ?_ (good_err _ _ nofun nofun)))
    · cases r with
      | nil => exact good_err _ _ nofun nofun
      | cons c r' => exact good_ok _ _ _ (Nat.le_of_succ_le hr)
    · split
      · rename_i hh
        exact good_ok _ _ _ (Nat.le_trans (readExact_rest_le hh) hr)
      · exact good_err _ _ nofun nofun

theorem readLen_good {bs : Bytes} (h : bs.length ≤ n) : Good N (readLen bs) n :=
  readLen_good_lt (Nat.le_succ_of_le h)

/-- the buffer is as long as the string that was then read from the file, so no longer than the file;
    and when the read fails, what was still available is a suffix of the file -/
theorem readString_good_lt {bs : Bytes} (h : bs.length ≤ n + 1) (hN : n ≤ N) : Good N (readString bs) n := by
  unfold readString
  refine (readLen_good_lt h).bind fun len r hr => ?_
  split
  · rename_i s r' hh
    have ⟨e, hs⟩ := readExact_some hh
    have hlen : len ≤ r.length := by rw [e, List.length_append, hs]; exact Nat.le_add_right _ _
    exact ⟨fun a ha => List.mem_singleton.mp ha ▸ Nat.le_trans hlen (Nat.le_trans hr hN),
      Nat.le_trans (readExact_rest_le hh) hr⟩
  · exact ⟨nofun, nofun, fun w v he => by cases he; exact Nat.le_trans hr hN⟩

theorem readString_good {bs : Bytes} (h : bs.length ≤ n) (hN : n ≤ N) : Good N (readString bs) n :=
  readString_good_lt (Nat.le_succ_of_le h) hN

theorem readStrings_good (hN : n ≤ N) : ∀ (k : Nat) {bs : Bytes}, bs.length ≤ n → Good N (readStrings k bs) n
  | 0, _, h => good_ok _ _ _ h
  | k+1, _, h => (readString_good h hN).bind fun _ _ h => (readStrings_good hN k h).map

theorem readPairs_good (hN : n ≤ N) : ∀ (k : Nat) {bs : Bytes}, bs.length ≤ n → Good N (readPairs k bs) n
  | 0, _, h => good_ok _ _ _ h
  | k+1, _, h => (readString_good h hN).bind fun _ _ h => (readString_good h hN).bind fun _ _ h =>
      (readPairs_good hN k h).map

theorem readZPairs_good (hN : n ≤ N) : ∀ (k : Nat) {bs : Bytes}, bs.length ≤ n → Good N (readZPairs k bs) n
  | 0, _, h => good_ok _ _ _ h
  | k+1, _, h => (readString_good h hN).bind fun _ _ h => (readFixed_good 8 h).bind fun _ _ h =>
      (readZPairs_good hN k h).map

theorem setValue_answer (valid : Bool) (db : Db) (e : Entry) : EngineAnswer (setValue valid db e) := by
  unfold setValue
  split
  · exact .badExpire
  · split <;> constructor

theorem rpush_answer (valid : Bool) (db : Db) (k x : Bytes) : EngineAnswer (rpush valid db k x) := by
  unfold rpush
  split
  · exact .invalidDb
  · split <;> constructor

theorem sadd_answer (valid : Bool) (db : Db) (k : Bytes) (ms : List Bytes) : EngineAnswer (sadd valid db k ms) := by
  unfold sadd
  split
  · exact .invalidDb
  · split <;> constructor

theorem hset_answer (valid : Bool) (db : Db) (k : Bytes) (fvs : List (Bytes × Bytes)) :
    EngineAnswer (hset valid db k fvs) := by
  unfold hset
  split
  · exact .invalidDb
  · split <;> constructor

theorem zadd_answer (valid : Bool) (db : Db) (k m : Bytes) (sc : Nat) : EngineAnswer (zadd valid db k m sc) := by
  unfold zadd
  split
  · exact .invalidDb
  · split <;> constructor

theorem ensureStream_answer (valid : Bool) (db : Db) (k : Bytes) : EngineAnswer (ensureStream valid db k) := by
  unfold ensureStream
  split
  · exact .invalidDb
  · split <;> constructor

theorem expire_answer (valid : Bool) (db : Db) (k : Bytes) (d : Nat) : EngineAnswer (expire valid db k d) := by
  unfold expire
  split
  · exact .badExpire
  · split
    · exact .invalidDb
    · split <;> constructor

theorem expireOpt_answer (valid : Bool) (db : Db) (k : Bytes) (dl : Option Nat) :
    EngineAnswer (expireOpt valid db k dl) := by
  cases dl with
  | none => exact .ok _
  | some d => exact expire_answer valid db k d

theorem EngineAnswer.ite {c : Prop} [Decidable c] {x y : Except Err α} (hx : EngineAnswer x) (hy : EngineAnswer y) :
    EngineAnswer (if c then x else y) := by
  split <;> assumption

theorem streamLoop_good (valid : Bool) (k : Bytes) (remaining : Nat) :
    ∀ (fuel idx : Nat) (db : Db) (bs : Bytes), bs.length < fuel → bs.length ≤ N →
      Good N (streamLoop valid k remaining fuel idx db bs) bs.length := by
  intro fuel
  induction fuel with
  | zero => intro _ _ _ h; exact absurd h (Nat.not_lt_zero _)
  | succ f ih =>
    intro idx db bs h hN
    rw [streamLoop]
    refine Good.ite (good_ok _ _ _ (Nat.le_refl _)) (Good.ite (good_ok _ _ _ (Nat.le_refl _)) ?_)
    cases bs with
    | nil => exact good_err _ _ nofun nofun
    | cons b t =>
      have ht : t.length ≤ N := Nat.le_of_succ_le hN
      -- the first string's length byte is consumed before the recursive call
      refine Good.mono ?_ (Nat.le_succ _)
      exact (readString_good_lt (Nat.le_refl _) ht).bind fun _ _ h1 => (readString_good h1 ht).bind fun _ _ h2 =>
        Good.ite (good_ok _ _ _ h2) ((readPairs_good ht _ h2).bind fun _ r3 h3 =>
          (ih _ _ r3 (Nat.lt_of_le_of_lt h3 (Nat.lt_of_succ_lt_succ h)) (Nat.le_trans h3 ht)).mono h3)

theorem expire_good (valid : Bool) (db : Db) (k : Bytes) (dl : Option Nat) {r : Bytes} (h : r.length ≤ n) :
    Good N ((lift (expireOpt valid db k dl) r).bind fun db2 r4 => Res.ok (k, db2) r4 []) n :=
  (good_lift (expireOpt_answer _ _ _ _) h).bind fun _ _ h => good_ok _ _ _ h

theorem loadPlainList_good (hN : n ≤ N) (valid : Bool) (db : Db) (k : Bytes) (dl : Option Nat) (cnt : Nat)
    {bs : Bytes} (h : bs.length ≤ n) : Good N (loadPlainList valid db k dl cnt bs) n :=
  Good.ite
    ((readString_good h hN).bind fun _ _ h => (good_lift (rpush_answer _ _ _ _) h).bind fun _ _ h =>
      (readStrings_good hN _ h).bind fun _ _ h => expire_good _ _ _ _ h)
    (expire_good _ _ _ _ h)

theorem loadTyped_good (hN : n ≤ N) (fix : Fix) (valid : Bool) (db : Db) (ty : Nat) (dl : Option Nat)
    {bs : Bytes} (h : bs.length ≤ n) : Good N (loadTyped fix valid db ty dl bs) n :=
  Good.ite
    ((readString_good h hN).bind fun _ _ h => (readString_good h hN).bind fun _ _ h =>
      (good_lift (setValue_answer _ _ _) h).bind fun _ _ h => good_ok _ _ _ h) <|
  Good.ite
    ((readString_good h hN).bind fun _ _ h => (readLen_good h).bind fun _ _ h => Good.ite
      ((readString_good h hN).bind fun _ _ h => (readFixed_good 8 h).bind fun _ _ h =>
        (good_lift (zadd_answer _ _ _ _ _) h).bind fun _ _ h => (readZPairs_good hN _ h).bind fun _ _ h =>
        expire_good _ _ _ _ h)
      (expire_good _ _ _ _ h)) <|
  Good.ite
    ((readString_good h hN).bind fun _ _ h => (readLen_good h).bind fun _ _ h => Good.ite
      ((readString_good h hN).bind fun _ _ h => Good.ite
        ((good_lift (EngineAnswer.ite (setValue_answer _ _ _) (.ok _)) h).bind fun _ r h =>
          ((streamLoop_good _ _ _ _ _ _ r (Nat.lt_succ_self _) (Nat.le_trans h hN)).mono h).bind fun _ _ h =>
          (good_lift (EngineAnswer.ite (ensureStream_answer _ _ _) (.ok _)) h).bind fun _ _ h =>
          expire_good _ _ _ _ h) <|
        Good.ite (loadPlainList_good hN _ _ _ _ _ h) <|
          (good_lift (rpush_answer _ _ _ _) h).bind fun _ _ h => (readStrings_good hN _ h).bind fun _ _ h =>
          expire_good _ _ _ _ h)
      (expire_good _ _ _ _ h)) <|
  Good.ite
    ((readString_good h hN).bind fun _ _ h => (readLen_good h).bind fun _ _ h =>
      (readStrings_good hN _ h).bind fun _ _ h => (good_lift (sadd_answer _ _ _ _) h).bind fun _ _ h =>
      expire_good _ _ _ _ h) <|
  Good.ite
    ((readString_good h hN).bind fun _ _ h => (readLen_good h).bind fun _ _ h =>
      (readPairs_good hN _ h).bind fun _ _ h => (good_lift (hset_answer _ _ _ _) h).bind fun _ _ h =>
      expire_good _ _ _ _ h)
    (good_err _ _ nofun nofun)

theorem loadExpiring_good (hN : n ≤ N) (fix : Fix) (now : Nat) (valid : Bool) (db : Db) (ty expiry : Nat)
    {bs : Bytes} (h : bs.length ≤ n) : Good N (loadExpiring fix now valid db ty expiry bs) n :=
  Good.ite ((loadTyped_good hN _ _ _ _ _ h).bind fun _ _ h => good_ok _ _ _ h) <|
  Good.ite ((loadTyped_good hN _ _ _ _ _ h).bind fun _ _ h => good_lift (EngineAnswer.ite (.ok _) .invalidDb) h)
    ((loadTyped_good hN _ _ _ _ _ h).bind fun _ _ h => good_ok _ _ _ h)

theorem loadLoop_good (fix : Fix) (now : Nat) :
    ∀ (fuel cur : Nat) (s : Store) (bs : Bytes), bs.length < fuel → bs.length ≤ N →
      Good N (loadLoop fix now fuel cur s bs) bs.length := by
  intro fuel
  induction fuel with
  | zero => intro _ _ _ h; exact absurd h (Nat.not_lt_zero _)
  | succ f ih =>
    intro cur s bs h hN
    rw [loadLoop]
    cases bs with
    | nil => exact good_err _ _ nofun nofun
    | cons b t =>
      have ht : t.length ≤ N := Nat.le_of_succ_le hN
      have again : ∀ (c : Nat) (s' : Store) {r : Bytes}, r.length ≤ t.length → Good N (loadLoop fix now f c s' r) t.length :=
        fun c s' r hr => (ih c s' r (Nat.lt_of_le_of_lt hr (Nat.lt_of_succ_lt_succ h)) (Nat.le_trans hr ht)).mono hr
      refine Good.mono ((readByte_good_lt (Nat.le_refl _)).bind fun op r h => ?_) (Nat.le_succ _)
      exact
        Good.ite ((readFixed_good 8 h).bind fun _ _ h => good_ok _ _ _ h) <|
        Good.ite ((readLen_good h).bind fun _ _ h => again _ _ h) <|
        Good.ite ((readLen_good h).bind fun _ _ h => (readLen_good h).bind fun _ _ h => again _ _ h) <|
        Good.ite ((readString_good h ht).bind fun _ _ h => (readString_good h ht).bind fun _ _ h => again _ _ h) <|
        Good.ite ((readFixed_good 8 h).bind fun _ _ h => (readByte_good h).bind fun _ _ h =>
          (loadExpiring_good ht _ _ _ _ _ _ h).bind fun _ _ h => again _ _ h) <|
        Good.ite ((readFixed_good 4 h).bind fun _ _ h => (readByte_good h).bind fun _ _ h =>
          (loadExpiring_good ht _ _ _ _ _ _ h).bind fun _ _ h => again _ _ h) <|
        (loadTyped_good ht _ _ _ _ _ h).bind fun _ _ h => again _ _ h

theorem loadInto_good (fix : Fix) (s : Store) (bs : Bytes) (now : Nat) :
    Good bs.length (loadInto fix s bs now) bs.length :=
  (readFixed_good 5 (Nat.le_refl _)).bind fun _ _ h => Good.ite (good_err _ _ nofun nofun) <|
    (readFixed_good 4 h).bind fun _ r h => Good.ite (good_err _ _ nofun nofun) <|
      (loadLoop_good fix now _ 0 s r (Nat.lt_succ_self _) h).mono h

theorem decSnapshotT_good (fix : Fix) (bs : Bytes) (now : Nat) :
    Good bs.length (decSnapshotT fix bs now) bs.length :=
  loadInto_good fix [] bs now

/-- The recursion budgets of the model are never the reason for an answer: on EVERY byte string the
    loader model ends in `ok` or in one of the loader's own errors. -/
theorem decSnapshotT_never_fuel (fix : Fix) (bs : Bytes) (now : Nat) (al : List Nat) :
    decSnapshotT fix bs now ≠ .err .fuel al :=
  fun h => (h ▸ decSnapshotT_good fix bs now : Good _ (.err .fuel al) _).2.1 rfl

theorem decSnapshot_never_fuel (fix : Fix) (bs : Bytes) (now : Nat) :
    (∃ d, decSnapshot fix bs now = .ok d) ∨ (∃ e, decSnapshot fix bs now = .error e ∧ e ≠ .fuel) := by
  cases h : decSnapshotT fix bs now with
  | ok s r al => exact Or.inl ⟨s, decSnapshot_of_ok h⟩
  | err e al => exact Or.inr ⟨e, decSnapshot_of_err h, fun he => decSnapshotT_never_fuel fix bs now al (he ▸ h)⟩

/-- … and it never reads past the end: what is left over is a suffix no longer than the input. -/
theorem decSnapshotT_rest_le (fix : Fix) (bs : Bytes) (now : Nat) (s : Store) (r : Bytes) (al : List Nat)
    (h : decSnapshotT fix bs now = .ok s r al) : r.length ≤ bs.length :=
  (h ▸ decSnapshotT_good fix bs now : Good _ (.ok s r al) _).2

/-- Every allocation that is followed by a successful read is at most the size of the file … -/
theorem decSnapshotT_allocs_le (fix : Fix) (bs : Bytes) (now : Nat) :
    ∀ a ∈ (decSnapshotT fix bs now).allocs, a ≤ bs.length :=
  (decSnapshotT_good fix bs now).1

/-- … and when `read_string` fails, no more bytes than the file holds were still available. -/
theorem decSnapshotT_short_avail_le (fix : Fix) (bs : Bytes) (now : Nat) (w v : Nat) (al : List Nat)
    (h : decSnapshotT fix bs now = .err (.shortString w v) al) : v ≤ bs.length :=
  (h ▸ decSnapshotT_good fix bs now : Good _ (.err (.shortString w v) al) _).2.2 w v rfl

end Ferrous.Rdb
