/-
  The three maps of `PubSubManager` as association lists, and the invariant `Inv` (name-side and
  connection-side maps are inverses of each other).  Each call has one equation for the entry it leaves
  under a connection (`aget_subs_*`) and one for the name-side maps (`idx_*`); the rest is read off these.
-/
import FerrousSpec.Model.PubSub
set_option linter.unusedSectionVars false
namespace Ferrous.PubSub

section
variable {κ ν : Type} [DecidableEq κ]

def keys (m : List (κ × ν)) : List κ := m.map (·.1)

@[simp] theorem keys_nil : keys ([] : List (κ × ν)) = [] := rfl
@[simp] theorem keys_cons (e : κ × ν) (m : List (κ × ν)) : keys (e :: m) = e.1 :: keys m := rfl

theorem aget_aset (m : List (κ × ν)) (k : κ) (v : ν) (q : κ) :
    aget (aset m k v) q = if q = k then some v else aget m q := by
  induction m with
  | nil => simp only [aset, aget, eq_comm]
  | cons e m ih =>
    by_cases hq : q = k
    · subst hq
      by_cases he : e.1 = q <;> simp [aset, aget, he, ih]
    · have hq' : ¬ k = q := fun e => hq e.symm
      by_cases he : e.1 = k <;> simp [aset, aget, he, ih, hq, hq']

theorem adel_cons (e : κ × ν) (m : List (κ × ν)) (k : κ) :
    adel (e :: m) k = if e.1 = k then adel m k else e :: adel m k := by
  unfold adel
  by_cases h : e.1 = k
  · rw [if_pos h, List.filter_cons_of_neg (by simpa using h)]
  · rw [if_neg h, List.filter_cons_of_pos (by simpa using h)]

theorem aget_adel (m : List (κ × ν)) (k q : κ) :
    aget (adel m k) q = if q = k then none else aget m q := by
  induction m with
  | nil => exact (ite_self _).symm
  | cons e m ih =>
    rw [adel_cons]
    by_cases he : e.1 = k
    · rw [if_pos he, ih, aget]
      split
      · rfl
      · rename_i hq; rw [if_neg (fun h => hq (h.symm.trans he))]
    · rw [if_neg he, aget, aget, ih]
      split
      · rename_i h; rw [if_neg (fun hq => he (h.trans hq))]
      · rfl

theorem aget_none_of_not_mem_keys {m : List (κ × ν)} {k : κ} (h : k ∉ keys m) : aget m k = none := by
  induction m with
  | nil => rfl
  | cons e m ih =>
    rw [keys_cons, List.mem_cons, not_or] at h
    rw [aget, if_neg (fun e => h.1 e.symm), ih h.2]

theorem mem_keys_of_aget {m : List (κ × ν)} {k : κ} {v : ν} (h : aget m k = some v) : k ∈ keys m :=
  Classical.byContradiction fun hn => by rw [aget_none_of_not_mem_keys hn] at h; cases h

theorem mem_of_aget {m : List (κ × ν)} {k : κ} {v : ν} (h : aget m k = some v) : (k, v) ∈ m := by
  induction m with
  | nil => cases h
  | cons e m ih =>
    rw [aget] at h
    split at h
    · rename_i he
      injection h with h
      rw [← he, ← h]
      exact List.mem_cons_self
    · exact List.mem_cons_of_mem _ (ih h)

theorem mem_iff_aget {m : List (κ × ν)} (hn : (keys m).Nodup) (k : κ) (v : ν) :
    (k, v) ∈ m ↔ aget m k = some v := by
  refine ⟨?_, mem_of_aget⟩
  induction m with
  | nil => intro h; cases h
  | cons e m ih =>
    rw [keys_cons, List.nodup_cons] at hn
    intro h
    rcases List.mem_cons.1 h with h | h
    · rw [← h, aget, if_pos rfl]
    · have hk : k ∈ keys m := List.mem_map.2 ⟨(k, v), h, rfl⟩
      rw [aget, if_neg (fun (e' : e.1 = k) => hn.1 (e'.symm ▸ hk))]
      exact ih hn.2 h

theorem keys_aset (m : List (κ × ν)) (k : κ) (v : ν) : keys (aset m k v) = sins (keys m) k := by
  induction m with
  | nil => rfl
  | cons e m ih =>
    rw [aset]
    by_cases h : e.1 = k
    · rw [if_pos h]; subst h; simp [sins]
    · have h' : ¬ k = e.1 := fun e => h e.symm
      rw [if_neg h, keys_cons, ih]
      unfold sins
      simp only [keys_cons, List.mem_cons, h', false_or]
      split <;> rfl

theorem mem_sins (l : List κ) (x y : κ) : y ∈ sins l x ↔ y ∈ l ∨ y = x := by
  unfold sins
  split
  · rename_i h
    exact ⟨Or.inl, fun h' => h'.elim id (fun e => e ▸ h)⟩
  · rw [List.mem_append, List.mem_singleton]

theorem nodup_sins {l : List κ} (hn : l.Nodup) (x : κ) : (sins l x).Nodup := by
  unfold sins
  split
  · exact hn
  · rename_i h
    refine List.nodup_append.2 ⟨hn, List.nodup_cons.2 ⟨List.not_mem_nil, List.nodup_nil⟩, fun a ha b hb e => h ?_⟩
    rw [← List.mem_singleton.1 hb, ← e]; exact ha

theorem nodup_keys_aset {m : List (κ × ν)} (hn : (keys m).Nodup) (k : κ) (v : ν) :
    (keys (aset m k v)).Nodup := by
  rw [keys_aset]; exact nodup_sins hn k

theorem nodup_keys_adel {m : List (κ × ν)} (hn : (keys m).Nodup) (k : κ) : (keys (adel m k)).Nodup :=
  hn.sublist (List.filter_sublist.map _)

theorem sins_of_mem {l : List κ} {x : κ} (h : x ∈ l) : sins l x = l := if_pos h

theorem sins_of_not_mem {l : List κ} {x : κ} (h : x ∉ l) : sins l x = l ++ [x] := if_neg h

theorem mem_srem (l : List κ) (x y : κ) : y ∈ srem l x ↔ y ∈ l ∧ y ≠ x := by
  simp [srem]

theorem nodup_srem {l : List κ} (hn : l.Nodup) (x : κ) : (srem l x).Nodup :=
  hn.sublist List.filter_sublist

theorem srem_of_not_mem {l : List κ} {x : κ} (h : x ∉ l) : srem l x = l :=
  List.filter_eq_self.2 fun _ ha => decide_eq_true fun e => h (e ▸ ha)

@[simp] theorem srem_nil (x : κ) : srem ([] : List κ) x = [] := rfl

end

theorem purge_cons (e : Bytes × List ConnId) (m : List (Bytes × List ConnId)) (c : ConnId) :
    purge (e :: m) c = if (srem e.2 c).isEmpty then purge m c else (e.1, srem e.2 c) :: purge m c := by
  unfold purge
  rw [List.filterMap_cons]
  by_cases he : (srem e.2 c).isEmpty = true
  · simp only [he, if_true]
  · simp only [he, Bool.false_eq_true, if_false]

theorem keys_purge_sublist (m : List (Bytes × List ConnId)) (c : ConnId) :
    List.Sublist (keys (purge m c)) (keys m) := by
  induction m with
  | nil => exact List.Sublist.refl _
  | cons e m ih =>
    rw [purge_cons]
    split
    · exact List.Sublist.cons _ ih
    · exact List.Sublist.cons_cons _ ih

theorem getD_aget_purge {m : List (Bytes × List ConnId)} (hn : (keys m).Nodup) (c : ConnId) (x : Bytes) :
    (aget (purge m c) x).getD [] = srem ((aget m x).getD []) c := by
  induction m with
  | nil => rfl
  | cons e m ih =>
    rw [keys_cons, List.nodup_cons] at hn
    rw [purge_cons, aget]
    by_cases hk : e.1 = x
    · rw [if_pos hk]
      split
      · rename_i he
        rw [aget_none_of_not_mem_keys (fun h => hn.1 (hk ▸ (keys_purge_sublist m c).subset h))]
        exact (List.isEmpty_iff.1 he).symm
      · rw [aget, if_pos hk]; rfl
    · rw [if_neg hk]
      split
      · exact ih hn.2
      · rw [aget, if_neg hk]; exact ih hn.2

theorem aget_purge_ne_nil (m : List (Bytes × List ConnId)) (c : ConnId) (x : Bytes) :
    aget (purge m c) x ≠ some [] := by
  intro h
  obtain ⟨e, _, he⟩ := List.mem_filterMap.1 (mem_of_aget h)
  simp only at he
  split at he
  · cases he
  · rename_i hne
    injection he with he
    injection he with _ he
    exact hne (List.isEmpty_iff.2 he)

/-- `SubscriberInfo` of a connection (empty when there is no entry). -/
def info (st : State) (c : ConnId) : Held := (aget st.subs c).getD ([], [])

/-- Names of kind `k` the connection-side map records for `c`. -/
def held (st : State) (c : ConnId) (k : Kind) : List Bytes := (info st c).sel k

/-- Connections the name-side map of kind `k` records for `x`. -/
def members (st : State) (k : Kind) (x : Bytes) : List ConnId := (aget (st.idx k) x).getD []

@[simp] theorem idx_withIdx (st : State) (k : Kind) (m) (k' : Kind) :
    (st.withIdx k m).idx k' = if k' = k then m else st.idx k' := by
  cases k <;> cases k' <;> rfl

@[simp] theorem subs_withIdx (st : State) (k : Kind) (m) : (st.withIdx k m).subs = st.subs := by
  cases k <;> rfl

@[simp] theorem idx_withSubs (st : State) (m) (k : Kind) : (st.withSubs m).idx k = st.idx k := by
  cases k <;> rfl

@[simp] theorem subs_withSubs (st : State) (m) : (st.withSubs m).subs = m := rfl

@[simp] theorem sel_upd (h : Held) (k : Kind) (l : List Bytes) (k' : Kind) :
    (h.upd k l).sel k' = if k' = k then l else h.sel k' := by
  cases k <;> cases k' <;> rfl

theorem upd_sel_self (h : Held) (k : Kind) : h.upd k (h.sel k) = h := by
  cases k <;> rfl

theorem total_eq (h : Held) : h.total = (h.sel .chan).length + (h.sel .pat).length := rfl

theorem info_of_subs (st : State) (m) (c : ConnId) : info (st.withSubs m) c = (aget m c).getD ([], []) := rfl

theorem members_def (st : State) (k : Kind) (x : Bytes) : members st k x = (aget (st.idx k) x).getD [] := rfl

theorem held_nil_of_no_entry {st : State} {c : ConnId} (h : aget st.subs c = none) (k : Kind) : held st c k = [] := by
  unfold held info
  rw [h]
  cases k <;> rfl

structure Inv (st : State) : Prop where
  /-- the name-side and the connection-side maps are inverses of each other -/
  agree : ∀ k x c, c ∈ members st k x ↔ x ∈ held st c k
  keysIdx : ∀ k, (keys (st.idx k)).Nodup
  keysSubs : (keys st.subs).Nodup
  nodupMembers : ∀ k x, (members st k x).Nodup
  nodupHeld : ∀ c k, (held st c k).Nodup
  /-- no name is mapped to an empty set of connections -/
  noEmpty : ∀ k x, aget (st.idx k) x ≠ some []

theorem Inv.init : Inv {} := by
  have hm : ∀ k x, members {} k x = [] := by intro k x; cases k <;> rfl
  have hh : ∀ c k, held {} c k = [] := by intro c k; cases k <;> rfl
  have hi : ∀ k, State.idx {} k = [] := by intro k; cases k <;> rfl
  refine ⟨fun k x c => ?_, fun k => ?_, List.nodup_nil, fun k x => ?_, fun c k => ?_, fun k x => ?_⟩
  · rw [hm, hh]; exact ⟨nofun, nofun⟩
  · rw [hi]; exact List.nodup_nil
  · rw [hm]; exact List.nodup_nil
  · rw [hh]; exact List.nodup_nil
  · rw [hi]; exact nofun

theorem Inv.of_views {st st' : State} (h : Inv st) (hi : ∀ c, info st' c = info st c)
    (hx : ∀ k, st'.idx k = st.idx k) (hk : (keys st'.subs).Nodup) : Inv st' := by
  have hh : ∀ c k, held st' c k = held st c k := fun c k => by unfold held; rw [hi]
  have hm : ∀ k x, members st' k x = members st k x := fun k x => by unfold members; rw [hx]
  refine ⟨fun k x c => ?_, fun k => ?_, hk, fun k x => ?_, fun c k => ?_, fun k x => ?_⟩
  · rw [hh, hm]; exact h.agree k x c
  · rw [hx]; exact h.keysIdx k
  · rw [hm]; exact h.nodupMembers k x
  · rw [hh]; exact h.nodupHeld c k
  · rw [hx]; exact h.noEmpty k x

theorem aget_subs_ensure (st : State) (c c' : ConnId) :
    aget (ensure st c).subs c' = if c' = c ∧ aget st.subs c = none then some ([], []) else aget st.subs c' := by
  unfold ensure
  cases h : aget st.subs c with
  | some _ => simp
  | none => simp [aget_aset]

theorem info_ensure (st : State) (c c' : ConnId) : info (ensure st c) c' = info st c' := by
  unfold info
  rw [aget_subs_ensure]
  split
  · rename_i h; rw [h.1, h.2]; rfl
  · rfl

theorem idx_ensure (st : State) (c : ConnId) (k : Kind) : (ensure st c).idx k = st.idx k := by
  unfold ensure
  cases aget st.subs c
  · exact idx_withSubs _ _ _
  · rfl

theorem Inv.ensure {st : State} (h : Inv st) (c : ConnId) : Inv (ensure st c) := by
  refine h.of_views (info_ensure st c) (idx_ensure st c) ?_
  unfold PubSub.ensure
  cases aget st.subs c with
  | some _ => exact h.keysSubs
  | none => exact nodup_keys_aset h.keysSubs _ _

theorem aget_subs_cleanup (st : State) (c c' : ConnId) :
    aget (cleanup st c).subs c' = if c' = c ∧ aget st.subs c = some ([], []) then none else aget st.subs c' := by
  unfold cleanup
  cases h : aget st.subs c with
  | none => simp
  | some i =>
    obtain ⟨i1, i2⟩ := i
    by_cases he : i1 = [] ∧ i2 = []
    · simp [he, aget_adel]
    · have : ¬ (i1.isEmpty && i2.isEmpty) = true := by simpa using he
      simp [this, he]

theorem info_cleanup (st : State) (c c' : ConnId) : info (cleanup st c) c' = info st c' := by
  unfold info
  rw [aget_subs_cleanup]
  split
  · rename_i h; rw [h.1, h.2]; rfl
  · rfl

theorem idx_cleanup (st : State) (c : ConnId) (k : Kind) : (cleanup st c).idx k = st.idx k := by
  unfold cleanup
  cases aget st.subs c with
  | none => rfl
  | some i => simp only; split <;> simp

theorem Inv.cleanup {st : State} (h : Inv st) (c : ConnId) : Inv (cleanup st c) := by
  refine h.of_views (info_cleanup st c) (idx_cleanup st c) ?_
  unfold PubSub.cleanup
  cases aget st.subs c with
  | none => exact h.keysSubs
  | some i =>
    simp only
    split
    · exact nodup_keys_adel h.keysSubs _
    · exact h.keysSubs

theorem cleanup_nonempty (st : State) (c : ConnId) (i : Held) (h : aget (cleanup st c).subs c = some i) :
    i ≠ ([], []) := by
  rw [aget_subs_cleanup] at h
  split at h
  · cases h
  · rename_i hn
    intro e
    exact hn ⟨rfl, e ▸ h⟩

theorem sub1_dup {k : Kind} {c : ConnId} {st : State} {x : Bytes} (h : x ∈ held st c k) :
    sub1 k c st x = (st, ⟨k, false, x, (info st c).total, false⟩) := if_pos h

theorem sub1_new {k : Kind} {c : ConnId} {st : State} {x : Bytes} (h : x ∉ held st c k) :
    sub1 k c st x =
      ((st.withIdx k (aset (st.idx k) x (sins (members st k x) c))).withSubs
          (aset st.subs c ((info st c).upd k (held st c k ++ [x]))),
       ⟨k, false, x, ((info st c).upd k (held st c k ++ [x])).total, true⟩) := if_neg h

theorem aget_subs_sub1 (k : Kind) (c : ConnId) (st : State) (x : Bytes) (c' : ConnId) :
    aget (sub1 k c st x).1.subs c' =
      if c' = c ∧ x ∉ held st c k then some ((info st c).upd k (held st c k ++ [x])) else aget st.subs c' := by
  by_cases h : x ∈ held st c k
  · rw [sub1_dup h, if_neg (fun e => e.2 h)]
  · rw [sub1_new h, subs_withSubs, aget_aset]
    simp only [h, not_false_eq_true, and_true]

theorem info_sub1 (k : Kind) (c : ConnId) (st : State) (x : Bytes) (c' : ConnId) :
    info (sub1 k c st x).1 c' = if c' = c then (info st c).upd k (sins (held st c k) x) else info st c' := by
  rw [show info (sub1 k c st x).1 c' = (aget (sub1 k c st x).1.subs c').getD ([], []) from rfl, aget_subs_sub1]
  by_cases hc : c' = c
  · subst hc
    by_cases h : x ∈ held st c' k
    · rw [if_neg (fun e => e.2 h), if_pos rfl, sins_of_mem h]; exact (upd_sel_self _ k).symm
    · rw [if_pos ⟨rfl, h⟩, if_pos rfl, sins_of_not_mem h]; rfl
  · rw [if_neg (fun e => hc e.1), if_neg hc]; rfl

theorem held_sub1 (k : Kind) (c : ConnId) (st : State) (x : Bytes) (c' : ConnId) (k' : Kind) :
    held (sub1 k c st x).1 c' k' = if c' = c ∧ k' = k then sins (held st c k) x else held st c' k' := by
  unfold held
  rw [info_sub1]
  by_cases hc : c' = c
  · subst hc
    simp only [if_true, sel_upd, true_and]; rfl
  · simp only [hc, if_false, false_and]

theorem idx_sub1 (k : Kind) (c : ConnId) (st : State) (x : Bytes) (k' : Kind) :
    (sub1 k c st x).1.idx k' =
      if k' = k ∧ x ∉ held st c k then aset (st.idx k) x (sins (members st k x) c) else st.idx k' := by
  by_cases h : x ∈ held st c k
  · rw [sub1_dup h, if_neg (fun e => e.2 h)]
  · rw [sub1_new h, idx_withSubs, idx_withIdx]
    simp only [h, not_false_eq_true, and_true]

theorem members_sub1 {k : Kind} {c : ConnId} {st : State} {x : Bytes}
    (hag : c ∈ members st k x ↔ x ∈ held st c k) (k' : Kind) (x' : Bytes) :
    members (sub1 k c st x).1 k' x' =
      if k' = k ∧ x' = x then sins (members st k x) c else members st k' x' := by
  rw [members_def, idx_sub1]
  by_cases h : x ∈ held st c k
  · rw [if_neg (fun e => e.2 h)]
    split
    · rename_i e
      rw [e.1, e.2, sins_of_mem (hag.2 h)]; rfl
    · rfl
  · by_cases hk : k' = k
    · subst hk
      simp only [h, not_false_eq_true, and_self, if_true, aget_aset, true_and]
      split <;> rfl
    · simp only [hk, false_and, if_false]; rfl

theorem Inv.sub1 {st : State} (h : Inv st) (k : Kind) (c : ConnId) (x : Bytes) : Inv (sub1 k c st x).1 := by
  have hag := h.agree k x c
  refine ⟨fun k' x' c' => ?_, fun k' => ?_, ?_, fun k' x' => ?_, fun c' k' => ?_, fun k' x' => ?_⟩
  · rw [members_sub1 hag, held_sub1]
    by_cases hk : k' = k
    · subst hk
      by_cases hx : x' = x
      · subst hx
        by_cases hc : c' = c
        · subst hc; simp [mem_sins]
        · simp [hc, mem_sins, h.agree]
      · by_cases hc : c' = c
        · subst hc; simp [hx, mem_sins, h.agree]
        · simp [hx, hc, h.agree]
    · simp [hk, h.agree]
  · rw [idx_sub1]
    split
    · exact nodup_keys_aset (h.keysIdx k) _ _
    · exact h.keysIdx k'
  · by_cases hx : x ∈ held st c k
    · rw [sub1_dup hx]; exact h.keysSubs
    · rw [sub1_new hx]; exact nodup_keys_aset h.keysSubs _ _
  · rw [members_sub1 hag]
    split
    · exact nodup_sins (h.nodupMembers k x) c
    · exact h.nodupMembers k' x'
  · rw [held_sub1]
    split
    · exact nodup_sins (h.nodupHeld c k) x
    · exact h.nodupHeld c' k'
  · rw [idx_sub1]
    split
    · rw [aget_aset]
      split
      · exact fun e => List.ne_nil_of_mem ((mem_sins _ c c).2 (Or.inr rfl)) (Option.some.inj e)
      · exact h.noEmpty k x'
    · exact h.noEmpty k' x'

theorem aget_subs_unsub1 (k : Kind) (c : ConnId) (st : State) (x : Bytes) (c' : ConnId) :
    aget (unsub1 k c st x).1.subs c' =
      if c' = c then some ((info st c).upd k (srem (held st c k) x)) else aget st.subs c' := by
  unfold unsub1
  rw [subs_withSubs, aget_aset]; rfl

theorem info_unsub1 (k : Kind) (c : ConnId) (st : State) (x : Bytes) (c' : ConnId) :
    info (unsub1 k c st x).1 c' = if c' = c then (info st c).upd k (srem (held st c k) x) else info st c' := by
  unfold info
  rw [aget_subs_unsub1]
  split <;> rfl

theorem held_unsub1 (k : Kind) (c : ConnId) (st : State) (x : Bytes) (c' : ConnId) (k' : Kind) :
    held (unsub1 k c st x).1 c' k' = if c' = c ∧ k' = k then srem (held st c k) x else held st c' k' := by
  unfold held
  rw [info_unsub1]
  by_cases hc : c' = c
  · subst hc
    simp only [if_true, sel_upd, true_and]; rfl
  · simp only [hc, if_false, false_and]

/-- The name-side map after one iteration. -/
def unsubIdx (k : Kind) (c : ConnId) (st : State) (x : Bytes) : List (Bytes × List ConnId) :=
  if x ∈ held st c k then
    match aget (st.idx k) x with
    | some subscribers =>
      if (srem subscribers c).isEmpty then adel (st.idx k) x else aset (st.idx k) x (srem subscribers c)
    | none => st.idx k
  else st.idx k

theorem idx_unsub1 (k : Kind) (c : ConnId) (st : State) (x : Bytes) (k' : Kind) :
    (unsub1 k c st x).1.idx k' = if k' = k then unsubIdx k c st x else st.idx k' := by
  cases k <;> cases k' <;> rfl

theorem aget_unsubIdx (k : Kind) (c : ConnId) (st : State) (x x' : Bytes) :
    (aget (unsubIdx k c st x) x').getD [] =
      if x' = x ∧ x ∈ held st c k then srem (members st k x) c else members st k x' := by
  unfold unsubIdx members
  by_cases h : x ∈ held st c k
  · simp only [h, if_true, and_true]
    cases ha : aget (st.idx k) x with
    | none =>
      simp only
      split
      · rename_i e; rw [e, ha]; rfl
      · rfl
    | some subscribers =>
      simp only
      by_cases he : (srem subscribers c).isEmpty = true
      · simp only [he, if_true, aget_adel]
        split
        · exact (List.isEmpty_iff.1 he).symm
        · rfl
      · simp only [he, Bool.false_eq_true, if_false, aget_aset]
        split <;> rfl
  · simp only [h, if_false, and_false]

theorem members_unsub1 {k : Kind} {c : ConnId} {st : State} {x : Bytes}
    (hag : c ∈ members st k x ↔ x ∈ held st c k) (k' : Kind) (x' : Bytes) :
    members (unsub1 k c st x).1 k' x' =
      if k' = k ∧ x' = x then srem (members st k x) c else members st k' x' := by
  rw [members_def, idx_unsub1]
  by_cases hk : k' = k
  · subst hk
    simp only [if_true, true_and, aget_unsubIdx]
    by_cases hx : x' = x
    · subst hx
      by_cases h : x' ∈ held st c k'
      · simp only [h, and_self, if_true]
      · simp only [h, and_false, if_false, if_true, srem_of_not_mem (fun hm => h (hag.1 hm))]
    · simp only [hx, false_and, if_false]
  · simp only [hk, false_and, if_false]; rfl

theorem unsubIdx_noEmpty {k : Kind} {c : ConnId} {st : State} {x : Bytes}
    (hne : ∀ x', aget (st.idx k) x' ≠ some []) (x' : Bytes) : aget (unsubIdx k c st x) x' ≠ some [] := by
  unfold unsubIdx
  split
  · cases ha : aget (st.idx k) x with
    | none => exact hne x'
    | some subscribers =>
      simp only
      split
      · rw [aget_adel]
        split
        · exact nofun
        · exact hne x'
      · rename_i he
        rw [aget_aset]
        split
        · exact fun e => he (List.isEmpty_iff.2 (Option.some.inj e))
        · exact hne x'
  · exact hne x'

theorem unsubIdx_keys {k : Kind} {c : ConnId} {st : State} {x : Bytes}
    (hn : (keys (st.idx k)).Nodup) : (keys (unsubIdx k c st x)).Nodup := by
  unfold unsubIdx
  split
  · cases aget (st.idx k) x with
    | none => exact hn
    | some subscribers =>
      simp only
      split
      · exact nodup_keys_adel hn _
      · exact nodup_keys_aset hn _ _
  · exact hn

theorem Inv.unsub1 {st : State} (h : Inv st) (k : Kind) (c : ConnId) (x : Bytes) : Inv (unsub1 k c st x).1 := by
  have hag := h.agree k x c
  refine ⟨fun k' x' c' => ?_, fun k' => ?_, ?_, fun k' x' => ?_, fun c' k' => ?_, fun k' x' => ?_⟩
  · rw [members_unsub1 hag, held_unsub1]
    by_cases hk : k' = k
    · subst hk
      by_cases hx : x' = x
      · subst hx
        by_cases hc : c' = c
        · subst hc; simp [mem_srem]
        · simp [hc, mem_srem, h.agree]
      · by_cases hc : c' = c
        · subst hc; simp [hx, mem_srem, h.agree]
        · simp [hx, hc, h.agree]
    · simp [hk, h.agree]
  · rw [idx_unsub1]
    split
    · exact unsubIdx_keys (h.keysIdx k)
    · exact h.keysIdx k'
  · unfold PubSub.unsub1
    exact nodup_keys_aset h.keysSubs _ _
  · rw [members_unsub1 hag]
    split
    · exact nodup_srem (h.nodupMembers k x) c
    · exact h.nodupMembers k' x'
  · rw [held_unsub1]
    split
    · exact nodup_srem (h.nodupHeld c k) x
    · exact h.nodupHeld c' k'
  · rw [idx_unsub1]
    split
    · exact unsubIdx_noEmpty (h.noEmpty k) x'
    · exact h.noEmpty k' x'

theorem loop_fst_inv {P : State → Prop} {f : State → Bytes → State × Ack}
    (hf : ∀ st x, P st → P (f st x).1) : ∀ (xs : List Bytes) (st : State), P st → P (loop f st xs).1
  | [], _, h => h
  | x :: xs, st, h => loop_fst_inv hf xs _ (hf st x h)

theorem Inv.subscribe {st : State} (h : Inv st) (k : Kind) (c : ConnId) (xs : List Bytes) :
    Inv (subscribe k c st xs).1 :=
  loop_fst_inv (P := Inv) (fun _ x hs => Inv.sub1 hs k c x) xs _ (h.ensure c)

theorem unsubscribe_none {st : State} {c : ConnId} (h : aget st.subs c = none) (k : Kind) (xs : Option (List Bytes)) :
    unsubscribe k c st xs = (st, []) := by
  unfold unsubscribe; rw [h]

theorem unsubscribe_some {st : State} {c : ConnId} {i : Held} (h : aget st.subs c = some i) (k : Kind)
    (xs : Option (List Bytes)) :
    unsubscribe k c st xs =
      (cleanup (loop (unsub1 k c) st (xs.getD (i.sel k))).1 c, (loop (unsub1 k c) st (xs.getD (i.sel k))).2) := by
  unfold unsubscribe; rw [h]

theorem Inv.unsubscribe {st : State} (h : Inv st) (k : Kind) (c : ConnId) (xs : Option (List Bytes)) :
    Inv (unsubscribe k c st xs).1 := by
  cases ha : aget st.subs c with
  | none => rw [unsubscribe_none ha]; exact h
  | some i =>
    rw [unsubscribe_some ha]
    exact Inv.cleanup (loop_fst_inv (P := Inv) (fun _ x hs => Inv.unsub1 hs k c x) _ _ h) c

theorem held_unsubscribeAll (st : State) (c c' : ConnId) (k : Kind) :
    held (unsubscribeAll st c) c' k = if c' = c then [] else held st c' k := by
  unfold held info unsubscribeAll
  rw [aget_adel]
  split
  · cases k <;> rfl
  · rfl

theorem idx_unsubscribeAll (st : State) (c : ConnId) (k : Kind) :
    (unsubscribeAll st c).idx k = purge (st.idx k) c := by
  cases k <;> rfl

theorem members_unsubscribeAll {st : State} (h : Inv st) (c : ConnId) (k : Kind) (x : Bytes) :
    members (unsubscribeAll st c) k x = srem (members st k x) c := by
  rw [members_def, idx_unsubscribeAll, getD_aget_purge (h.keysIdx k)]; rfl

theorem Inv.unsubscribeAll {st : State} (h : Inv st) (c : ConnId) : Inv (unsubscribeAll st c) := by
  refine ⟨fun k x c' => ?_, fun k => ?_, nodup_keys_adel h.keysSubs c, fun k x => ?_, fun c' k => ?_, fun k x => ?_⟩
  · rw [members_unsubscribeAll h, held_unsubscribeAll, mem_srem, h.agree]
    split
    · rename_i hc; exact ⟨fun e => absurd hc e.2, nofun⟩
    · rename_i hc; exact and_iff_left hc
  · rw [idx_unsubscribeAll]; exact (h.keysIdx k).sublist (keys_purge_sublist _ c)
  · rw [members_unsubscribeAll h]; exact nodup_srem (h.nodupMembers k x) c
  · rw [held_unsubscribeAll]
    split
    · exact List.nodup_nil
    · exact h.nodupHeld c' k
  · rw [idx_unsubscribeAll]; exact aget_purge_ne_nil _ c x

theorem Inv.next {st : State} (h : Inv st) : ∀ op : Op, Inv (Code.next st op)
  | .subscribe c k xs => h.subscribe k c xs
  | .unsubscribe c k xs => h.unsubscribe k c xs
  | .disconnect c => h.unsubscribeAll c
  | .publish _ _ _ => h

theorem Code.after_induction {P : State → Prop} {ops : List Op}
    (hstep : ∀ st, ∀ op ∈ ops, P st → P (Code.next st op)) {st : State} (h : P st) : P (Code.after st ops) := by
  induction ops generalizing st with
  | nil => exact h
  | cons op ops ih =>
    exact ih (fun s o ho => hstep s o (List.mem_cons_of_mem _ ho)) (hstep st op List.mem_cons_self h)

theorem Inv.after {st : State} (h : Inv st) (ops : List Op) : Inv (Code.after st ops) :=
  Code.after_induction (fun _ op _ hs => hs.next op) h

theorem mem_getD_aget {m : List (Bytes × List ConnId)} {x : Bytes} {c : ConnId} :
    c ∈ (aget m x).getD [] ↔ ∃ cs, aget m x = some cs ∧ c ∈ cs := by
  cases aget m x with
  | none => exact ⟨nofun, fun ⟨_, h, _⟩ => nomatch h⟩
  | some cs => exact ⟨fun h => ⟨cs, rfl, h⟩, fun ⟨_, h, hc⟩ => Option.some.inj h ▸ hc⟩

theorem mem_members_iff {st : State} {k : Kind} (hk : (keys (st.idx k)).Nodup) (x : Bytes) (c : ConnId) :
    c ∈ members st k x ↔ ∃ cs, (x, cs) ∈ st.idx k ∧ c ∈ cs := by
  rw [members_def, mem_getD_aget]
  exact exists_congr fun cs => and_congr_left' (mem_iff_aget hk x cs).symm

theorem mem_held_iff {st : State} (hk : (keys st.subs).Nodup) (c : ConnId) (k : Kind) (x : Bytes) :
    x ∈ held st c k ↔ ∃ h, (c, h) ∈ st.subs ∧ x ∈ h.sel k := by
  rw [exists_congr fun h => and_congr_left' (mem_iff_aget hk c h)]
  cases ha : aget st.subs c with
  | none => rw [held_nil_of_no_entry ha]; exact ⟨nofun, fun ⟨_, h, _⟩ => nomatch h⟩
  | some i =>
    unfold held info
    rw [ha]
    exact ⟨fun h => ⟨i, rfl, h⟩, fun ⟨_, h, hx⟩ => Option.some.inj h ▸ hx⟩

theorem Inv.raw {st : State} (h : Inv st) :
    (∀ k x c, (∃ cs, (x, cs) ∈ st.idx k ∧ c ∈ cs) ↔ (∃ i, (c, i) ∈ st.subs ∧ x ∈ i.sel k)) ∧
    (∀ k, ((st.idx k).map (·.1)).Nodup) ∧ (st.subs.map (·.1)).Nodup ∧
    (∀ k, ∀ e ∈ st.idx k, e.2 ≠ [] ∧ e.2.Nodup) ∧
    (∀ k, ∀ e ∈ st.subs, (e.2.sel k).Nodup) := by
  refine ⟨fun k x c => ?_, h.keysIdx, h.keysSubs, fun k e he => ?_, fun k e he => ?_⟩
  · rw [← mem_members_iff (h.keysIdx k), ← mem_held_iff h.keysSubs]
    exact h.agree k x c
  · have ha := (mem_iff_aget (h.keysIdx k) e.1 e.2).1 he
    refine ⟨fun e0 => h.noEmpty k e.1 (e0 ▸ ha), ?_⟩
    have := h.nodupMembers k e.1
    rwa [members_def, ha] at this
  · have ha := (mem_iff_aget h.keysSubs e.1 e.2).1 he
    have := h.nodupHeld e.1 k
    unfold held info at this
    rwa [ha] at this

theorem subs_next_other {o : Op} {c x : ConnId} (ho : o.sender = some c) (hx : x ≠ c) (st : State) :
    aget (Code.next st o).subs x = aget st.subs x := by
  cases o with
  | subscribe c' k xs =>
    cases ho
    refine loop_fst_inv (P := fun s => aget s.subs x = aget st.subs x) (fun s y hs => ?_) xs _ ?_
    · rwa [aget_subs_sub1, if_neg (fun e => hx e.1)]
    · rw [aget_subs_ensure, if_neg (fun e => hx e.1)]
  | unsubscribe c' k xs =>
    cases ho
    show aget (unsubscribe k c st xs).1.subs x = _
    cases ha : aget st.subs c with
    | none => rw [unsubscribe_none ha]
    | some i =>
      rw [unsubscribe_some ha, aget_subs_cleanup, if_neg (fun e => hx e.1)]
      exact loop_fst_inv (P := fun s => aget s.subs x = aget st.subs x)
        (fun s y hs => by rwa [aget_subs_unsub1, if_neg hx]) _ _ rfl
  | disconnect c' => cases ho
  | publish c' ch m => rfl

/-- Every entry of the connection-side map records at least one subscription. -/
def NoEmptyInfo (st : State) : Prop := ∀ c i, aget st.subs c = some i → i ≠ ([], [])

theorem held_loop_sub1_mono {k : Kind} {c : ConnId} {y : Bytes} (xs : List Bytes) (st : State)
    (h : y ∈ held st c k) : y ∈ held (loop (sub1 k c) st xs).1 c k :=
  loop_fst_inv (P := fun s => y ∈ held s c k)
    (fun s x hs => by rw [held_sub1, if_pos ⟨rfl, rfl⟩]; exact (mem_sins _ _ _).2 (Or.inl hs)) xs st h

theorem held_loop_sub1_first {k : Kind} {c : ConnId} (x : Bytes) (xs : List Bytes) (st : State) :
    x ∈ held (loop (sub1 k c) st (x :: xs)).1 c k := by
  apply held_loop_sub1_mono xs (sub1 k c st x).1
  rw [held_sub1, if_pos ⟨rfl, rfl⟩]
  exact (mem_sins _ _ _).2 (Or.inr rfl)

theorem ne_empty_of_held {st : State} {c : ConnId} {k : Kind} {y : Bytes} {i : Held}
    (ha : aget st.subs c = some i) (h : y ∈ held st c k) : i ≠ ([], []) := by
  unfold held info at h
  rw [ha] at h
  rintro rfl
  cases k <;> cases h

theorem NoEmptyInfo.next {st : State} (h : NoEmptyInfo st) (op : Op) (hop : Code.clientOp op = true) :
    NoEmptyInfo (Code.next st op) := by
  intro c' i ha
  cases op with
  | subscribe c k xs =>
    by_cases hc : c' = c
    · subst hc
      cases xs with
      | nil => cases hop
      | cons x xs => exact ne_empty_of_held ha (held_loop_sub1_first x xs _)
    · rw [subs_next_other rfl hc] at ha
      exact h c' i ha
  | unsubscribe c k xs =>
    by_cases hc : c' = c
    · subst hc
      change aget (unsubscribe k c' st xs).1.subs c' = some i at ha
      cases h0 : aget st.subs c' with
      | none => rw [unsubscribe_none h0] at ha; exact h c' i ha
      | some j => rw [unsubscribe_some h0] at ha; exact cleanup_nonempty _ _ _ ha
    · rw [subs_next_other rfl hc] at ha
      exact h c' i ha
  | disconnect c =>
    change aget (adel st.subs c) c' = some i at ha
    rw [aget_adel] at ha
    split at ha
    · cases ha
    · exact h c' i ha
  | publish p ch msg => exact h c' i ha

theorem NoEmptyInfo.after {st : State} (h : NoEmptyInfo st) (ops : List Op) (hops : ∀ op ∈ ops, Code.clientOp op = true) :
    NoEmptyInfo (Code.after st ops) :=
  Code.after_induction (fun _ op ho hs => hs.next op (hops op ho)) h

end Ferrous.PubSub
