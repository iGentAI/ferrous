/-
  Association lists with unique keys, the prescribed view `Spec.purge` (the live entries), and what the
  deadline test `enter` at the head of a storage function hands over and leaves behind.
-/
import FerrousSpec.Model.Expiry
namespace Ferrous.Exp
open Ferrous

/-- keys are unique (a `HashMap`) -/
def NodupKeys {α : Type} (l : List (Key × α)) : Prop := (l.map (·.1)).Nodup

theorem lookup_cons {α : Type} (k' : Key) (v : α) (t : List (Key × α)) (k : Key) :
    lookup ((k', v) :: t) k = if k' = k then some v else lookup t k := rfl

theorem lookup_nil {α : Type} (k : Key) : lookup ([] : List (Key × α)) k = none := rfl

theorem lookup_none_of_not_mem {α : Type} (l : List (Key × α)) (k : Key) (h : k ∉ l.map (·.1)) : lookup l k = none := by
  induction l with
  | nil => rfl
  | cons p t ih =>
    obtain ⟨k', v⟩ := p
    simp only [List.map_cons, List.mem_cons, not_or] at h
    rw [lookup_cons, if_neg (fun hh => h.1 hh.symm)]
    exact ih h.2

theorem mem_keys_of_lookup {α : Type} (l : List (Key × α)) (k : Key) (v : α) (h : lookup l k = some v) : (k, v) ∈ l := by
  induction l with
  | nil => simp [lookup_nil] at h
  | cons p t ih =>
    obtain ⟨k', v'⟩ := p
    rw [lookup_cons] at h
    split at h
    · rename_i hk; subst hk; simp at h; subst h; simp
    · exact List.mem_cons_of_mem _ (ih h)

theorem lookup_of_mem_nodup {α : Type} (l : List (Key × α)) (k : Key) (v : α) (hn : NodupKeys l) (h : (k, v) ∈ l) :
    lookup l k = some v := by
  induction l with
  | nil => simp at h
  | cons p t ih =>
    obtain ⟨k', v'⟩ := p
    have hn' := List.nodup_cons.mp hn
    rw [lookup_cons]
    rcases List.mem_cons.mp h with h | h
    · injection h with h1 h2; subst h1; subst h2; simp
    · have : k' ≠ k := by
        intro hk; subst hk
        exact hn'.1 (List.mem_map.mpr ⟨(k', v), h, rfl⟩)
      rw [if_neg this]
      exact ih hn'.2 h

theorem lookup_erase_self {α : Type} (l : List (Key × α)) (k : Key) : lookup (erase l k) k = none := by
  apply lookup_none_of_not_mem
  simp [erase, List.mem_map, List.mem_filter]

theorem lookup_filter_other {α : Type} (l : List (Key × α)) (p : Key × α → Bool) (k : Key)
    (h : ∀ v, (k, v) ∈ l → p (k, v) = true) : lookup (l.filter p) k = lookup l k := by
  induction l with
  | nil => rfl
  | cons q t ih =>
    obtain ⟨k', v'⟩ := q
    have ih' := ih (fun v hv => h v (List.mem_cons_of_mem _ hv))
    by_cases hk : k' = k
    · subst hk
      have := h v' (by simp)
      simp [this, lookup_cons]
    · cases hp : p (k', v') <;> simp [hp, lookup_cons, hk, ih']

theorem lookup_erase_other {α : Type} (l : List (Key × α)) (k k' : Key) (h : k' ≠ k) :
    lookup (erase l k) k' = lookup l k' := by
  apply lookup_filter_other
  intro v _
  simp [h]

theorem lookup_insert_self {α : Type} (l : List (Key × α)) (k : Key) (v : α) : lookup (insert l k v) k = some v := by
  simp [insert, lookup_cons]

theorem lookup_insert_other {α : Type} (l : List (Key × α)) (k k' : Key) (v : α) (h : k' ≠ k) :
    lookup (insert l k v) k' = lookup l k' := by
  simp only [insert, lookup_cons]
  rw [if_neg (fun hh => h hh.symm)]
  exact lookup_erase_other l k k' h

theorem erase_of_lookup_none {α : Type} (l : List (Key × α)) (k : Key) (h : lookup l k = none) : erase l k = l := by
  induction l with
  | nil => rfl
  | cons p t ih =>
    obtain ⟨k', v⟩ := p
    rw [lookup_cons] at h
    split at h
    · simp at h
    · rename_i hk
      simp only [erase, List.filter_cons, hk, decide_false, Bool.not_false, if_true]
      congr 1
      exact ih h

theorem nodup_filter {α : Type} (l : List (Key × α)) (p : Key × α → Bool) (h : NodupKeys l) : NodupKeys (l.filter p) := by
  unfold NodupKeys at *
  exact List.Nodup.sublist (List.Sublist.map _ List.filter_sublist) h

theorem nodup_erase {α : Type} (l : List (Key × α)) (k : Key) (h : NodupKeys l) : NodupKeys (erase l k) :=
  nodup_filter l _ h

theorem nodup_insert {α : Type} (l : List (Key × α)) (k : Key) (v : α) (h : NodupKeys l) : NodupKeys (insert l k v) := by
  unfold NodupKeys insert
  simp only [List.map_cons, List.nodup_cons]
  refine ⟨?_, nodup_erase l k h⟩
  simp [erase, List.mem_map, List.mem_filter]

theorem nodup_nil {α : Type} : NodupKeys ([] : List (Key × α)) := by simp [NodupKeys]

theorem lookup_filter_nodup {α : Type} (l : List (Key × α)) (p : Key × α → Bool) (k : Key) (hn : NodupKeys l) :
    lookup (l.filter p) k = (lookup l k).filter (fun v => p (k, v)) := by
  induction l with
  | nil => rfl
  | cons q t ih =>
    obtain ⟨k', v'⟩ := q
    have hn' := List.nodup_cons.mp hn
    by_cases hk : k' = k
    · subst hk
      have hnone : lookup t k' = none := lookup_none_of_not_mem t k' hn'.1
      cases hp : p (k', v')
      · simp only [List.filter_cons, hp, Bool.false_eq_true, if_false, lookup_cons, if_true, Option.filter]
        rw [ih hn'.2, hnone]; rfl
      · simp [hp, lookup_cons, Option.filter]
    · cases hp : p (k', v') <;> simp [hp, lookup_cons, hk, ih hn'.2]

theorem purge_erase (now : Nat) (d : Db) (k : Key) : Spec.purge now (erase d k) = erase (Spec.purge now d) k := by
  simp only [Spec.purge, erase, List.filter_filter]
  exact List.filter_congr fun x _ => Bool.and_comm _ _

theorem purge_insert_alive (now : Nat) (d : Db) (k : Key) (e : Stored) (h : expired now e = false) :
    Spec.purge now (insert d k e) = insert (Spec.purge now d) k e := by
  have := purge_erase now d k
  unfold Spec.purge at *
  simp only [insert, List.filter_cons, h, Bool.not_false, if_true]
  rw [this]

theorem purge_insert_dead (now : Nat) (d : Db) (k : Key) (e : Stored) (h : expired now e = true) :
    Spec.purge now (insert d k e) = erase (Spec.purge now d) k := by
  have := purge_erase now d k
  unfold Spec.purge at *
  simp only [insert, List.filter_cons, h, Bool.not_true, Bool.false_eq_true, if_false]
  rw [this]

theorem purge_idem (now : Nat) (d : Db) : Spec.purge now (Spec.purge now d) = Spec.purge now d := by
  simp [Spec.purge, List.filter_filter]

theorem expired_mono (t t' : Nat) (e : Stored) (h : t ≤ t') (he : expired t e = true) : expired t' e = true := by
  unfold expired at *
  cases hd : e.deadline with
  | none => simp [hd] at he
  | some d => simp [hd] at he ⊢; omega

theorem purge_purge_le (t t' : Nat) (d : Db) (h : t ≤ t') : Spec.purge t' (Spec.purge t d) = Spec.purge t' d := by
  simp only [Spec.purge, List.filter_filter]
  apply List.filter_congr
  intro x _
  cases h1 : expired t' x.2 <;> cases h2 : expired t x.2 <;> simp
  have := expired_mono t t' x.2 h h2
  simp [h1] at this

theorem purge_nodup (now : Nat) (d : Db) (h : NodupKeys d) : NodupKeys (Spec.purge now d) := nodup_filter d _ h

theorem lookup_purge (now : Nat) (d : Db) (k : Key) (hn : NodupKeys d) :
    lookup (Spec.purge now d) k = (lookup d k).filter (fun e => !expired now e) := by
  unfold Spec.purge
  exact lookup_filter_nodup d _ k hn

theorem purge_of_lookup_dead (now : Nat) (d : Db) (k : Key) (e : Stored) (hn : NodupKeys d)
    (hl : lookup d k = some e) (he : expired now e = true) : Spec.purge now (erase d k) = Spec.purge now d := by
  rw [purge_erase]
  apply erase_of_lookup_none
  rw [lookup_purge now d k hn, hl]
  simp [Option.filter, he]

theorem enter_snd (c : Cfg) (fn : String) (now : Nat) (s : Shard) (k : Key) (hn : NodupKeys s.data)
    (h : c.lazy fn = true ∨ ∀ e, lookup s.data k = some e → expired now e = false) : (enter c fn now s k).2 = lookup (Spec.purge now s.data) k := by
  rw [lookup_purge now s.data k hn]
  unfold enter
  cases hl : lookup s.data k with
  | none => simp [Option.filter]
  | some e =>
    cases he : expired now e
    · simp [Option.filter, he]
    · rcases h with h | h
      · simp [Option.filter, he, h]
      · have := h e hl; simp [he] at this

theorem enter_fst (c : Cfg) (fn : String) (now : Nat) (s : Shard) (k : Key) :
    (enter c fn now s k).1 = s ∨
      ((enter c fn now s k).1 = ⟨erase s.data k, erase s.expiring k⟩ ∧
        ∃ e, lookup s.data k = some e ∧ expired now e = true) := by
  unfold enter
  cases hl : lookup s.data k with
  | none => exact .inl rfl
  | some e =>
    simp only []
    split
    · rename_i hc
      simp only [Bool.and_eq_true] at hc
      split
      · exact .inr ⟨rfl, e, rfl, hc.2⟩
      · exact .inl rfl
    · exact .inl rfl

theorem enter_view (c : Cfg) (fn : String) (now : Nat) (s : Shard) (k : Key) (hn : NodupKeys s.data) :
    Spec.purge now (enter c fn now s k).1.data = Spec.purge now s.data := by
  rcases enter_fst c fn now s k with h | ⟨h, e, hl, he⟩ <;> rw [h]
  exact purge_of_lookup_dead now s.data k e hn hl he

theorem enter_nodup (c : Cfg) (fn : String) (now : Nat) (s : Shard) (k : Key) (hn : NodupKeys s.data) :
    NodupKeys (enter c fn now s k).1.data := by
  rcases enter_fst c fn now s k with h | ⟨h, -⟩ <;> rw [h]
  · exact hn
  · exact nodup_erase _ _ hn

theorem enter_some (c : Cfg) (fn : String) (now : Nat) (s : Shard) (k : Key) (e : Stored)
    (h : (enter c fn now s k).2 = some e) : (enter c fn now s k).1 = s ∧ lookup s.data k = some e := by
  unfold enter at h ⊢
  cases hl : lookup s.data k with
  | none => simp [hl] at h
  | some e' =>
    simp only [hl] at h ⊢
    split at h
    · simp at h
    · rename_i hc
      simp at h; subst h
      simp [hc]

theorem enter_live (c : Cfg) (fn : String) (now : Nat) (s : Shard) (k : Key) (e : Stored)
    (hl : lookup s.data k = some e) (he : expired now e = false) : enter c fn now s k = (s, some e) := by
  simp [enter, hl, he]

theorem enter_absent (c : Cfg) (fn : String) (now : Nat) (s : Shard) (k : Key)
    (hl : lookup s.data k = none) : enter c fn now s k = (s, none) := by
  simp [enter, hl]

theorem enter_frame (c : Cfg) (fn : String) (now : Nat) (s : Shard) (k k' : Key) (h : k' ≠ k) :
    lookup (enter c fn now s k).1.data k' = lookup s.data k' ∧ lookup (enter c fn now s k).1.expiring k' = lookup s.expiring k' := by
  rcases enter_fst c fn now s k with h' | ⟨h', -⟩ <;> rw [h']
  · exact ⟨rfl, rfl⟩
  · exact ⟨lookup_erase_other _ _ _ h, lookup_erase_other _ _ _ h⟩

end Ferrous.Exp
