/-
  What one command does to the database it runs on (`Safe`): failure atomicity and preservation of `DbOk`
  are its two halves.  A command body is a decision tree with leaves `(database, reply)`; the proofs walk
  it with `split` and name the kinds of leaf that occur.
-/
import FerrousSpec.Proofs.KsInv
namespace Ferrous.KS

/-- the reply is an error -/
def isErr : Frame → Bool
  | .error _ => true
  | _ => false

/-- The command hands the database back untouched, or it answers with something other than an error
    and a database that is well-formed if the given one was. -/
def Safe (db : Db) (f : Db × Frame) : Prop := f.1 = db ∨ isErr f.2 = false ∧ (DbOk db → DbOk f.1)

namespace Safe
variable {db db' : Db} {k : Bytes} {e : Entry} {r : Frame}

theorem same (db : Db) (r : Frame) : Safe db (db, r) := .inl rfl

theorem of_fst {f : Db × Frame} (h : f.1 = db) : Safe db f := .inl h

theorem change (hr : isErr r = false) (h : DbOk db → DbOk db') : Safe db (db', r) := .inr ⟨hr, h⟩

theorem insert (hr : isErr r = false) (he : DbOk db → valOk e.val) : Safe db (insert db k e, r) :=
  change hr fun h => DbOk_insert k e h (he h)

/-- re-inserting a stored value under a new deadline -/
theorem retime (hr : isErr r = false) (hl : lookup db k = some e) (d : Option Nat) :
    Safe db (KS.insert db k { e with deadline := d }, r) :=
  insert hr fun h => (lookup_valOk h hl : valOk e.val)

theorem erase (hr : isErr r = false) : Safe db (erase db k, r) := change hr (DbOk_erase k)

theorem putColl {old : Entry} {v : Val} (hr : isErr r = false) (hv : DbOk db → valPre v) :
    Safe db (putColl db k old v, r) :=
  change hr fun h => DbOk_putColl k old v h (hv h)

theorem atomic {f : Db × Frame} (h : Safe db f) (he : isErr f.2 = true) : f.1 = db :=
  h.elim id fun h' => absurd he (by simp [h'.1])

theorem pres {f : Db × Frame} (h : Safe db f) (hdb : DbOk db) : DbOk f.1 :=
  h.elim (fun h' => h' ▸ hdb) fun h' => h'.2 hdb

end Safe

theorem cmdGet_fst (db : Db) (args : List Bytes) : (cmdGet db args).1 = db := by
  unfold cmdGet; (repeat' split) <;> rfl

theorem cmdMget_fst (db : Db) (args : List Bytes) : (cmdMget db args).1 = db := by
  unfold cmdMget; (repeat' split) <;> rfl

theorem cmdStrlen_fst (db : Db) (args : List Bytes) : (cmdStrlen db args).1 = db := by
  unfold cmdStrlen; (repeat' split) <;> rfl

theorem cmdGetrange_fst (db : Db) (args : List Bytes) : (cmdGetrange db args).1 = db := by
  unfold cmdGetrange; (repeat' split) <;> rfl

theorem cmdExists_fst (db : Db) (args : List Bytes) : (cmdExists db args).1 = db := by
  unfold cmdExists; (repeat' split) <;> rfl

theorem cmdType_fst (db : Db) (args : List Bytes) : (cmdType db args).1 = db := by
  unfold cmdType; (repeat' split) <;> rfl

theorem cmdKeys_fst (db : Db) (args : List Bytes) : (cmdKeys db args).1 = db := by
  unfold cmdKeys; (repeat' split) <;> rfl

theorem cmdDbsize_fst (db : Db) (args : List Bytes) : (cmdDbsize db args).1 = db := by
  unfold cmdDbsize; (repeat' split) <;> rfl

theorem cmdRandomkey_fst (db : Db) (args : List Bytes) (o : Option (List Bytes)) :
    (cmdRandomkey db args o).1 = db := by
  unfold cmdRandomkey; (repeat' split) <;> rfl

theorem cmdTtl_fst (db : Db) (now u : Nat) (args : List Bytes) : (cmdTtl db now u args).1 = db := by
  unfold cmdTtl; (repeat' split) <;> rfl

theorem cmdLlen_fst (db : Db) (args : List Bytes) : (cmdLlen db args).1 = db := by
  unfold cmdLlen; (repeat' split) <;> rfl

theorem cmdLrange_fst (db : Db) (args : List Bytes) : (cmdLrange db args).1 = db := by
  unfold cmdLrange; (repeat' split) <;> rfl

theorem cmdLindex_fst (db : Db) (args : List Bytes) : (cmdLindex db args).1 = db := by
  unfold cmdLindex; (repeat' split) <;> rfl

theorem cmdSmembers_fst (db : Db) (args : List Bytes) : (cmdSmembers db args).1 = db := by
  unfold cmdSmembers; (repeat' split) <;> rfl

theorem cmdSismember_fst (db : Db) (args : List Bytes) : (cmdSismember db args).1 = db := by
  unfold cmdSismember; (repeat' split) <;> rfl

theorem cmdScard_fst (db : Db) (args : List Bytes) : (cmdScard db args).1 = db := by
  unfold cmdScard; (repeat' split) <;> rfl

theorem cmdSetAlgebra_fst (db : Db) (op : SetOp) (args : List Bytes) : (cmdSetAlgebra db op args).1 = db := by
  unfold cmdSetAlgebra; (repeat' split) <;> rfl

theorem cmdSrandmember_fst (db : Db) (args : List Bytes) (o : Option (List Bytes)) :
    (cmdSrandmember db args o).1 = db := by
  unfold cmdSrandmember; dsimp only; (repeat' split) <;> rfl

theorem cmdHget_fst (db : Db) (args : List Bytes) : (cmdHget db args).1 = db := by
  unfold cmdHget; (repeat' split) <;> rfl

theorem cmdHmget_fst (db : Db) (args : List Bytes) : (cmdHmget db args).1 = db := by
  unfold cmdHmget; (repeat' split) <;> rfl

theorem cmdHall_fst (db : Db) (w : Nat) (args : List Bytes) : (cmdHall db w args).1 = db := by
  unfold cmdHall; (repeat' split) <;> rfl

theorem cmdHlen_fst (db : Db) (args : List Bytes) : (cmdHlen db args).1 = db := by
  unfold cmdHlen; (repeat' split) <;> rfl

theorem cmdHexists_fst (db : Db) (args : List Bytes) : (cmdHexists db args).1 = db := by
  unfold cmdHexists; (repeat' split) <;> rfl

theorem cmdSet_safe (db : Db) (now : Nat) (args : List Bytes) : Safe db (cmdSet db now args) := by
  unfold cmdSet; dsimp only
  repeat' split
  all_goals first | exact .same _ _ | exact .insert rfl fun _ => trivial

theorem DbOk_msetPairs {db : Db} (ps : List Bytes) (h : DbOk db) : DbOk (msetPairs db ps) := by
  fun_induction msetPairs db ps with
  | case1 db k v r ih => exact ih (DbOk_insert k _ h trivial)
  | case2 => exact h

theorem cmdMset_safe (db : Db) (args : List Bytes) : Safe db (cmdMset db args) := by
  unfold cmdMset
  split
  · exact .same _ _
  · exact .change rfl (DbOk_msetPairs args)

theorem cmdGetset_safe (db : Db) (args : List Bytes) : Safe db (cmdGetset db args) := by
  unfold cmdGetset
  repeat' split
  all_goals first | exact .same _ _ | exact .insert rfl fun _ => trivial

theorem cmdSetnx_safe (db : Db) (args : List Bytes) : Safe db (cmdSetnx db args) := by
  unfold cmdSetnx
  repeat' split
  all_goals first | exact .same _ _ | exact .insert rfl fun _ => trivial

theorem cmdSetex_safe (db : Db) (now u : Nat) (args : List Bytes) : Safe db (cmdSetex db now u args) := by
  unfold cmdSetex
  repeat' split
  all_goals first | exact .same _ _ | exact .insert rfl fun _ => trivial

theorem cmdAppend_safe (db : Db) (args : List Bytes) : Safe db (cmdAppend db args) := by
  unfold cmdAppend
  repeat' split
  all_goals first | exact .same _ _ | exact .insert rfl fun _ => trivial

theorem cmdSetrange_safe (db : Db) (args : List Bytes) : Safe db (cmdSetrange db args) := by
  unfold cmdSetrange; dsimp only
  repeat' split
  all_goals first | exact .same _ _ | exact .insert rfl fun _ => trivial

theorem incrBy_safe (db : Db) (k : Bytes) (d : Int) : Safe db (incrBy db k d) := by
  unfold incrBy; dsimp only
  repeat' split
  all_goals first | exact .same _ _ | exact .insert rfl fun _ => trivial

theorem cmdIncrDecr_safe (db : Db) (sg : Int) (args : List Bytes) : Safe db (cmdIncrDecr db sg args) := by
  unfold cmdIncrDecr
  split
  · exact incrBy_safe ..
  · exact .same _ _

theorem cmdIncrbyDecrby_safe (db : Db) (sg : Int) (args : List Bytes) :
    Safe db (cmdIncrbyDecrby db sg args) := by
  unfold cmdIncrbyDecrby
  repeat' split
  all_goals first | exact .same _ _ | exact incrBy_safe ..

theorem DbOk_delKeys {db : Db} (ks : List Bytes) (n : Nat) (h : DbOk db) : DbOk (delKeys db ks n).1 := by
  fun_induction delKeys db ks n with
  | case1 => exact h
  | case2 db k r n _ ih => exact ih (DbOk_erase k h)
  | case3 db k r n _ ih => exact ih h

theorem cmdDel_safe (db : Db) (args : List Bytes) : Safe db (cmdDel db args) := by
  unfold cmdDel
  split
  · exact .same _ _
  · exact .change rfl (DbOk_delKeys args 0)

theorem cmdRename_safe (db : Db) (nx : Bool) (args : List Bytes) : Safe db (cmdRename db nx args) := by
  unfold cmdRename
  repeat' split
  all_goals first
    | exact .same _ _
    | exact .change rfl fun h => DbOk_insert _ _ (DbOk_erase _ h) (lookup_valOk h ‹_›)

theorem cmdExpire_safe (db : Db) (now u : Nat) (args : List Bytes) : Safe db (cmdExpire db now u args) := by
  unfold cmdExpire
  repeat' split
  all_goals first | exact .same _ _ | exact .erase rfl | exact .retime rfl ‹_› _

theorem cmdPersist_safe (db : Db) (args : List Bytes) : Safe db (cmdPersist db args) := by
  unfold cmdPersist
  repeat' split
  all_goals first | exact .same _ _ | exact .retime rfl ‹_› _

theorem cmdPush_safe (db : Db) (l : Bool) (args : List Bytes) : Safe db (cmdPush db l args) := by
  unfold cmdPush; dsimp only
  repeat' split
  all_goals first | exact .same _ _ | exact .insert rfl fun _ => by simp [valOk]

theorem cmdPop_safe (db : Db) (l : Bool) (args : List Bytes) : Safe db (cmdPop db l args) := by
  unfold cmdPop
  repeat' split
  all_goals first | exact .same _ _ | exact .putColl rfl fun _ => trivial

theorem cmdLset_safe (db : Db) (args : List Bytes) : Safe db (cmdLset db args) := by
  unfold cmdLset
  repeat' split
  all_goals first
    | exact .same _ _
    | exact .insert rfl fun h hnil => list_ne_nil h ‹_› ((List.set_eq_nil_iff _ _).1 hnil)

theorem cmdLtrim_safe (db : Db) (args : List Bytes) : Safe db (cmdLtrim db args) := by
  unfold cmdLtrim
  repeat' split
  all_goals first | exact .same _ _ | exact .putColl rfl fun _ => trivial

theorem cmdLrem_safe (db : Db) (args : List Bytes) : Safe db (cmdLrem db args) := by
  unfold cmdLrem; dsimp only
  repeat' split
  all_goals first | exact .same _ _ | exact .putColl rfl fun _ => trivial

theorem cmdSadd_safe (db : Db) (args : List Bytes) : Safe db (cmdSadd db args) := by
  unfold cmdSadd
  repeat' split
  all_goals first
    | exact .same _ _
    | exact .insert rfl fun _ => ⟨addAll_ne_nil _ _ (.inr (List.cons_ne_nil _ _)), addAll_nodup _ _ .nil⟩
    | exact .insert rfl fun h =>
        ⟨addAll_ne_nil _ _ (.inr (List.cons_ne_nil _ _)), addAll_nodup _ _ (set_nodup h ‹_›)⟩

theorem cmdSrem_safe (db : Db) (args : List Bytes) : Safe db (cmdSrem db args) := by
  unfold cmdSrem
  repeat' split
  all_goals first
    | exact .same _ _
    | exact .putColl rfl fun h => removeAll_nodup _ _ (set_nodup h ‹_›)

theorem cmdSpop_safe (db : Db) (args : List Bytes) (o : Option (List Bytes)) : Safe db (cmdSpop db args o) := by
  unfold cmdSpop; dsimp only
  repeat' split
  all_goals first
    | exact .same _ _
    | exact .putColl rfl fun h => (set_nodup h ‹_›).sublist List.filter_sublist

theorem cmdHset_safe (db : Db) (m : Bool) (args : List Bytes) : Safe db (cmdHset db m args) := by
  unfold cmdHset
  split
  · rename_i k pairs
    split
    · exact .same _ _
    · rename_i hp
      have h2 : 2 ≤ pairs.length := by
        match pairs with
        | [] | [_] => simp at hp
        | _ :: _ :: _ => simp
      have hr (n : Nat) : isErr (if m = true then ok else nat n) = false := by cases m <;> rfl
      split
      · exact .insert (hr _) fun _ => ⟨hsetPairs_ne_nil _ _ _ (.inr h2), hsetPairs_nodup _ _ _ .nil⟩
      · exact .insert (hr _) fun h =>
          ⟨hsetPairs_ne_nil _ _ _ (.inr h2), hsetPairs_nodup _ _ _ (hash_nodup h ‹_›)⟩
      · exact .same _ _
  · exact .same _ _

theorem cmdHdel_safe (db : Db) (args : List Bytes) : Safe db (cmdHdel db args) := by
  unfold cmdHdel
  repeat' split
  all_goals first
    | exact .same _ _
    | exact .putColl rfl fun h => hdelFields_nodup _ _ _ (hash_nodup h ‹_›)

theorem cmdHincrby_safe (db : Db) (args : List Bytes) : Safe db (cmdHincrby db args) := by
  unfold cmdHincrby; dsimp only
  repeat' split
  all_goals first
    | exact .same _ _
    | exact .insert rfl fun _ => ⟨hput_ne_nil _ _ _, hput_nodup _ _ _ .nil⟩
    | exact .insert rfl fun h => ⟨hput_ne_nil _ _ _, hput_nodup _ _ _ (hash_nodup h ‹_›)⟩

theorem cmdZaddSetup_safe (db : Db) (args : List Bytes) : Safe db (cmdZaddSetup db args) := by
  unfold cmdZaddSetup
  repeat' split
  all_goals first | exact .same _ _ | exact .insert rfl fun _ => trivial

theorem cmdXaddSetup_safe (db : Db) (args : List Bytes) : Safe db (cmdXaddSetup db args) := by
  unfold cmdXaddSetup
  repeat' split
  all_goals first | exact .same _ _ | exact .insert rfl fun _ => trivial

theorem stepDb_safe (q : Quirks) (db : Db) (now : Nat) (name : String) (args : List Bytes)
    (obs : Option (List Bytes)) : Safe db (stepDb q db now name args obs) := by
  unfold stepDb
  split
  next => exact cmdSet_safe db now args
  next => exact .of_fst (cmdGet_fst db args)
  next => exact .of_fst (cmdMget_fst db args)
  next => exact cmdMset_safe db args
  next => exact cmdGetset_safe db args
  next => exact cmdSetnx_safe db args
  next => exact cmdSetex_safe db now 1000 args
  next => exact cmdSetex_safe db now 1 args
  next => exact cmdAppend_safe db args
  next => exact .of_fst (cmdStrlen_fst db args)
  next => exact .of_fst (cmdGetrange_fst db args)
  next => exact cmdSetrange_safe db args
  next => exact cmdIncrDecr_safe db 1 args
  next => exact cmdIncrDecr_safe db (-1) args
  next => exact cmdIncrbyDecrby_safe db 1 args
  next => exact cmdIncrbyDecrby_safe db (-1) args
  next => exact cmdDel_safe db args
  next => exact .of_fst (cmdExists_fst db args)
  next => exact .of_fst (cmdType_fst db args)
  next => exact cmdRename_safe db false args
  next => exact cmdRename_safe db true args
  next => exact .of_fst (cmdKeys_fst db args)
  next => exact .of_fst (cmdDbsize_fst db args)
  next => exact .of_fst (cmdRandomkey_fst db args obs)
  next => split
          · exact .change rfl fun _ => DbOk_nil
          · exact .same _ _
  next => exact cmdExpire_safe db now 1000 args
  next => exact cmdExpire_safe db now 1 args
  next => exact .of_fst (cmdTtl_fst db now 1000 args)
  next => exact .of_fst (cmdTtl_fst db now 1 args)
  next => exact cmdPersist_safe db args
  next => exact cmdPush_safe db true args
  next => exact cmdPush_safe db false args
  next => exact cmdPop_safe db true args
  next => exact cmdPop_safe db false args
  next => exact .of_fst (cmdLlen_fst db args)
  next => exact .of_fst (cmdLrange_fst db args)
  next => exact .of_fst (cmdLindex_fst db args)
  next => exact cmdLset_safe db args
  next => exact cmdLtrim_safe db args
  next => exact cmdLrem_safe db args
  next => exact cmdSadd_safe db args
  next => exact cmdSrem_safe db args
  next => exact .of_fst (cmdSmembers_fst db args)
  next => exact .of_fst (cmdSismember_fst db args)
  next => exact .of_fst (cmdScard_fst db args)
  next => exact .of_fst (cmdSetAlgebra_fst db .union args)
  next => exact .of_fst (cmdSetAlgebra_fst db .inter args)
  next => exact .of_fst (cmdSetAlgebra_fst db .diff args)
  next => exact cmdSpop_safe db args obs
  next => exact .of_fst (cmdSrandmember_fst db args obs)
  next => exact cmdHset_safe db false args
  next => exact cmdHset_safe db true args
  next => exact .of_fst (cmdHget_fst db args)
  next => exact .of_fst (cmdHmget_fst db args)
  next => exact .of_fst (cmdHall_fst db 0 args)
  next => exact .of_fst (cmdHall_fst db 1 args)
  next => exact .of_fst (cmdHall_fst db 2 args)
  next => exact cmdHdel_safe db args
  next => exact .of_fst (cmdHlen_fst db args)
  next => exact .of_fst (cmdHexists_fst db args)
  next => exact cmdHincrby_safe db args
  next => exact cmdZaddSetup_safe db args
  next => exact cmdXaddSetup_safe db args
  next => exact .same _ _

def StoreOk (s : Store) : Prop := ∀ db ∈ s, DbOk db

theorem StoreOk_empty : StoreOk emptyStore := fun _ h => List.eq_of_mem_replicate h ▸ DbOk_nil

theorem getDb_ok {s : Store} (hs : StoreOk s) (i : Nat) : DbOk (getDb s i) := by
  unfold getDb
  by_cases h : i < s.length
  · simp [List.getD, h]
    exact hs _ (List.getElem_mem h)
  · simp [List.getD, h, DbOk]

theorem setDb_ok {s : Store} (hs : StoreOk s) (i : Nat) {db : Db} (hdb : DbOk db) : StoreOk (setDb s i db) := by
  intro d hd
  rcases List.mem_or_eq_of_mem_set hd with h | h
  · exact hs d h
  · exact h ▸ hdb

/-- Every command keeps every database well-formed: keys unique, set members and hash fields unique,
    no empty list/set/hash stored. -/
theorem step_pres (q : Quirks) (s : Store) (i now : Nat) (cmd : List Bytes) (obs : Option (List Bytes))
    (hs : StoreOk s) : StoreOk (step q s i now cmd obs).1 := by
  unfold step
  cases cmd with
  | nil => exact hs
  | cons n args =>
    simp only
    split
    · split
      · intro d hd
        obtain ⟨_, _, rfl⟩ := List.mem_map.mp hd
        exact DbOk_nil
      · exact hs
    · exact setDb_ok hs i ((stepDb_safe q _ now _ _ obs).pres (DbOk_purge now (getDb_ok hs i)))

end Ferrous.KS
