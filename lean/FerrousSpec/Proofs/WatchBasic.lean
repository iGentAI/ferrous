/-
  A state of the WATCH machine is read through three observations: `tracker d sh`, `entry d k`, `conn c`.
  How each primitive (`setTracker`, `setEntry`, `setConn`, `mark`, `register`, `unregister`, `markKey`) changes
  them; `Grows` (trackers change by marks only) and `Marked` (a key's counter has passed every baseline taken
  so far), with the two fold lemmas through which every list of operations or keys is handled.
-/
import FerrousSpec.Model.Watch
namespace Ferrous.Watch

theorem aget_aset {α β : Type} [DecidableEq α] (m : List (α × β)) (a b : α) (v dflt : β) :
    aget (aset m a v) b dflt = if a = b then v else aget m b dflt := by
  induction m with
  | nil => simp [aset, aget]
  | cons p r ih =>
    obtain ⟨a', v'⟩ := p
    unfold aset
    by_cases h : a' = a
    · subst h
      simp only [if_true, aget]
      by_cases h2 : a' = b <;> simp [h2]
    · simp only [h, if_false]
      unfold aget
      by_cases h2 : a' = b
      · subst h2
        have : ¬ a = a' := fun e => h e.symm
        simp [this]
      · simp only [h2, if_false]
        exact ih

theorem aget_aset_same {α β : Type} [DecidableEq α] (m : List (α × β)) (a : α) (v dflt : β) :
    aget (aset m a v) a dflt = v := by
  rw [aget_aset]; simp

theorem aget_aset_ne {α β : Type} [DecidableEq α] (m : List (α × β)) (a b : α) (v dflt : β) (h : a ≠ b) :
    aget (aset m a v) b dflt = aget m b dflt := by
  rw [aget_aset]; simp [h]

theorem aget_mem {α β : Type} [DecidableEq α] (m : List (α × β)) (a : α) (dflt : β)
    (h : aget m a dflt ≠ dflt) : (a, aget m a dflt) ∈ m := by
  induction m with
  | nil => simp [aget] at h
  | cons p r ih =>
    obtain ⟨a', v'⟩ := p
    unfold aget at h ⊢
    by_cases e : a' = a
    · subst e; simp
    · simp only [e, if_false] at h ⊢
      exact List.mem_cons_of_mem _ (ih h)

@[simp] theorem tracker_setTracker (s : State) (d sh d' sh' : Nat) (t : Tracker) :
    (s.setTracker d sh t).tracker d' sh' = if (d, sh) = (d', sh') then t else s.tracker d' sh' := by
  simp [State.setTracker, State.tracker, aget_aset]

@[simp] theorem entry_setTracker (s : State) (d sh : Nat) (t : Tracker) (d' : Nat) (k : Key) :
    (s.setTracker d sh t).entry d' k = s.entry d' k := rfl

@[simp] theorem conns_setTracker (s : State) (d sh : Nat) (t : Tracker) :
    (s.setTracker d sh t).conns = s.conns := rfl

@[simp] theorem conn_setTracker (s : State) (d sh : Nat) (t : Tracker) (c : Nat) :
    (s.setTracker d sh t).conn c = s.conn c := rfl

@[simp] theorem data_setTracker (s : State) (d sh : Nat) (t : Tracker) :
    (s.setTracker d sh t).data = s.data := rfl

@[simp] theorem tracker_setEntry (s : State) (d : Nat) (k : Key) (e : Option Entry) (d' sh' : Nat) :
    (s.setEntry d k e).tracker d' sh' = s.tracker d' sh' := rfl

@[simp] theorem entry_setEntry (s : State) (d : Nat) (k : Key) (e : Option Entry) (d' : Nat) (k' : Key) :
    (s.setEntry d k e).entry d' k' = if (d, k) = (d', k') then e else s.entry d' k' := by
  simp [State.setEntry, State.entry, aget_aset]

@[simp] theorem conns_setEntry (s : State) (d : Nat) (k : Key) (e : Option Entry) :
    (s.setEntry d k e).conns = s.conns := rfl

@[simp] theorem conn_setEntry (s : State) (d : Nat) (k : Key) (e : Option Entry) (c : Nat) :
    (s.setEntry d k e).conn c = s.conn c := rfl

@[simp] theorem trk_setEntry (s : State) (d : Nat) (k : Key) (e : Option Entry) :
    (s.setEntry d k e).trk = s.trk := rfl

@[simp] theorem tracker_setConn (s : State) (c : Nat) (cn : Conn) (d sh : Nat) :
    (s.setConn c cn).tracker d sh = s.tracker d sh := rfl

@[simp] theorem entry_setConn (s : State) (c : Nat) (cn : Conn) (d : Nat) (k : Key) :
    (s.setConn c cn).entry d k = s.entry d k := rfl

@[simp] theorem data_setConn (s : State) (c : Nat) (cn : Conn) : (s.setConn c cn).data = s.data := rfl

@[simp] theorem trk_setConn (s : State) (c : Nat) (cn : Conn) : (s.setConn c cn).trk = s.trk := rfl

@[simp] theorem conn_setConn (s : State) (c : Nat) (cn : Conn) (c' : Nat) :
    (s.setConn c cn).conn c' = if c = c' then cn else s.conn c' := by
  simp [State.setConn, State.conn, aget_aset]

@[simp] theorem counter_setEntry (s : State) (d : Nat) (k : Key) (e : Option Entry) (d' : Nat) (k' : Key) :
    (s.setEntry d k e).counter d' k' = s.counter d' k' := rfl

@[simp] theorem counter_setConn (s : State) (c : Nat) (cn : Conn) (d : Nat) (k : Key) :
    (s.setConn c cn).counter d k = s.counter d k := rfl

@[simp] theorem active_setEntry (s : State) (d : Nat) (k : Key) (e : Option Entry) (d' sh : Nat) :
    (s.setEntry d k e).active d' sh = s.active d' sh := rfl

@[simp] theorem active_setConn (s : State) (c : Nat) (cn : Conn) (d sh : Nat) :
    (s.setConn c cn).active d sh = s.active d sh := rfl

/-- a relation between trackers that holds between the replaced tracker and its replacement (and of every
    tracker with itself) holds at every (database, shard) between the old state and the new -/
theorem tracker_setTracker_rel {R : Tracker → Tracker → Prop} (s : State) (d sh : Nat) (t : Tracker)
    (d' sh' : Nat) (hr : ∀ t, R t t) (h : d = d' → sh = sh' → R (s.tracker d sh) t) :
    R (s.tracker d' sh') ((s.setTracker d sh t).tracker d' sh') := by
  rw [tracker_setTracker]
  split
  · next e => cases e; exact h rfl rfl
  · exact hr _

theorem foldl_obs {α β : Type} (obs : State → β) (f : State → α → State) (l : List α)
    (h : ∀ s, ∀ a ∈ l, obs (f s a) = obs s) (s : State) : obs (l.foldl f s) = obs s := by
  induction l generalizing s with
  | nil => rfl
  | cons a r ih =>
    exact (ih (fun s b m => h s b (List.mem_cons_of_mem _ m)) _).trans (h s a List.mem_cons_self)

theorem foldl_rel {α : Type} {R : State → State → Prop} (refl : ∀ s, R s s)
    (trans : ∀ {a b c}, R a b → R b c → R a c) (f : State → α → State) (h : ∀ s a, R s (f s a))
    (l : List α) (s : State) : R s (l.foldl f s) := by
  induction l generalizing s with
  | nil => exact refl s
  | cons a r ih => exact trans (h s a) (ih _)

theorem conn_conns_eq {s s' : State} (h : s'.conns = s.conns) (c : Nat) : s'.conn c = s.conn c := by
  unfold State.conn; rw [h]

/-- every per-key counter is at most the global counter of its tracker -/
def TrackerOk (t : Tracker) : Prop := ∀ k, t.counter k ≤ t.global

theorem trackerOk_default : TrackerOk ({} : Tracker) := by
  intro k; simp [Tracker.counter, aget]

@[simp] theorem mark_active (t : Tracker) (k : Key) : (t.mark k).active = t.active := by
  unfold Tracker.mark; split <;> rfl

theorem mark_global_le (t : Tracker) (k : Key) : t.global ≤ (t.mark k).global := by
  unfold Tracker.mark; split <;> simp

theorem mark_counter (t : Tracker) (k k' : Key) :
    (t.mark k).counter k' = if t.active = 0 then t.counter k' else if k = k' then t.global + 1 else t.counter k' := by
  unfold Tracker.mark
  by_cases h : t.active = 0
  · simp [h]
  · simp only [h, if_false, Tracker.counter, aget_aset]

theorem mark_counter_other (t : Tracker) (k k' : Key) (h : k ≠ k') : (t.mark k).counter k' = t.counter k' := by
  rw [mark_counter]; split <;> simp_all

theorem mark_ok (t : Tracker) (k : Key) (h : TrackerOk t) : TrackerOk (t.mark k) := by
  intro k'
  rw [mark_counter]
  by_cases ha : t.active = 0
  · simp only [ha, if_true]; exact Nat.le_trans (h k') (mark_global_le t k)
  · simp only [ha, if_false]
    have hg : (t.mark k).global = t.global + 1 := by simp [Tracker.mark, ha]
    rw [hg]
    split
    · exact Nat.le_refl _
    · exact Nat.le_succ_of_le (h k')

theorem mark_counter_mono (t : Tracker) (k k' : Key) (h : TrackerOk t) : t.counter k' ≤ (t.mark k).counter k' := by
  rw [mark_counter]
  split
  · exact Nat.le_refl _
  · split
    · rename_i e; subst e; exact Nat.le_succ_of_le (h k)
    · exact Nat.le_refl _

theorem mark_counter_self (t : Tracker) (k : Key) (h : t.active ≠ 0) : t.global < (t.mark k).counter k := by
  rw [mark_counter]; simp [h]

@[simp] theorem register_counter (t : Tracker) (k k' : Key) : ((t.register k).1).counter k' = t.counter k' := rfl
@[simp] theorem register_global (t : Tracker) (k : Key) : ((t.register k).1).global = t.global := rfl
theorem register_active (t : Tracker) (k : Key) : ((t.register k).1).active = (t.active + 1) % two64 := by
  unfold Tracker.register
  rfl
@[simp] theorem register_base (t : Tracker) (k : Key) : (t.register k).2 = t.counter k := rfl
@[simp] theorem unregister_counter (t : Tracker) (k' : Key) : (t.unregister).counter k' = t.counter k' := by
  unfold Tracker.unregister Tracker.counter
  rfl
@[simp] theorem unregister_global (t : Tracker) : (t.unregister).global = t.global := by
  unfold Tracker.unregister
  rfl
theorem unregister_active (t : Tracker) : (t.unregister).active = (t.active + (two64 - 1)) % two64 := by
  unfold Tracker.unregister
  rfl

@[simp] theorem entry_markKey (s : State) (d : Nat) (k : Key) (d' : Nat) (k' : Key) :
    (markKey s d k).entry d' k' = s.entry d' k' := rfl

@[simp] theorem conns_markKey (s : State) (d : Nat) (k : Key) : (markKey s d k).conns = s.conns := rfl
@[simp] theorem conn_markKey (s : State) (d : Nat) (k : Key) (c : Nat) : (markKey s d k).conn c = s.conn c := rfl
@[simp] theorem data_markKey (s : State) (d : Nat) (k : Key) : (markKey s d k).data = s.data := rfl

theorem tracker_markKey (s : State) (d : Nat) (k : Key) (d' sh' : Nat) :
    (markKey s d k).tracker d' sh' =
      if (d, shardOf k) = (d', sh') then (s.tracker d (shardOf k)).mark k else s.tracker d' sh' := by
  simp [markKey]

@[simp] theorem active_markKey (s : State) (d : Nat) (k : Key) (d' sh' : Nat) :
    (markKey s d k).active d' sh' = s.active d' sh' :=
  tracker_setTracker_rel (R := fun t t' => t'.active = t.active) s d (shardOf k) _ d' sh' (fun _ => rfl)
    (fun _ _ => mark_active _ k)

theorem global_markKey_le (s : State) (d : Nat) (k : Key) (d' sh' : Nat) :
    (s.tracker d' sh').global ≤ ((markKey s d k).tracker d' sh').global :=
  tracker_setTracker_rel (R := fun t t' => t.global ≤ t'.global) s d (shardOf k) _ d' sh' (fun _ => Nat.le_refl _)
    (fun _ _ => mark_global_le _ k)

theorem counter_markKey_other (s : State) (d : Nat) (k : Key) (d' : Nat) (k' : Key) (h : (d, k) ≠ (d', k')) :
    (markKey s d k).counter d' k' = s.counter d' k' :=
  tracker_setTracker_rel (R := fun t t' => t'.counter k' = t.counter k') s d (shardOf k) _ d' (shardOf k')
    (fun _ => rfl) (fun e _ => mark_counter_other _ k k' fun ek => h (by rw [e, ek]))

def TOk (s : State) : Prop := ∀ d sh, TrackerOk (s.tracker d sh)

theorem tok_init : TOk State.init := by
  intro d sh
  have : State.init.tracker d sh = {} := by simp [State.init, State.tracker, aget]
  rw [this]; exact trackerOk_default

theorem tok_markKey (s : State) (d : Nat) (k : Key) (h : TOk s) : TOk (markKey s d k) := fun d' sh' =>
  tracker_setTracker_rel (R := fun t t' => TrackerOk t → TrackerOk t') s d (shardOf k) _ d' sh' (fun _ => id)
    (fun _ _ => mark_ok _ k) (h d' sh')

theorem counter_markKey_mono (s : State) (d : Nat) (k : Key) (h : TOk s) (d' : Nat) (k' : Key) :
    s.counter d' k' ≤ (markKey s d k).counter d' k' :=
  tracker_setTracker_rel (R := fun t t' => t.counter k' ≤ t'.counter k') s d (shardOf k) _ d' (shardOf k')
    (fun _ => Nat.le_refl _) (fun _ _ => mark_counter_mono _ k k' (h _ _))

/-- `s'` differs from `s` in its trackers only by marks (and registrations): the tracker invariant is kept,
    global counters and per-key counters never decrease -/
structure Grows (s s' : State) : Prop where
  tok : TOk s → TOk s'
  global : ∀ d sh, (s.tracker d sh).global ≤ (s'.tracker d sh).global
  counter : TOk s → ∀ d k, s.counter d k ≤ s'.counter d k

theorem Grows.refl (s : State) : Grows s s := ⟨id, fun _ _ => Nat.le_refl _, fun _ _ _ => Nat.le_refl _⟩

theorem Grows.trans {a b c : State} (h1 : Grows a b) (h2 : Grows b c) : Grows a c :=
  ⟨fun h => h2.tok (h1.tok h), fun d sh => Nat.le_trans (h1.global d sh) (h2.global d sh),
   fun h d k => Nat.le_trans (h1.counter h d k) (h2.counter (h1.tok h) d k)⟩

theorem Grows.of_trk_eq {s s' : State} (h : s'.trk = s.trk) : Grows s s' := by
  have ht : ∀ d sh, s'.tracker d sh = s.tracker d sh := fun d sh => by simp [State.tracker, h]
  refine ⟨fun hk d sh => by rw [ht]; exact hk d sh, fun d sh => by rw [ht]; exact Nat.le_refl _, fun _ d k => ?_⟩
  unfold State.counter; rw [ht]; exact Nat.le_refl _

theorem grows_markKey (s : State) (d : Nat) (k : Key) : Grows s (markKey s d k) :=
  ⟨tok_markKey s d k, global_markKey_le s d k, fun h d' k' => counter_markKey_mono s d k h d' k'⟩

theorem grows_setEntry (s : State) (d : Nat) (k : Key) (e : Option Entry) : Grows s (s.setEntry d k e) :=
  Grows.of_trk_eq rfl

theorem grows_setConn (s : State) (c : Nat) (cn : Conn) : Grows s (s.setConn c cn) :=
  Grows.of_trk_eq rfl

/-- the counter of `(d, k)` in `s'` is beyond the global counter its shard had in `s`, hence beyond every baseline
    taken up to `s` -/
def Marked (d : Nat) (k : Key) (s s' : State) : Prop := (s.tracker d (shardOf k)).global < s'.counter d k

theorem Marked.then_grows {d : Nat} {k : Key} {s s' s'' : State} (h : Marked d k s s') (hk : TOk s')
    (hg : Grows s' s'') : Marked d k s s'' :=
  Nat.lt_of_lt_of_le h (hg.counter hk d k)

theorem Marked.after_grows {d : Nat} {k : Key} {s s' s'' : State} (hg : Grows s s') (h : Marked d k s' s'') :
    Marked d k s s'' :=
  Nat.lt_of_le_of_lt (hg.global _ _) h

theorem markKey_marks (s : State) (d : Nat) (k : Key) (h : s.active d (shardOf k) ≠ 0) :
    Marked d k s (markKey s d k) := by
  unfold Marked State.counter
  rw [tracker_markKey]
  simp only [if_true]
  exact mark_counter_self _ _ h

/-- a fold of growing steps marks `(d, k)` if one of its elements does in whatever state it meets -/
theorem foldl_marked_of_mem {α : Type} {d : Nat} {k : Key} (f : State → α → State) (I : State → Prop)
    (hg : ∀ s a, Grows s (f s a)) (hk : ∀ s, I s → TOk s) (hI : ∀ s a, I s → I (f s a))
    {a : α} (hm : ∀ s, I s → Marked d k s (f s a)) :
    ∀ (l : List α) (s : State), a ∈ l → I s → Marked d k s (l.foldl f s)
  | [], _, h, _ => nomatch h
  | b :: r, s, h, hi => by
    rcases List.mem_cons.mp h with rfl | m
    · exact (hm s hi).then_grows (hk _ (hI s a hi)) (foldl_rel Grows.refl Grows.trans f hg r _)
    · exact Marked.after_grows (hg s b) (foldl_marked_of_mem f I hg hk hI hm r _ m (hI s b hi))

/-- … or if the fold changes the entry and every element that changes it marks it; the invariant may speak of the
    elements still to come -/
theorem foldl_marked_of_changed {α : Type} {d : Nat} {k : Key} (f : State → α → State) (I : List α → State → Prop)
    (hg : ∀ s a, Grows s (f s a)) (hk : ∀ l s, I l s → TOk s) (hI : ∀ a r s, I (a :: r) s → I r (f s a))
    (hm : ∀ a r s, I (a :: r) s → (f s a).entry d k ≠ s.entry d k → Marked d k s (f s a)) :
    ∀ (l : List α) (s : State), I l s → (l.foldl f s).entry d k ≠ s.entry d k → Marked d k s (l.foldl f s)
  | [], _, _, h => absurd rfl h
  | a :: r, s, hi, hch => by
    by_cases e : (f s a).entry d k = s.entry d k
    · refine Marked.after_grows (hg s a) (foldl_marked_of_changed f I hg hk hI hm r _ (hI a r s hi) ?_)
      rw [e]; exact hch
    · exact (hm a r s hi e).then_grows (hk r _ (hI a r s hi)) (foldl_rel Grows.refl Grows.trans f hg r _)

end Ferrous.Watch
