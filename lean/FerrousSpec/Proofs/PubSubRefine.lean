/-
  The connection-side map represents the spec's flat set of subscriptions (`Rel`); every call keeps it so
  and returns the spec's acknowledgements, also through the handlers' fallback for a client holding nothing.
-/
import FerrousSpec.Proofs.PubSubMaps
set_option linter.unusedSimpArgs false
namespace Ferrous.PubSub

namespace Spec

theorem mem_heldBy (s : State) (c : ConnId) (k : Kind) (x : Bytes) : x ∈ heldBy s c k ↔ (⟨c, k, x⟩ : Sub) ∈ s := by
  unfold heldBy
  simp only [List.mem_map, List.mem_filter, decide_eq_true_eq]
  constructor
  · rintro ⟨e, ⟨he, h1, h2⟩, h3⟩
    obtain ⟨ec, ek, en⟩ := e
    simp only at h1 h2 h3
    subst h1; subst h2; subst h3
    exact he
  · intro h
    exact ⟨⟨c, k, x⟩, ⟨h, rfl, rfl⟩, rfl⟩

theorem heldBy_nil (c : ConnId) (k : Kind) : heldBy [] c k = [] := rfl

theorem heldBy_append (s t : State) (c : ConnId) (k : Kind) : heldBy (s ++ t) c k = heldBy s c k ++ heldBy t c k := by
  simp [heldBy]

theorem heldBy_singleton (e : Sub) (c : ConnId) (k : Kind) :
    heldBy [e] c k = if c = e.conn ∧ k = e.kind then [e.name] else [] := by
  unfold heldBy
  by_cases h : e.conn = c ∧ e.kind = k
  · obtain ⟨h1, h2⟩ := h
    simp [List.filter, h1, h2]
  · have h' : ¬ (c = e.conn ∧ k = e.kind) := fun ⟨a, b⟩ => h ⟨a.symm, b.symm⟩
    simp [List.filter, h, h']

theorem heldBy_filter (s : State) (c : ConnId) (k : Kind) {P : Sub → Bool} {Q : Bytes → Bool}
    (h : ∀ x, P ⟨c, k, x⟩ = Q x) : heldBy (s.filter P) c k = (heldBy s c k).filter Q := by
  unfold heldBy
  rw [List.filter_map, List.filter_filter, List.filter_filter]
  congr 1
  apply List.filter_congr
  rintro ⟨ec, ek, en⟩ _
  by_cases he : ec = c ∧ ek = k
  · obtain ⟨rfl, rfl⟩ := he
    simp [h]
  · simp [he]

theorem heldBy_filter_ne (s : State) (c : ConnId) (k : Kind) (x : Bytes) (c' : ConnId) (k' : Kind) :
    heldBy (s.filter (fun e => decide (e ≠ ⟨c, k, x⟩))) c' k' =
      if c' = c ∧ k' = k then srem (heldBy s c k) x else heldBy s c' k' := by
  split
  · rename_i e
    rw [e.1, e.2]
    exact heldBy_filter s c k (fun y => by simp)
  · rename_i hne
    rw [heldBy_filter s c' k' (Q := fun _ => true)
      (fun y => decide_eq_true (p := _ ≠ _) fun e => hne ⟨congrArg Sub.conn e, congrArg Sub.kind e⟩)]
    exact List.filter_eq_self.2 fun _ _ => rfl

theorem heldBy_disconnect (s : State) (c c' : ConnId) (k : Kind) :
    heldBy (disconnect s c) c' k = if c' = c then [] else heldBy s c' k := by
  unfold disconnect
  split
  · rename_i e
    rw [heldBy_filter s c' k (Q := fun _ => false) (fun y => decide_eq_false (not_not_intro e))]
    exact List.filter_eq_nil_iff.2 fun _ _ => Bool.false_ne_true
  · rename_i hne
    rw [heldBy_filter s c' k (Q := fun _ => true) (fun y => decide_eq_true hne)]
    exact List.filter_eq_self.2 fun _ _ => rfl

theorem count_eq (s : State) (c : ConnId) :
    count s c = (heldBy s c .chan).length + (heldBy s c .pat).length := by
  unfold count heldBy
  induction s with
  | nil => rfl
  | cons e s ih =>
    simp only [List.filter, List.length_map] at ih ⊢
    by_cases h : e.conn = c
    · cases hk : e.kind <;> simp [h, hk, ih] <;> omega
    · simp [h, ih]

end Spec

structure Rel (st : State) (s : Spec.State) : Prop where
  nodup : s.Nodup
  heldEq : ∀ c k, Spec.heldBy s c k = held st c k

theorem Rel.init : Rel {} [] := by
  constructor
  · exact List.nodup_nil
  · intro c k; cases k <;> rfl

theorem Rel.count {st : State} {s : Spec.State} (h : Rel st s) (c : ConnId) : Spec.count s c = (info st c).total := by
  rw [Spec.count_eq, h.heldEq, h.heldEq, total_eq]; rfl

theorem Rel.mem {st : State} {s : Spec.State} (h : Rel st s) (c : ConnId) (k : Kind) (x : Bytes) :
    (⟨c, k, x⟩ : Spec.Sub) ∈ s ↔ x ∈ held st c k := by
  rw [← h.heldEq, Spec.mem_heldBy]

theorem Rel.of_info_eq {st st' : State} {s : Spec.State} (h : Rel st s) (hi : ∀ c, info st' c = info st c) : Rel st' s :=
  ⟨h.nodup, fun c k => by rw [h.heldEq]; simp [held, hi]⟩

theorem sub1_ack (k : Kind) (c : ConnId) (st : State) (x : Bytes) :
    (sub1 k c st x).2 = ⟨k, false, x, (info (sub1 k c st x).1 c).total, decide (x ∉ held st c k)⟩ := by
  by_cases h : x ∈ held st c k
  · rw [sub1_dup h]; simp [h]
  · have hi := info_sub1 k c st x c
    rw [sub1_new h] at hi ⊢
    simp only [if_true, sins_of_not_mem h] at hi
    simp [h, hi]

theorem Rel.sub1 {st : State} {s : Spec.State} (h : Rel st s) (k : Kind) (c : ConnId) (x : Bytes) :
    Rel (sub1 k c st x).1 (Spec.sub1 k c s x).1 ∧ (sub1 k c st x).2 = (Spec.sub1 k c s x).2 := by
  have hrel : Rel (PubSub.sub1 k c st x).1 (Spec.sub1 k c s x).1 := by
    unfold Spec.sub1
    simp only
    by_cases hm : (⟨c, k, x⟩ : Spec.Sub) ∈ s
    · have hx : x ∈ held st c k := (h.mem c k x).1 hm
      simp only [hm, not_true_eq_false, decide_false, Bool.false_eq_true, if_false]
      rw [sub1_dup hx]
      exact h
    · have hx : x ∉ held st c k := fun e => hm ((h.mem c k x).2 e)
      simp only [hm, not_false_eq_true, decide_true, if_true]
      constructor
      · rw [List.nodup_append]
        refine ⟨h.nodup, by simp, ?_⟩
        intro a ha b hb
        simp only [List.mem_singleton] at hb
        subst hb
        exact fun e => hm (e ▸ ha)
      · intro c' k'
        rw [held_sub1, Spec.heldBy_append, Spec.heldBy_singleton, h.heldEq]
        by_cases hck : c' = c ∧ k' = k
        · obtain ⟨h1, h2⟩ := hck
          subst h1; subst h2
          simp [sins_of_not_mem hx]
        · simp [hck]
  refine ⟨hrel, ?_⟩
  rw [sub1_ack, ← hrel.count]
  unfold Spec.sub1
  simp only [Ack.mk.injEq, true_and, decide_eq_decide]
  exact not_congr (h.mem c k x).symm

theorem unsub1_ack (k : Kind) (c : ConnId) (st : State) (x : Bytes) :
    (unsub1 k c st x).2 = ⟨k, true, x, (info (unsub1 k c st x).1 c).total, false⟩ := by
  have hi := info_unsub1 k c st x c
  simp only [if_true] at hi
  rw [hi]
  rfl

theorem Rel.unsub1 {st : State} {s : Spec.State} (h : Rel st s) (k : Kind) (c : ConnId) (x : Bytes) :
    Rel (unsub1 k c st x).1 (Spec.unsub1 k c s x).1 ∧ (unsub1 k c st x).2 = (Spec.unsub1 k c s x).2 := by
  have hrel : Rel (PubSub.unsub1 k c st x).1 (Spec.unsub1 k c s x).1 := by
    unfold Spec.unsub1
    simp only
    constructor
    · exact h.nodup.sublist List.filter_sublist
    · intro c' k'
      rw [held_unsub1, Spec.heldBy_filter_ne, h.heldEq, h.heldEq]
  refine ⟨hrel, ?_⟩
  rw [unsub1_ack, ← hrel.count]
  rfl

theorem loop_rel {R : State → Spec.State → Prop} {f : State → Bytes → State × Ack}
    {g : Spec.State → Bytes → Spec.State × Ack}
    (hstep : ∀ st s x, R st s → R (f st x).1 (g s x).1 ∧ (f st x).2 = (g s x).2) :
    ∀ (xs : List Bytes) (st : State) (s : Spec.State), R st s →
      R (loop f st xs).1 (loop g s xs).1 ∧ (loop f st xs).2 = (loop g s xs).2 := by
  intro xs
  induction xs with
  | nil => intro st s h; exact ⟨h, rfl⟩
  | cons x xs ih =>
    intro st s h
    obtain ⟨h1, h2⟩ := hstep st s x h
    obtain ⟨h3, h4⟩ := ih _ _ h1
    exact ⟨h3, by simp only [loop, h2, h4]⟩

theorem Rel.subscribe {st : State} {s : Spec.State} (h : Rel st s) (k : Kind) (c : ConnId) (xs : List Bytes) :
    Rel (subscribe k c st xs).1 (Spec.subscribe k c s xs).1 ∧ (subscribe k c st xs).2 = (Spec.subscribe k c s xs).2 :=
  loop_rel (R := Rel) (fun _ _ x hr => hr.sub1 k c x) xs _ _ (h.of_info_eq (info_ensure st c))

/-- Removing names of a kind of which the connection holds nothing changes nothing; every name is
    acknowledged with the unchanged count. -/
theorem Spec.loop_unsub1_idle {k : Kind} {c : ConnId} {s : Spec.State} (h : Spec.heldBy s c k = []) :
    ∀ xs : List Bytes, loop (Spec.unsub1 k c) s xs = (s, xs.map fun n => ⟨k, true, n, Spec.count s c, false⟩)
  | [] => rfl
  | x :: xs => by
    have hs : s.filter (fun e => decide (e ≠ ⟨c, k, x⟩)) = s :=
      List.filter_eq_self.2 fun e he => decide_eq_true fun eq => by
        have := (Spec.mem_heldBy s c k x).2 (eq ▸ he)
        rw [h] at this
        cases this
    have e : Spec.unsub1 k c s x = (s, ⟨k, true, x, Spec.count s c, false⟩) := by
      unfold Spec.unsub1
      rw [hs]
    rw [loop, e, Spec.loop_unsub1_idle h xs]
    rfl

theorem Rel.unsubscribe {st : State} {s : Spec.State} (h : Rel st s) (k : Kind) (c : ConnId) (xs : Option (List Bytes)) :
    Rel (unsubscribe k c st xs).1 (Spec.unsubscribe k c s xs).1 ∧
      (unsubscribe k c st xs).2 = if (aget st.subs c).isNone then [] else (Spec.unsubscribe k c s xs).2 := by
  unfold Spec.unsubscribe
  cases ha : aget st.subs c with
  | none =>
    rw [unsubscribe_none ha, Spec.loop_unsub1_idle ((h.heldEq c k).trans (held_nil_of_no_entry ha k))]
    exact ⟨h, rfl⟩
  | some i =>
    have hsel : i.sel k = Spec.heldBy s c k := by
      rw [h.heldEq, held, info, ha]; rfl
    rw [unsubscribe_some ha, hsel]
    obtain ⟨h1, h2⟩ := loop_rel (R := Rel) (fun _ _ x hr => hr.unsub1 k c x) (xs.getD (Spec.heldBy s c k)) _ _ h
    exact ⟨h1.of_info_eq (info_cleanup _ c), h2⟩

theorem Rel.unsubscribeAll {st : State} {s : Spec.State} (h : Rel st s) (c : ConnId) :
    Rel (unsubscribeAll st c) (Spec.disconnect s c) := by
  constructor
  · exact h.nodup.sublist List.filter_sublist
  · intro c' k
    rw [held_unsubscribeAll, Spec.heldBy_disconnect, h.heldEq]

theorem Rel.next {st : State} {s : Spec.State} (h : Rel st s) (op : Op) :
    Rel (Code.next st op) (Spec.next s op) ∧
      (Code.apply st op).2 = if Code.silent st op then [] else (Spec.apply s op).2 := by
  cases op with
  | subscribe c k xs => exact h.subscribe k c xs
  | unsubscribe c k xs => exact h.unsubscribe k c xs
  | disconnect c => exact ⟨h.unsubscribeAll c, rfl⟩
  | publish c ch msg => exact ⟨h, rfl⟩

theorem Rel.after {st : State} {s : Spec.State} (h : Rel st s) (ops : List Op) :
    Rel (Code.after st ops) (Spec.after s ops) := by
  induction ops generalizing st s with
  | nil => exact h
  | cons op ops ih => exact ih (h.next op).1

theorem loop_acks_length {σ : Type} (f : σ → Bytes → σ × Ack) (xs : List Bytes) (st : σ) :
    (loop f st xs).2.length = xs.length := by
  induction xs generalizing st with
  | nil => rfl
  | cons x xs ih => simp [loop, ih]

theorem emit_subscribe_eq {st : State} {s : Spec.State} (hrel : Rel st s) (dedup idle : Bool) (c : ConnId) (k : Kind)
    (xs : List Bytes) : Code.emit dedup idle st (.subscribe c k xs) = Spec.emit s (.subscribe c k xs) := by
  have h := (hrel.next (.subscribe c k xs)).2
  simp only [Code.silent, Bool.false_eq_true, if_false] at h
  simp only [Code.emit, Spec.emit, h]

/-- With the handlers' fallback (`idle = true`) the confirmations of (P)UNSUBSCRIBE are exactly
    the prescribed ones, whatever the client holds. -/
theorem emit_unsubscribe_eq {st : State} {s : Spec.State} (hrel : Rel st s) (dedup : Bool) (c : ConnId) (k : Kind)
    (xs : Option (List Bytes)) :
    Code.emit dedup true st (.unsubscribe c k xs) = Spec.emit s (.unsubscribe c k xs) := by
  obtain ⟨hrel', hacks⟩ := hrel.unsubscribe k c xs
  show (Code.unsubEvents true k xs (unsubscribe k c st xs).2 (info (unsubscribe k c st xs).1 c).total).map _ =
    (Spec.unsubEvents k c s xs).map _
  congr 1
  rw [← hrel'.count c, hacks]
  unfold Code.unsubEvents Spec.unsubEvents Spec.unsubscribe
  by_cases hk : Spec.heldBy s c k = []
  · -- nothing of kind `k` is held: the spec acknowledges each name with the unchanged count, which is
    -- what the fallback writes when the manager returned nothing
    rw [Spec.loop_unsub1_idle hk]
    cases xs with
    | none => simp [hk]
    | some l => split <;> simp [List.map_map, Function.comp_def]
  · have ha : (aget st.subs c).isNone = false := by
      cases ha : aget st.subs c with
      | none => exact absurd ((hrel.heldEq c k).trans (held_nil_of_no_entry ha k)) hk
      | some i => rfl
    rw [ha]
    simp only [Bool.false_eq_true, if_false]
    cases xs with
    | none =>
      have hlen := loop_acks_length (Spec.unsub1 k c) (Spec.heldBy s c k) s
      have : (loop (Spec.unsub1 k c) s (Spec.heldBy s c k)).2 ≠ [] := fun e =>
        hk (List.eq_nil_of_length_eq_zero (by rw [← hlen, e]; rfl))
      simp [hk, this]
    | some l =>
      have hlen := loop_acks_length (Spec.unsub1 k c) l s
      simp only [Option.getD_some]
      split
      · rename_i he
        have he' : (loop (Spec.unsub1 k c) s l).2 = [] := by simpa using he
        have : l = [] := List.eq_nil_of_length_eq_zero (by rw [← hlen, he']; rfl)
        subst this
        rfl
      · rfl

end Ferrous.PubSub
