/-
  C20: parse ∘ serialise = id on well-formed frames (`wf`: what the serializer emits unambiguously), followed by any
  bytes.  Mutual induction on the frame and its element list with the parser's fuel at least the depth
  (`roundtrip_fuel`, `roundtrip_list`); `parseBytes_ser` is the instance at the nesting limit.
-/
import FerrousSpec.Proofs.RespParse
namespace Ferrous

mutual
/-- Well-formed frames: exactly those the serializer can emit unambiguously.
    Line payloads contain no CR and no LF (the serializer would replace them), lengths fit the header integer type, a double's
    lexeme is one `f64::from_str` accepts, a map has an even number of flattened frames. -/
def wf : Frame → Bool
  | .simple b => b.all fun x => x != 13 && x != 10
  | .error b => b.all fun x => x != 13 && x != 10
  | .int n => decide (-9223372036854775808 ≤ n ∧ n ≤ 9223372036854775807)
  | .bulk b => decide (b.length ≤ 9223372036854775807)
  | .array xs => decide (xs.length ≤ 9223372036854775807) && wfList xs
  | .double lex => isF64Literal lex && !hasCRLF lex
  | .map kvs => decide (kvs.length % 2 = 0 ∧ kvs.length / 2 ≤ 18446744073709551615) && wfList kvs
  | .set xs => decide (xs.length ≤ 18446744073709551615) && wfList xs
  | _ => true
def wfList : List Frame → Bool
  | [] => true
  | f :: fs => wf f && wfList fs
end

theorem header_line (n : Nat) (rest : Bytes) :
    splitCRLF (natDigits n ++ 13 :: 10 :: rest) = some (natDigits n, rest) :=
  splitCRLF_line (natDigits n) rest (hasCRLF_of_all_digits _ (natDigits_all n))

theorem sanitizeLine_noCRLF (b : Bytes) : hasCRLF (sanitizeLine b) = false := by
  induction b using hasCRLF.induct with
  | case1 => rfl
  | case2 a => rfl
  | case3 a c t ih =>
    simp only [sanitizeLine, List.map_cons] at ih ⊢
    simp only [hasCRLF, ih, Bool.or_false]
    split <;> simp_all

theorem sanitizeLine_id (b : Bytes) (h : (b.all fun x => x != 13 && x != 10) = true) : sanitizeLine b = b := by
  rw [sanitizeLine, List.map_congr_left (g := id), List.map_id]
  intro a ha
  have := List.all_eq_true.1 h a ha
  simp only [Bool.and_eq_true, bne_iff_ne] at this
  exact if_neg fun hh => hh.elim this.1 this.2

theorem intDigits_noCRLF (i : Int) : hasCRLF (intDigits i) = false := by
  unfold intDigits
  split
  · have := hasCRLF_of_all_digits _ (natDigits_all i.natAbs)
    cases hd : natDigits i.natAbs with
    | nil => rfl
    | cons a t => rw [hd] at this; simp [hasCRLF, this]
  · exact hasCRLF_of_all_digits _ (natDigits_all _)

/-- Framing safety of line replies: whatever bytes an error or simple-string payload carries
    (client text echoed in a message, CR and LF included), its serialisation parses back as exactly
    one frame of the same kind and leaves exactly what followed. -/
theorem parseFrame_line_reply (n : Nat) (b rest : Bytes) :
    parseFrame (n + 1) (ser (.error b) ++ rest) = .ok (.error (sanitizeLine b)) rest ∧
    parseFrame (n + 1) (ser (.simple b) ++ rest) = .ok (.simple (sanitizeLine b)) rest := by
  have hl := splitCRLF_line (sanitizeLine b) rest (sanitizeLine_noCRLF b)
  constructor <;> simp [ser, crlf, parseFrame, parseLineWith, hl]

mutual
theorem roundtrip_fuel (f : Frame) (hw : wf f = true) (n : Nat) (hn : f.depth ≤ n) (rest : Bytes) :
    parseFrame n (ser f ++ rest) = .ok f rest := by
  cases n with
  | zero => cases f <;> simp [Frame.depth] at hn
  | succ k =>
    cases f with
    | simple b =>
      have := (parseFrame_line_reply k b rest).2
      rwa [sanitizeLine_id b (by simpa [wf] using hw)] at this
    | error b =>
      have := (parseFrame_line_reply k b rest).1
      rwa [sanitizeLine_id b (by simpa [wf] using hw)] at this
    | int i =>
      simp [wf] at hw
      have hl := splitCRLF_line (intDigits i) rest (intDigits_noCRLF i)
      simp [ser, crlf, parseFrame, parseLineWith, hl, parseI64_intDigits i hw.1 hw.2]
    | bulk b =>
      simp [wf] at hw
      simp [ser, crlf, parseFrame, parseBulk, header_line, parseI64_natDigits _ hw,
        Int.not_lt.2 (Int.natCast_nonneg b.length)]
    | nullBulk => simp [ser, parseFrame, parseBulk, splitCRLF, parseI64, digitsVal, isDigit, decVal]
    | array xs =>
      simp [wf] at hw
      have ih := roundtrip_list xs hw.2 k (by simpa [Frame.depth] using hn) rest
      simp [ser, crlf, parseFrame, parseArray, header_line, parseI64_natDigits _ hw.1, ih]
    | nullArray => simp [ser, parseFrame, parseArray, splitCRLF, parseI64, digitsVal, isDigit, decVal]
    | null => simp [ser, parseFrame, parseNull]
    | bool b => cases b <;> simp [ser, parseFrame, parseBool]
    | double lex =>
      simp [wf] at hw
      simp [ser, crlf, parseFrame, parseLineWith, splitCRLF_line lex rest hw.2, hw.1]
    | map kvs =>
      simp [wf] at hw
      have ih := roundtrip_list kvs hw.2 k (by simpa [Frame.depth] using hn) rest
      have hlen : 2 * (kvs.length / 2) = kvs.length := by omega
      simp [ser, crlf, parseFrame, parseAgg, header_line, parseU64_natDigits _ hw.1.2, hlen, ih]
    | set xs =>
      simp [wf] at hw
      have ih := roundtrip_list xs hw.2 k (by simpa [Frame.depth] using hn) rest
      simp [ser, crlf, parseFrame, parseAgg, header_line, parseU64_natDigits _ hw.1, ih]
theorem roundtrip_list (fs : List Frame) (hw : wfList fs = true) (n : Nat) (hn : depthList fs ≤ n) (rest : Bytes) :
    parseElemsWith (parseFrame n) fs.length (serList fs ++ rest) = .ok fs rest := by
  cases fs with
  | nil => simp [serList, parseElemsWith]
  | cons f fs =>
    simp [wfList] at hw
    simp [depthList] at hn
    have h1 := roundtrip_fuel f hw.1 n (by omega) (serList fs ++ rest)
    have h2 := roundtrip_list fs hw.2 n (by omega) rest
    simp [serList, parseElemsWith, List.append_assoc, h1, h2]
end

mutual
theorem depth_le_ser (f : Frame) : f.depth ≤ (ser f).length := by
  cases f with
  | array xs | map xs | set xs => have := depthList_le_ser xs; simp [Frame.depth, ser]; omega
  | bool b => cases b <;> simp [Frame.depth, ser]
  | _ => simp [Frame.depth, ser]
theorem depthList_le_ser (fs : List Frame) : depthList fs ≤ (serList fs).length := by
  cases fs with
  | nil => simp [depthList]
  | cons f fs =>
    have h1 := depth_le_ser f
    have h2 := depthList_le_ser fs
    simp [depthList, serList]
    omega
end

theorem parseBytes_ser (f : Frame) (hw : wf f = true) (hd : f.depth ≤ maxNesting + 1) (rest : Bytes) :
    parseBytes (ser f ++ rest) = .ok f rest := by
  unfold parseBytes
  exact roundtrip_fuel f hw _ hd rest

end Ferrous
