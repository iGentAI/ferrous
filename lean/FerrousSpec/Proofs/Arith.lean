/- The window of GETRANGE (`getrange`, Model/Arith.lean) for all arguments: an empty reply, a slice
   inside the string, or the one overflow panic. -/
import FerrousSpec.Model.Arith
namespace Ferrous.Arith

/-- With `e2 ≤ len - 1` (the clamp of the end), `s1 ≤ e2` falsifies the last two slice guards;
    the first can only fire on a string longer than `usize::MAX`. -/
theorem getrange_cases (len : Nat) (start stop : Int) (o : Outcome (Option (Nat × Nat)))
    (ho : getrange len start stop = o) :
    o = .ok none ∨ (∃ a c, o = .ok (some (a, c)) ∧ a ≤ c ∧ c < len) ∨
    (usizeMax < len ∧ o = .panic "range end overflows") := by
  -- `split` on the whole body is dear: the guards are decided one at a time instead
  unfold getrange at ho
  by_cases h0 : len = 0 ∨ (start < 0 ∧ stop < 0 ∧ start > stop)
  · rw [if_pos h0] at ho
    exact .inl ho.symm
  · rw [if_neg h0] at ho
    extract_lets s0 e0 s1 e1 e2 at ho
    have he : e2 < len := by unfold e2; split <;> omega
    clear_value s1 e2
    by_cases h1 : s1 > e2
    · rw [if_pos h1] at ho
      exact .inl ho.symm
    · rw [if_neg h1] at ho
      by_cases h2 : e2.toNat ≥ usizeMax
      · rw [if_pos h2] at ho
        exact .inr (.inr ⟨by omega, ho.symm⟩)
      · rw [if_neg h2, if_neg (by omega), if_neg (by omega)] at ho
        exact .inr (.inl ⟨_, _, ho.symm, by omega, by omega⟩)

end Ferrous.Arith
