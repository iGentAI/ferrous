/-
  WATCH / UNWATCH and whole steps: `step_cases` says what a step can do to the state; from it, trackers only
  grow, other connections' records stay, untouched keys keep counter and entry, and a step that marks what it
  changes leaves a changed entry `Marked`.  A quiet connection keeps its watch list.
-/
import FerrousSpec.Proofs.WatchOps
namespace Ferrous.Watch

/-- the connection record after registering `k` with baseline `b` -/
def watchConn (q : Q) (cn : Conn) (k : Key) (b : Nat) : Conn :=
  { cn with watched := ⟨k, b, cn.db⟩ ::
      cn.watched.filter (fun w => !(decide (w.key = k) && (!q.perDb || decide (w.regDb = cn.db)))) }

/-- the registering branch of `watchKey` -/
def watchKeyNew (q : Q) (c : Nat) (s : State) (k : Key) : State :=
  (s.setTracker (s.conn c).db (shardOf k) ((s.tracker (s.conn c).db (shardOf k)).register k).1).setConn c
    (watchConn q (s.conn c) k ((s.tracker (s.conn c).db (shardOf k)).register k).2)

/-- is the stored entry past its deadline? -/
def expiredNow (s : State) (d : Nat) (k : Key) (now : Nat) : Bool :=
  match s.entry d k with
  | some e => e.expired now
  | none => false

theorem sweepKey_not_expired (s : State) (d : Nat) (k : Key) (m : Bool) (now : Nat)
    (h : expiredNow s d k now = false) : sweepKey s d k m now = s := by
  unfold expiredNow at h
  unfold sweepKey
  split
  · rename_i e he
    rw [he] at h
    simp only at h
    simp [h]
  · rfl

theorem wrote_purge (q : Q) (s : State) (d : Nat) (k : Key) (now : Nat) : Wrote d k s (purgeAtWatch q s d k now) := by
  unfold purgeAtWatch
  split
  · exact wrote_sweepKey s d k true now
  · exact Or.inl rfl

@[simp] theorem conns_purge (q : Q) (s : State) (d : Nat) (k : Key) (now : Nat) :
    (purgeAtWatch q s d k now).conns = s.conns :=
  (wrote_purge q s d k now).conns

@[simp] theorem conn_purge (q : Q) (s : State) (d : Nat) (k : Key) (now : Nat) (c : Nat) :
    (purgeAtWatch q s d k now).conn c = s.conn c :=
  conn_conns_eq (conns_purge q s d k now) c

@[simp] theorem active_purge (q : Q) (s : State) (d : Nat) (k : Key) (now : Nat) (d' sh' : Nat) :
    (purgeAtWatch q s d k now).active d' sh' = s.active d' sh' :=
  (wrote_purge q s d k now).active d' sh'

theorem grows_purge (q : Q) (s : State) (d : Nat) (k : Key) (now : Nat) : Grows s (purgeAtWatch q s d k now) :=
  (wrote_purge q s d k now).grows

theorem purge_untouched (q : Q) (s : State) (d : Nat) (k : Key) (now : Nat) (d' : Nat) (k' : Key)
    (h : ¬ (q.watchPurges = true ∧ (d, k) = (d', k') ∧ expiredNow s d' k' now = true)) :
    (purgeAtWatch q s d k now).counter d' k' = s.counter d' k' ∧ (purgeAtWatch q s d k now).entry d' k' = s.entry d' k' := by
  by_cases e : (d, k) = (d', k')
  · cases e
    have : purgeAtWatch q s d k now = s := by
      unfold purgeAtWatch
      split
      · next hp =>
        apply sweepKey_not_expired
        cases hx : expiredNow s d k now
        · rfl
        · exact absurd ⟨hp, rfl, hx⟩ h
      · rfl
    rw [this]
    exact ⟨rfl, rfl⟩
  · exact (wrote_purge q s d k now).untouched e

theorem purge_changed_marks (q : Q) (s : State) (d : Nat) (k : Key) (now : Nat)
    (hch : (purgeAtWatch q s d k now).entry d k ≠ s.entry d k) (ha : s.active d (shardOf k) ≠ 0) :
    Marked d k s (purgeAtWatch q s d k now) := by
  unfold purgeAtWatch at hch ⊢
  split
  · rename_i hp
    simp only [hp, if_true] at hch
    exact sweepKey_changed_marks s d k now hch ha
  · rename_i hp
    simp only [hp] at hch
    exact absurd rfl hch

theorem watchKey_cases (q : Q) (c : Nat) (now : Nat) (s : State) (k : Key) :
    watchKey q c now s k = s ∨
    watchKey q c now s k = watchKeyNew q c (purgeAtWatch q s (s.conn c).db k now) k := by
  unfold watchKey watchKeyNew watchConn
  simp only [conn_purge]
  split
  · exact Or.inl rfl
  · exact Or.inr rfl

theorem grows_watchKeyNew (q : Q) (c : Nat) (s : State) (k : Key) : Grows s (watchKeyNew q c s k) := by
  unfold watchKeyNew
  exact (grows_setTracker_same s (s.conn c).db (shardOf k) ((s.tracker (s.conn c).db (shardOf k)).register k).1
    rfl (fun _ => rfl)).trans (grows_setConn _ _ _)

theorem counter_watchKeyNew (q : Q) (c : Nat) (s : State) (k : Key) (d : Nat) (k' : Key) :
    (watchKeyNew q c s k).counter d k' = s.counter d k' := by
  unfold watchKeyNew
  rw [counter_setConn]
  exact counter_setTracker_same s (s.conn c).db (shardOf k) ((s.tracker (s.conn c).db (shardOf k)).register k).1
    (fun _ => rfl) d k'

theorem entry_watchKeyNew (q : Q) (c : Nat) (s : State) (k : Key) (d : Nat) (k' : Key) :
    (watchKeyNew q c s k).entry d k' = s.entry d k' := rfl

theorem global_watchKeyNew (q : Q) (c : Nat) (s : State) (k : Key) (d sh : Nat) :
    ((watchKeyNew q c s k).tracker d sh).global = (s.tracker d sh).global := by
  unfold watchKeyNew
  rw [tracker_setConn]
  exact global_setTracker_same s (s.conn c).db (shardOf k) ((s.tracker (s.conn c).db (shardOf k)).register k).1 rfl d sh

theorem grows_watchKey (q : Q) (c : Nat) (now : Nat) (s : State) (k : Key) : Grows s (watchKey q c now s k) := by
  rcases watchKey_cases q c now s k with h | h
  · rw [h]; exact Grows.refl s
  · rw [h]
    exact (grows_purge q s _ k now).trans (grows_watchKeyNew q c _ k)

theorem watchKey_untouched (q : Q) (c : Nat) (now : Nat) (s : State) (k0 : Key) (d : Nat) (k : Key)
    (h : ¬ (q.watchPurges = true ∧ ((s.conn c).db, k0) = (d, k) ∧ expiredNow s d k now = true)) :
    (watchKey q c now s k0).counter d k = s.counter d k ∧ (watchKey q c now s k0).entry d k = s.entry d k := by
  rcases watchKey_cases q c now s k0 with e | e
  · rw [e]; exact ⟨rfl, rfl⟩
  · rw [e, counter_watchKeyNew, entry_watchKeyNew]
    exact purge_untouched q s (s.conn c).db k0 now d k h

theorem conn_watchKey_other (q : Q) (c : Nat) (now : Nat) (s : State) (k : Key) (c' : Nat) (h : c ≠ c') :
    (watchKey q c now s k).conn c' = s.conn c' := by
  rcases watchKey_cases q c now s k with e | e
  · rw [e]
  · rw [e]; unfold watchKeyNew; rw [conn_setConn]; simp [h]

theorem db_watchKey (q : Q) (c : Nat) (now : Nat) (s : State) (k : Key) (c' : Nat) :
    ((watchKey q c now s k).conn c').db = (s.conn c').db := by
  rcases watchKey_cases q c now s k with e | e
  · rw [e]
  · rw [e]; unfold watchKeyNew; rw [conn_setConn]
    split
    · rename_i h; subst h; simp [watchConn]
    · simp

def watchAll (q : Q) (c : Nat) (now : Nat) (s : State) (keys : List Key) : State := keys.foldl (watchKey q c now) s

theorem grows_watchAll (q : Q) (c : Nat) (now : Nat) (s : State) (keys : List Key) : Grows s (watchAll q c now s keys) :=
  foldl_rel Grows.refl Grows.trans _ (grows_watchKey q c now) keys s

/-- does this WATCH purge the entry `(d, k)`? -/
def watchTouches (q : Q) (s : State) (now : Nat) (c : Nat) (keys : List Key) (d : Nat) (k : Key) : Bool :=
  q.watchPurges && decide ((s.conn c).db = d) && keys.contains k && expiredNow s d k now

theorem watchAll_untouched (q : Q) (c : Nat) (now : Nat) (s : State) (keys : List Key) (d : Nat) (k : Key)
    (h : watchTouches q s now c keys d k = false) :
    (watchAll q c now s keys).counter d k = s.counter d k ∧ (watchAll q c now s keys).entry d k = s.entry d k := by
  induction keys generalizing s with
  | nil => exact ⟨rfl, rfl⟩
  | cons k0 r ih =>
    simp only [watchAll, List.foldl_cons] at ih ⊢
    have h0 : ¬ (q.watchPurges = true ∧ ((s.conn c).db, k0) = (d, k) ∧ expiredNow s d k now = true) := by
      rintro ⟨hp, e, hx⟩
      simp only [Prod.mk.injEq] at e
      simp [watchTouches, hp, e.1, e.2, hx] at h
    have h1 := watchKey_untouched q c now s k0 d k h0
    have h2 : watchTouches q (watchKey q c now s k0) now c r d k = false := by
      have hx : expiredNow (watchKey q c now s k0) d k now = expiredNow s d k now := by
        unfold expiredNow; rw [h1.2]
      have mono : watchTouches q (watchKey q c now s k0) now c r d k = true →
          watchTouches q s now c (k0 :: r) d k = true := by
        unfold watchTouches
        rw [db_watchKey, hx]
        simp only [Bool.and_eq_true, List.contains_cons, Bool.or_eq_true]
        exact fun ⟨⟨⟨a, b⟩, m⟩, e⟩ => ⟨⟨⟨a, b⟩, Or.inr m⟩, e⟩
      exact Bool.eq_false_iff.mpr fun t => by rw [mono t] at h; exact Bool.noConfusion h
    have := ih (watchKey q c now s k0) h2
    exact ⟨this.1.trans h1.1, this.2.trans h1.2⟩

theorem conn_watchAll_other (q : Q) (c : Nat) (now : Nat) (s : State) (keys : List Key) (c' : Nat) (h : c ≠ c') :
    (watchAll q c now s keys).conn c' = s.conn c' :=
  foldl_obs (·.conn c') _ keys (fun s k _ => conn_watchKey_other q c now s k c' h) s

def unregAll (q : Q) (cn : Conn) (s : State) (ws : List W) : State := ws.foldl (unregisterW q cn) s

theorem grows_unregisterW (q : Q) (cn : Conn) (s : State) (w : W) : Grows s (unregisterW q cn s w) := by
  unfold unregisterW
  exact grows_setTracker_same s _ _ _ (unregister_global _) (fun _ => unregister_counter _ _)

@[simp] theorem conns_unregisterW (q : Q) (cn : Conn) (s : State) (w : W) : (unregisterW q cn s w).conns = s.conns := rfl
@[simp] theorem data_unregisterW (q : Q) (cn : Conn) (s : State) (w : W) : (unregisterW q cn s w).data = s.data := rfl

theorem counter_unregisterW (q : Q) (cn : Conn) (s : State) (w : W) (d : Nat) (k : Key) :
    (unregisterW q cn s w).counter d k = s.counter d k := by
  unfold unregisterW
  exact counter_setTracker_same _ _ _ _ (fun _ => unregister_counter _ _) d k

theorem global_unregisterW (q : Q) (cn : Conn) (s : State) (w : W) (d sh : Nat) :
    ((unregisterW q cn s w).tracker d sh).global = (s.tracker d sh).global := by
  unfold unregisterW
  exact global_setTracker_same _ _ _ _ (unregister_global _) d sh

theorem grows_unregAll (q : Q) (cn : Conn) (s : State) (ws : List W) : Grows s (unregAll q cn s ws) :=
  foldl_rel Grows.refl Grows.trans _ (grows_unregisterW q cn) ws s

@[simp] theorem conns_unregAll (q : Q) (cn : Conn) (s : State) (ws : List W) : (unregAll q cn s ws).conns = s.conns :=
  foldl_obs (·.conns) _ ws (fun s w _ => conns_unregisterW q cn s w) s

@[simp] theorem data_unregAll (q : Q) (cn : Conn) (s : State) (ws : List W) : (unregAll q cn s ws).data = s.data :=
  foldl_obs (·.data) _ ws (fun s w _ => data_unregisterW q cn s w) s

theorem counter_unregAll (q : Q) (cn : Conn) (s : State) (ws : List W) (d : Nat) (k : Key) :
    (unregAll q cn s ws).counter d k = s.counter d k :=
  foldl_obs (·.counter d k) _ ws (fun s w _ => counter_unregisterW q cn s w d k) s

theorem step_watch (q : Q) (s : State) (now c : Nat) (keys : List Key) :
    (step q s now (.watch c keys)).1 = if keys.isEmpty || (s.conn c).inTx then s else watchAll q c now s keys := by
  simp only [step, watchAll]
  split <;> rfl

theorem conn_watchKeyNew (q : Q) (c : Nat) (s : State) (k : Key) :
    (watchKeyNew q c s k).conn c = watchConn q (s.conn c) k ((s.tracker (s.conn c).db (shardOf k)).counter k) := by
  unfold watchKeyNew
  rw [conn_setConn, if_pos rfl]
  rfl

/-- WATCH of one key that is stored unexpired or not at all, on a connection that watches nothing: one registration -/
theorem step_watch_one (q : Q) (s : State) (now c : Nat) (k : Key) (hin : (s.conn c).inTx = false)
    (hw : (s.conn c).watched = []) (hx : expiredNow s (s.conn c).db k now = false) :
    (step q s now (.watch c [k])).1 = watchKeyNew q c s k := by
  have hp : purgeAtWatch q s (s.conn c).db k now = s := by
    unfold purgeAtWatch
    split
    · exact sweepKey_not_expired s _ k true now hx
    · rfl
  rw [step_watch]
  simp only [List.isEmpty_cons, hin, Bool.or_self, Bool.false_eq_true, if_false, watchAll, List.foldl_cons, List.foldl_nil]
  unfold watchKey
  simp only [hw, List.any_nil, Bool.and_false, Bool.false_eq_true, if_false, hp]
  unfold watchKeyNew watchConn
  rw [hw]

theorem step_unwatch (q : Q) (s : State) (now c : Nat) :
    (step q s now (.unwatch c)).1 =
      if (q.unwatchQueued && (s.conn c).inTx) = true then s.setConn c { (s.conn c) with queued := (s.conn c).queued + 1 }
      else (unregAll q (s.conn c) s (s.conn c).watched).setConn c { s.conn c with watched := [] } := by
  simp only [step, unregAll]
  split <;> rfl

theorem step_refused (q : Q) (s : State) (now c : Nat) : (step q s now (.refused c)).1 = s := rfl

/-- the connection after EXEC / DISCARD -/
def Conn.cleared (cn : Conn) : Conn := { cn with inTx := false, watched := [], queued := 0 }

theorem step_multi (q : Q) (s : State) (now c : Nat) :
    (step q s now (.multi c)).1 =
      if (s.conn c).inTx = true then s else s.setConn c { (s.conn c) with inTx := true, queued := 0 } := by
  simp only [step]; split <;> rfl

theorem step_exec (q : Q) (s : State) (now c : Nat) (ops : List Op) :
    (step q s now (.exec c ops)).1 =
      if (s.conn c).inTx = false then s
      else if execAborts q s (s.conn c) now = true then s.setConn c (s.conn c).cleared
      else applyOps (s.setConn c (s.conn c).cleared) (s.conn c).db ops := by
  simp only [step, Conn.cleared]
  cases (s.conn c).inTx
  · rfl
  · simp only [Bool.not_true, Bool.false_eq_true, if_false]
    split <;> rfl

theorem step_discard (q : Q) (s : State) (now c : Nat) :
    (step q s now (.discard c)).1 = if (s.conn c).inTx = false then s else s.setConn c (s.conn c).cleared := by
  simp only [step, Conn.cleared]
  cases (s.conn c).inTx <;> rfl

theorem step_select (q : Q) (s : State) (now c d : Nat) :
    (step q s now (.select c d)).1 =
      if (s.conn c).inTx = true then s.setConn c { (s.conn c) with queued := (s.conn c).queued + 1 }
      else if 16 ≤ d then s else s.setConn c { (s.conn c) with db := d } := by
  simp only [step]
  split
  · rfl
  · split <;> rfl

theorem step_cmd (q : Q) (s : State) (now c : Nat) (ops : List Op) :
    (step q s now (.cmd c ops)).1 =
      if (s.conn c).inTx = true then s.setConn c { (s.conn c) with queued := (s.conn c).queued + 1 }
      else applyOps s (s.conn c).db ops := by
  simp only [step]; split <;> rfl

theorem step_sweep (q : Q) (s : State) (now d : Nat) (k : Key) (m : Bool) :
    (step q s now (.sweep d k m)).1 = sweepKey s d k m now := rfl

/-- the connection that issues the event (the sweeper has none) -/
def issuer : Ev → Option Nat
  | .watch c _ => some c | .unwatch c => some c | .multi c => some c | .exec c _ => some c
  | .discard c => some c | .select c _ => some c | .cmd c _ => some c | .sweep _ _ _ => none | .refused c => some c

/-- What a step does to the state: nothing, or it rewrites the issuer's record, registers the keys of a WATCH,
    unregisters the issuer's entries, sweeps a key — or it runs operations (EXEC on the issuer's cleared record, a data
    command on `s`), the only case in which `executed` is not empty. -/
theorem step_cases (q : Q) (s : State) (now : Nat) (ev : Ev) :
    (executed q s now ev = [] ∧
      ((step q s now ev).1 = s ∨
       (∃ c cn, issuer ev = some c ∧ (step q s now ev).1 = s.setConn c cn ∧
          (cn.watched = (s.conn c).watched ∨ cn.watched = [])) ∨
       (∃ c keys, ev = .watch c keys ∧ (keys.isEmpty || (s.conn c).inTx) = false ∧
          (step q s now ev).1 = watchAll q c now s keys) ∨
       (∃ c cn, issuer ev = some c ∧
          (step q s now ev).1 = (unregAll q (s.conn c) s (s.conn c).watched).setConn c cn ∧ cn.watched = []) ∨
       (∃ d k m, ev = .sweep d k m ∧ (step q s now ev).1 = sweepKey s d k m now))) ∨
    (∃ c ops s0, issuer ev = some c ∧ executed q s now ev = ops.map (fun o => ((s.conn c).db, o)) ∧
      (s0 = s ∨ s0 = s.setConn c (s.conn c).cleared) ∧ (step q s now ev).1 = applyOps s0 (s.conn c).db ops) := by
  cases ev with
  | watch c keys =>
    refine Or.inl ⟨rfl, ?_⟩
    rw [step_watch]
    split
    · exact Or.inl rfl
    · next h => exact Or.inr (Or.inr (Or.inl ⟨c, keys, rfl, Bool.eq_false_iff.mpr h, rfl⟩))
  | unwatch c =>
    refine Or.inl ⟨rfl, ?_⟩
    rw [step_unwatch]
    split
    · exact Or.inr (Or.inl ⟨c, _, rfl, rfl, Or.inl rfl⟩)
    · exact Or.inr (Or.inr (Or.inr (Or.inl ⟨c, _, rfl, rfl, rfl⟩)))
  | refused c => exact Or.inl ⟨rfl, Or.inl rfl⟩
  | multi c =>
    refine Or.inl ⟨rfl, ?_⟩
    rw [step_multi]
    split
    · exact Or.inl rfl
    · exact Or.inr (Or.inl ⟨c, _, rfl, rfl, Or.inl rfl⟩)
  | discard c =>
    refine Or.inl ⟨rfl, ?_⟩
    rw [step_discard]
    split
    · exact Or.inl rfl
    · exact Or.inr (Or.inl ⟨c, _, rfl, rfl, Or.inr rfl⟩)
  | select c d =>
    refine Or.inl ⟨rfl, ?_⟩
    rw [step_select]
    split
    · exact Or.inr (Or.inl ⟨c, _, rfl, rfl, Or.inl rfl⟩)
    · split
      · exact Or.inl rfl
      · exact Or.inr (Or.inl ⟨c, _, rfl, rfl, Or.inl rfl⟩)
  | sweep d k m => exact Or.inl ⟨rfl, Or.inr (Or.inr (Or.inr (Or.inr ⟨d, k, m, rfl, rfl⟩)))⟩
  | exec c ops =>
    cases h : (s.conn c).inTx
    · exact Or.inl ⟨by simp [executed, h], Or.inl (by rw [step_exec, if_pos h])⟩
    · cases ha : execAborts q s (s.conn c) now
      · exact Or.inr ⟨c, ops, _, rfl, by simp [executed, h, ha], Or.inr rfl,
          by rw [step_exec, if_neg (by simp [h]), if_neg (by simp [ha])]⟩
      · exact Or.inl ⟨by simp [executed, h, ha], Or.inr (Or.inl ⟨c, (s.conn c).cleared, rfl,
          by rw [step_exec, if_neg (by simp [h]), if_pos ha], Or.inr rfl⟩)⟩
  | cmd c ops =>
    cases h : (s.conn c).inTx
    · exact Or.inr ⟨c, ops, s, rfl, by simp [executed, h], Or.inl rfl, by rw [step_cmd, if_neg (by simp [h])]⟩
    · exact Or.inl ⟨by simp [executed, h], Or.inr (Or.inl ⟨c, { (s.conn c) with queued := (s.conn c).queued + 1 }, rfl,
        by rw [step_cmd, if_pos h], Or.inl rfl⟩)⟩

theorem grows_step (q : Q) (s : State) (now : Nat) (ev : Ev) : Grows s (step q s now ev).1 := by
  rcases step_cases q s now ev with
    ⟨_, h | ⟨c, cn, _, h, _⟩ | ⟨c, keys, _, _, h⟩ | ⟨c, cn, _, h, _⟩ | ⟨d, k, m, _, h⟩⟩ | ⟨c, ops, s0, _, _, hs0, h⟩
  · rw [h]; exact Grows.refl s
  · rw [h]; exact grows_setConn s c cn
  · rw [h]; exact grows_watchAll q c now s keys
  · rw [h]; exact (grows_unregAll q _ s _).trans (grows_setConn _ c cn)
  · rw [h]; exact grows_sweepKey s d k m now
  · rw [h]
    rcases hs0 with rfl | rfl
    · exact grows_applyOps _ _ ops
    · exact (grows_setConn s c _).trans (grows_applyOps _ _ ops)

theorem grows_run (q : Q) (s : State) (evs : List (Nat × Ev)) : Grows s (run q s evs) := by
  induction evs generalizing s with
  | nil => exact Grows.refl s
  | cons e r ih =>
    obtain ⟨now, ev⟩ := e
    simp only [run]
    exact (grows_step q s now ev).trans (ih _)

theorem run_append (q : Q) (s : State) (a b : List (Nat × Ev)) : run q s (a ++ b) = run q (run q s a) b := by
  induction a generalizing s with
  | nil => rfl
  | cons e r ih => obtain ⟨now, ev⟩ := e; simp only [List.cons_append, run]; exact ih _

theorem conn_step_other (q : Q) (s : State) (now : Nat) (ev : Ev) (c' : Nat) (h : issuer ev ≠ some c') :
    (step q s now ev).1.conn c' = s.conn c' := by
  have hc : ∀ c, issuer ev = some c → c ≠ c' := fun c e e' => h (e' ▸ e)
  rcases step_cases q s now ev with
    ⟨_, e | ⟨c, cn, hi, e, _⟩ | ⟨c, keys, rfl, _, e⟩ | ⟨c, cn, hi, e, _⟩ | ⟨d, k, m, _, e⟩⟩ | ⟨c, ops, s0, hi, _, hs0, e⟩
  · rw [e]
  · rw [e, conn_setConn, if_neg (hc c hi)]
  · rw [e]; exact conn_watchAll_other q c now s keys c' (hc c rfl)
  · rw [e, conn_setConn, if_neg (hc c hi)]
    exact conn_conns_eq (conns_unregAll _ _ _ _) c'
  · rw [e]; exact conn_conns_eq (conns_sweepKey _ _ _ _ _) c'
  · rw [e, conn_applyOps]
    rcases hs0 with rfl | rfl
    · rfl
    · rw [conn_setConn, if_neg (hc c hi)]

/-- `c` issues no WATCH, UNWATCH, EXEC, DISCARD in this event, and no SELECT unless watch entries
    remember their database (MULTI and data commands are allowed; other connections may do anything) -/
def quiet (q : Q) (c : Nat) : Ev → Bool
  | .watch c' _ => decide (c' ≠ c)
  | .unwatch c' => decide (c' ≠ c)
  | .exec c' _ => decide (c' ≠ c)
  | .discard c' => decide (c' ≠ c)
  | .select c' _ => decide (c' ≠ c) || q.perDb
  | _ => true

theorem quiet_step (q : Q) (s : State) (now : Nat) (ev : Ev) (c : Nat) (h : quiet q c ev = true) :
    ((step q s now ev).1.conn c).watched = (s.conn c).watched ∧
    (q.perDb = true ∨ ((step q s now ev).1.conn c).db = (s.conn c).db) := by
  by_cases hi : issuer ev = some c
  · -- of its own events a quiet connection issues MULTI, data commands, refused ones, and SELECT if `perDb`
    cases ev with
    | watch c' keys => exact absurd (Option.some.inj hi) (by simpa [quiet] using h)
    | unwatch c' => exact absurd (Option.some.inj hi) (by simpa [quiet] using h)
    | exec c' ops => exact absurd (Option.some.inj hi) (by simpa [quiet] using h)
    | discard c' => exact absurd (Option.some.inj hi) (by simpa [quiet] using h)
    | sweep d k m => exact absurd hi (by simp [issuer])
    | refused c' => exact ⟨rfl, Or.inr rfl⟩
    | multi c' =>
      cases Option.some.inj hi
      rw [step_multi]
      split
      · exact ⟨rfl, Or.inr rfl⟩
      · rw [conn_setConn, if_pos rfl]; exact ⟨rfl, Or.inr rfl⟩
    | cmd c' ops =>
      cases Option.some.inj hi
      rw [step_cmd]
      split
      · rw [conn_setConn, if_pos rfl]; exact ⟨rfl, Or.inr rfl⟩
      · rw [conn_applyOps]; exact ⟨rfl, Or.inr rfl⟩
    | select c' d =>
      cases Option.some.inj hi
      rw [step_select]
      split
      · rw [conn_setConn, if_pos rfl]; exact ⟨rfl, Or.inr rfl⟩
      · split
        · exact ⟨rfl, Or.inr rfl⟩
        · rw [conn_setConn, if_pos rfl]; exact ⟨rfl, Or.inl (by simpa [quiet] using h)⟩
  · rw [conn_step_other q s now ev c hi]; exact ⟨rfl, Or.inr rfl⟩

theorem quiet_run (q : Q) (s : State) (evs : List (Nat × Ev)) (c : Nat) (h : ∀ e ∈ evs, quiet q c e.2 = true) :
    ((run q s evs).conn c).watched = (s.conn c).watched ∧
    (q.perDb = true ∨ ((run q s evs).conn c).db = (s.conn c).db) := by
  induction evs generalizing s with
  | nil => exact ⟨rfl, Or.inr rfl⟩
  | cons e r ih =>
    obtain ⟨now, ev⟩ := e
    simp only [run]
    have h1 := quiet_step q s now ev c (h (now, ev) List.mem_cons_self)
    have h2 := ih (step q s now ev).1 (fun e m => h e (List.mem_cons_of_mem _ m))
    refine ⟨h2.1.trans h1.1, ?_⟩
    rcases h2.2 with p | p
    · exact Or.inl p
    · rcases h1.2 with p' | p'
      · exact Or.inl p'
      · exact Or.inr (p.trans p')

theorem effDb_quiet (q : Q) (cn cn' : Conn) (w : W) (h : q.perDb = true ∨ cn'.db = cn.db) :
    effDb q cn' w = effDb q cn w := by
  unfold effDb
  rcases h with p | p
  · simp [p]
  · rw [p]

/-- does the event address the entry `(d, k)`: an executed operation on it (or a flush of its database),
    or the sweeper's deletion of it -/
def evTouches (q : Q) (s : State) (now : Nat) (d : Nat) (k : Key) (ev : Ev) : Bool :=
  (executed q s now ev).any (fun p => opTouches d k p.1 p.2) ||
    (match ev with
     | .sweep d' k' _ => decide (d' = d) && decide (k' = k)
     | .watch c keys => !(keys.isEmpty || (s.conn c).inTx) && watchTouches q s now c keys d k
     | _ => false)

def untouched (q : Q) (d : Nat) (k : Key) : State → List (Nat × Ev) → Bool
  | _, [] => true
  | s, (now, ev) :: r => !evTouches q s now d k ev && untouched q d k (step q s now ev).1 r

theorem step_untouched (q : Q) (s : State) (now : Nat) (ev : Ev) (d : Nat) (k : Key)
    (h : evTouches q s now d k ev = false) :
    (step q s now ev).1.counter d k = s.counter d k ∧ (step q s now ev).1.entry d k = s.entry d k := by
  unfold evTouches at h
  rcases step_cases q s now ev with
    ⟨he, e | ⟨c, cn, _, e, _⟩ | ⟨c, keys, rfl, hc, e⟩ | ⟨c, cn, _, e, _⟩ | ⟨d', k', m, rfl, e⟩⟩ | ⟨c, ops, s0, _, he, hs0, e⟩
  · rw [e]; exact ⟨rfl, rfl⟩
  · rw [e]; exact ⟨rfl, rfl⟩
  · rw [e]
    simp only [he, List.any_nil, Bool.false_or, hc, Bool.not_false, Bool.true_and] at h
    exact watchAll_untouched q c now s keys d k h
  · rw [e]
    exact ⟨by rw [counter_setConn, counter_unregAll], by rw [entry_setConn]; unfold State.entry; rw [data_unregAll]⟩
  · rw [e]
    simp only [he, List.any_nil, Bool.false_or] at h
    apply sweepKey_untouched
    intro x
    simp only [Prod.mk.injEq] at x
    simp [x.1, x.2] at h
  · rw [e]
    have hops : ∀ o ∈ ops, opTouches d k (s.conn c).db o = false := fun o m => by
      rw [he] at h
      simpa using (List.any_eq_false.mp (Bool.or_eq_false_iff.mp h).1) ((s.conn c).db, o) (List.mem_map.mpr ⟨o, m, rfl⟩)
    -- a rewritten connection record changes neither trackers nor entries
    rcases hs0 with rfl | rfl
    · exact applyOps_untouched _ _ ops d k hops
    · exact applyOps_untouched (s.setConn c _) _ ops d k hops

theorem run_untouched (q : Q) (s : State) (evs : List (Nat × Ev)) (d : Nat) (k : Key)
    (h : untouched q d k s evs = true) :
    (run q s evs).counter d k = s.counter d k ∧ (run q s evs).entry d k = s.entry d k := by
  induction evs generalizing s with
  | nil => exact ⟨rfl, rfl⟩
  | cons e r ih =>
    obtain ⟨now, ev⟩ := e
    simp only [untouched, Bool.and_eq_true, Bool.not_eq_true'] at h
    simp only [run]
    have h1 := step_untouched q s now ev d k h.1
    have h2 := ih (step q s now ev).1 h.2
    exact ⟨h2.1.trans h1.1, h2.2.trans h1.2⟩

theorem step_marks (q : Q) (s : State) (now : Nat) (ev : Ev) (d : Nat) (ko : KeyOp) (hk : TOk s)
    (hmem : (d, Op.key ko) ∈ executed q s now ev) (hr : ko.eff.reaches = true) (hm : ko.marks = true)
    (ha : s.active d (shardOf ko.key) ≠ 0) : Marked d ko.key s (step q s now ev).1 := by
  rcases step_cases q s now ev with ⟨he, _⟩ | ⟨c, ops, s0, _, he, hs0, e⟩
  · rw [he] at hmem; nomatch hmem
  · rw [he] at hmem
    obtain ⟨o, hmo, x⟩ := List.mem_map.mp hmem
    cases x
    rw [e]
    rcases hs0 with rfl | rfl
    · exact applyOps_marks _ _ ops ko hk hmo hr hm ha
    · exact applyOps_marks (s.setConn c _) _ ops ko hk hmo hr hm ha

/-- no registration of this WATCH wraps the usize watcher count -/
def safeWatch (q : Q) (c : Nat) (now : Nat) : State → List Key → Bool
  | _, [] => true
  | s, k :: r => decide (s.active (s.conn c).db (shardOf k) + 1 < two64) && safeWatch q c now (watchKey q c now s k) r

theorem active_watchKeyNew (q : Q) (c : Nat) (s : State) (k : Key) (d sh : Nat) :
    (watchKeyNew q c s k).active d sh =
      if ((s.conn c).db, shardOf k) = (d, sh) then (s.active d sh + 1) % two64 else s.active d sh := by
  unfold watchKeyNew
  rw [active_setConn, active_setTracker]
  split
  · rename_i e
    simp only [Prod.mk.injEq] at e
    rw [register_active]
    have : (s.tracker (s.conn c).db (shardOf k)).active = s.active (s.conn c).db (shardOf k) := rfl
    rw [this, e.1, e.2]
  · rfl

theorem active_watchKey_ne_zero (q : Q) (c : Nat) (now : Nat) (s : State) (k : Key) (d sh : Nat)
    (hs : s.active (s.conn c).db (shardOf k) + 1 < two64) (ha : s.active d sh ≠ 0) :
    (watchKey q c now s k).active d sh ≠ 0 := by
  rcases watchKey_cases q c now s k with e | e
  · rw [e]; exact ha
  · rw [e, active_watchKeyNew]
    simp only [conn_purge, active_purge]
    split
    · rename_i e2
      simp only [Prod.mk.injEq] at e2
      rw [← e2.1, ← e2.2, Nat.mod_eq_of_lt hs]
      omega
    · exact ha

theorem watchKey_changed_marks (q : Q) (c : Nat) (now : Nat) (s : State) (k0 : Key) (d : Nat) (k : Key)
    (hch : (watchKey q c now s k0).entry d k ≠ s.entry d k) (ha : s.active d (shardOf k) ≠ 0) :
    Marked d k s (watchKey q c now s k0) := by
  unfold Marked
  rcases watchKey_cases q c now s k0 with h | h
  · rw [h] at hch; exact absurd rfl hch
  · rw [h, entry_watchKeyNew] at hch
    rw [h, counter_watchKeyNew]
    by_cases hkey : ((s.conn c).db, k0) = (d, k)
    · cases hkey
      exact purge_changed_marks q s _ k0 now hch ha
    · exact absurd (purge_untouched q s (s.conn c).db k0 now d k fun x => hkey x.2.1).2 hch

theorem watchAll_changed_marks (q : Q) (c : Nat) (now : Nat) (s : State) (keys : List Key) (d : Nat) (k : Key)
    (hk : TOk s) (hs : safeWatch q c now s keys = true)
    (hch : (watchAll q c now s keys).entry d k ≠ s.entry d k) (ha : s.active d (shardOf k) ≠ 0) :
    Marked d k s (watchAll q c now s keys) :=
  foldl_marked_of_changed (watchKey q c now)
    (fun keys s => TOk s ∧ safeWatch q c now s keys = true ∧ s.active d (shardOf k) ≠ 0)
    (grows_watchKey q c now) (fun _ _ h => h.1)
    (fun k0 _ s h => by
      have hs := h.2.1
      simp only [safeWatch, Bool.and_eq_true, decide_eq_true_eq] at hs
      exact ⟨(grows_watchKey q c now s k0).tok h.1, hs.2, active_watchKey_ne_zero q c now s k0 d (shardOf k) hs.1 h.2.2⟩)
    (fun k0 _ s h e => watchKey_changed_marks q c now s k0 d k e h.2.2) keys s ⟨hk, hs, ha⟩ hch

/-- every operation the event executes marks what it changes, and a sweep marks -/
def evMarksOk (q : Q) (s : State) (now : Nat) (ev : Ev) : Bool :=
  (executed q s now ev).all (fun p => opMarksOk p.2) &&
    (match ev with
     | .sweep _ _ m => m
     | _ => true)

theorem step_changed_marks (q : Q) (s : State) (now : Nat) (ev : Ev) (d : Nat) (k : Key) (hk : TOk s)
    (hok : evMarksOk q s now ev = true) (hch : (step q s now ev).1.entry d k ≠ s.entry d k)
    (ha : s.active d (shardOf k) ≠ 0)
    (hsw : ∀ c keys, ev = .watch c keys → safeWatch q c now s keys = true) : Marked d k s (step q s now ev).1 := by
  simp only [evMarksOk, Bool.and_eq_true] at hok
  rcases step_cases q s now ev with
    ⟨_, e | ⟨c, cn, _, e, _⟩ | ⟨c, keys, rfl, _, e⟩ | ⟨c, cn, _, e, _⟩ | ⟨d', k', m, rfl, e⟩⟩ | ⟨c, ops, s0, _, he, hs0, e⟩
  · rw [e] at hch; exact absurd rfl hch
  · rw [e] at hch; exact absurd rfl hch
  · rw [e] at hch ⊢
    exact watchAll_changed_marks q c now s keys d k hk (hsw c keys rfl) hch ha
  · rw [e, entry_setConn] at hch
    unfold State.entry at hch
    rw [data_unregAll] at hch
    exact absurd rfl hch
  · rw [e] at hch ⊢
    cases hok.2
    by_cases x : (d', k') = (d, k)
    · cases x; exact sweepKey_changed_marks s _ _ now hch ha
    · exact absurd (sweepKey_untouched s d' k' true now d k x).2 hch
  · have hok' : ∀ o ∈ ops, opMarksOk o = true := fun o m => by
      simpa using (List.all_eq_true.mp hok.1) ((s.conn c).db, o) (by rw [he]; exact List.mem_map.mpr ⟨o, m, rfl⟩)
    rw [e] at hch ⊢
    -- a rewritten connection record changes neither trackers nor entries
    rcases hs0 with rfl | rfl
    · exact applyOps_changed_marks _ _ ops d k hk hok' hch ha
    · exact applyOps_changed_marks (s.setConn c _) _ ops d k hk hok' hch ha

end Ferrous.Watch
