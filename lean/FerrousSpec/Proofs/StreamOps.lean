/-
  C15: XDEL / XTRIM as filters on sorted lists, and the invariant of every history of XADD (auto and explicit),
  XDEL, XTRIM and restarts from the empty stream.
-/
import FerrousSpec.Proofs.StreamRange
namespace Ferrous.Stream
open Code

theorem filter_ne_self {es : List Entry} {id : Id} (h : ¬ ∃ x ∈ es, x.1 = id) :
    es.filter (fun x => decide (x.1 ≠ id)) = es := by
  rw [List.filter_eq_self]
  intro x hx
  simp only [ne_eq, decide_eq_true_eq]
  intro heq
  exact h ⟨x, hx, heq⟩

theorem eraseIdx_lowerBound {es : List Entry} (h : Sorted es) {id : Id} (hx : ∃ x ∈ es, x.1 = id) :
    es.eraseIdx (lowerBound es id) = es.filter (fun x => decide (x.1 ≠ id)) := by
  induction es with
  | nil => obtain ⟨x, hx, _⟩ := hx; cases hx
  | cons y r ih =>
    have hy := (sorted_cons.1 h).1
    by_cases h1 : y.1 < id
    · have hne : y.1 ≠ id := Std.ne_of_lt h1
      have hx' : ∃ x ∈ r, x.1 = id := by
        obtain ⟨x, hx, hxe⟩ := hx
        rcases List.mem_cons.1 hx with rfl | hx
        · exact absurd hxe hne
        · exact ⟨x, hx, hxe⟩
      simp only [lowerBound, if_pos h1, List.eraseIdx_cons_succ, ih h.tail hx', List.filter_cons_of_pos,
        decide_eq_true hne]
    · -- `y` is the first entry not below `id`, and `id` is present: `y` carries it and nothing after does
      have h2 : y.1 = id := by
        obtain ⟨x, hx, hxe⟩ := hx
        rcases List.mem_cons.1 hx with rfl | hx
        · exact hxe
        · exact absurd (hxe ▸ hy x hx) h1
      have hr : r.filter (fun x => decide (x.1 ≠ id)) = r :=
        filter_ne_self fun ⟨x, hx, hxe⟩ => Std.lt_irrefl (h2 ▸ hxe ▸ hy x hx)
      rw [lowerBound, if_neg h1, List.eraseIdx_cons_zero, List.filter_cons_of_neg (by simpa using h2), hr]

/-- `Stream::delete`'s loop body: `remove(i)` on `Ok(i)` -/
theorem deleteOne_eq (es : List Entry) (id : Id) :
    deleteOne es id = if (bsearch es id).1 = true then (es.eraseIdx (lowerBound es id), 1) else (es, 0) := by
  rw [← bsearch_snd, deleteOne]
  rcases bsearch es id with ⟨_ | _, i⟩ <;> rfl

theorem deleteOne_fst {es : List Entry} (h : Sorted es) (id : Id) :
    (deleteOne es id).1 = es.filter (fun x => decide (x.1 ≠ id)) := by
  rw [deleteOne_eq]
  split
  · rename_i hf; exact eraseIdx_lowerBound h ((bsearch_found_iff h id).1 hf)
  · rename_i hf; exact (filter_ne_self fun hx => hf ((bsearch_found_iff h id).2 hx)).symm

theorem deleteOne_shrinks (es : List Entry) (id : Id) :
    (deleteOne es id).1.Sublist es ∧ (deleteOne es id).1.length + (deleteOne es id).2 = es.length := by
  rw [deleteOne_eq]
  split
  · rename_i hf
    have := bsearch_fst_lt hf
    refine ⟨List.eraseIdx_sublist _ _, ?_⟩
    simp only [List.length_eraseIdx, if_pos this]
    omega
  · exact ⟨List.Sublist.refl _, rfl⟩

def delStep (acc : List Entry × Nat) (id : Id) : List Entry × Nat :=
  ((deleteOne acc.1 id).1, acc.2 + (deleteOne acc.1 id).2)

theorem delFold_fst {es : List Entry} (h : Sorted es) (l : List Id) (n : Nat) :
    (l.foldl delStep (es, n)).1 = es.filter (fun x => !(l.contains x.1)) := by
  induction l generalizing es n with
  | nil => simp only [List.foldl_nil]; exact (List.filter_eq_self.2 (by simp)).symm
  | cons id l ih =>
    simp only [List.foldl_cons, delStep]
    have hs : Sorted (deleteOne es id).1 := h.sublist (deleteOne_shrinks es id).1
    have := ih hs (n + (deleteOne es id).2)
    rw [this, deleteOne_fst h, List.filter_filter]
    apply List.filter_congr
    intro x hx
    simp only [List.contains_cons, ne_eq, Bool.not_or, Bool.and_comm]
    congr 1
    by_cases hxe : x.1 = id <;> simp [hxe]

theorem delFold_shrinks (es : List Entry) (l : List Id) (n : Nat) :
    (l.foldl delStep (es, n)).1.Sublist es ∧
      (l.foldl delStep (es, n)).1.length + (l.foldl delStep (es, n)).2 = es.length + n := by
  induction l generalizing es n with
  | nil => exact ⟨List.Sublist.refl _, rfl⟩
  | cons id l ih =>
    simp only [List.foldl_cons, delStep]
    have h1 := ih (deleteOne es id).1 (n + (deleteOne es id).2)
    have h2 := deleteOne_shrinks es id
    exact ⟨h1.1.trans h2.1, by omega⟩

theorem mem_insertId (a b : Id) (l : List Id) : a ∈ insertId b l ↔ a = b ∨ a ∈ l := by
  induction l with
  | nil => simp [insertId]
  | cons c r ih =>
    unfold insertId
    split
    · simp
    · simp [ih]; constructor <;> (intro h; rcases h with h | h | h <;> simp [h])

theorem mem_sortIds (a : Id) (l : List Id) : a ∈ sortIds l ↔ a ∈ l := by
  induction l with
  | nil => simp [sortIds]
  | cons b r ih =>
    have : sortIds (b :: r) = insertId b (sortIds r) := rfl
    rw [this, mem_insertId, ih]; simp

theorem mem_dedupIds (a : Id) : ∀ l : List Id, a ∈ dedupIds l ↔ a ∈ l
  | [] => by simp [dedupIds]
  | [x] => by simp [dedupIds]
  | x :: y :: r => by
    have ih := mem_dedupIds a (y :: r)
    rw [dedupIds]
    split
    · rename_i hxy; rw [ih, hxy]; simp
    · simp only [List.mem_cons] at ih ⊢; rw [ih]

theorem deleteIds_fst {es : List Entry} (h : Sorted es) (ids : List Id) :
    (deleteIds es ids).1 = Spec.del es ids := by
  show ((dedupIds (sortIds ids)).reverse.foldl delStep (es, 0)).1 = _
  rw [delFold_fst h, Spec.del]
  apply List.filter_congr
  intro x hx
  congr 1
  rw [Bool.eq_iff_iff]
  simp only [List.contains_iff_mem, List.mem_reverse, mem_dedupIds, mem_sortIds]

theorem deleteIds_shrinks (es : List Entry) (ids : List Id) :
    (deleteIds es ids).1.Sublist es ∧ (deleteIds es ids).1.length + (deleteIds es ids).2 = es.length :=
  delFold_shrinks es (dedupIds (sortIds ids)).reverse 0

theorem trimByCount_entries (s : Code.Stream) (n : Nat) :
    (trimByCount s n).1.entries = Spec.trimCount s.entries n := by
  unfold trimByCount Spec.trimCount
  split
  · rename_i h
    have : s.entries.length - n = 0 := by omega
    simp [this]
  · rfl

theorem trimByCount_count (s : Code.Stream) (n : Nat) :
    (trimByCount s n).2 = s.entries.length - n := by
  unfold trimByCount
  split
  · rename_i h; simp; omega
  · rfl

theorem trimByMinId_entries (s : Code.Stream) (h : Sorted s.entries) (m : Id) :
    (trimByMinId s m).1.entries = Spec.trimMinId s.entries m := by
  unfold trimByMinId Spec.trimMinId
  simp only [bsearch_snd]
  rw [← drop_lowerBound h]
  split
  · rename_i hk; rw [hk]; rfl
  · rfl

structure Inv (r : Run) : Prop where
  /-- the three copies of the last ID agree -/
  last : r.st.lastId = ⟨r.st.atomMs, r.st.atomSeq⟩
  /-- `last_id` bounds every ID ever added … -/
  bound : ∀ e ∈ r.added, e.1 ≤ r.st.lastId
  /-- … and is the last of them (0-0 before the first XADD) -/
  lastMem : r.added ≠ [] → ∃ e ∈ r.added, e.1 = r.st.lastId
  lastZero : r.added = [] → r.st.lastId = Id.zero
  /-- accepted IDs strictly increase -/
  incr : Sorted r.added
  /-- the present entries are a sub-sequence of the accepted XADDs (same fields, same order) -/
  sub : r.st.entries.Sublist r.added
  /-- the atomic counter XLEN reads is the number of present entries -/
  len : r.st.length = r.st.entries.length
  /-- no accepted ID is 0-0 -/
  pos : ∀ e ∈ r.added, Id.zero < e.1

theorem Inv.sorted {r : Run} (h : Inv r) : Sorted r.st.entries := h.incr.sublist h.sub

theorem inv_init : Inv Run.init := by
  constructor <;> simp [Run.init, Stream.new, Sorted, Id.zero]

/-- the push both XADD paths perform -/
def push (s : Code.Stream) (id : Id) (f : Fields) : Code.Stream :=
  { entries := s.entries ++ [(id, f)], lastId := id, atomMs := id.ms, atomSeq := id.seq, length := s.length + 1 }

theorem inv_push {r : Run} (h : Inv r) (id : Id) (f : Fields) (w l : Bool) (hgt : r.st.lastId < id) :
    Inv ⟨push r.st id f, r.added ++ [(id, f)], w, l⟩ := by
  constructor
  · simp [push]
  · intro e he
    simp only [List.mem_append, List.mem_singleton] at he
    rcases he with he | rfl
    · exact Std.le_of_lt (Std.lt_of_le_of_lt (h.bound e he) hgt)
    · exact Std.le_refl _
  · intro _; exact ⟨(id, f), by simp, rfl⟩
  · intro hnil; simp at hnil
  · show List.Pairwise _ _
    rw [List.pairwise_append]
    refine ⟨h.incr, by simp, ?_⟩
    intro a ha b hb
    simp only [List.mem_singleton] at hb
    rw [hb]
    exact Std.lt_of_le_of_lt (h.bound a ha) hgt
  · exact List.Sublist.append h.sub (List.Sublist.refl _)
  · simp [push, h.len]
  · intro e he
    simp only [List.mem_append, List.mem_singleton] at he
    rcases he with he | rfl
    · exact h.pos e he
    · exact Std.lt_of_le_of_lt (Id.zero_le _) hgt

theorem Inv.congr {r r' : Run} (h : Inv r) (hst : r'.st = r.st) (hadd : r'.added = r.added) : Inv r' := by
  obtain ⟨st', added', w, l⟩ := r'
  subst hst hadd
  exact ⟨h.last, h.bound, h.lastMem, h.lastZero, h.incr, h.sub, h.len, h.pos⟩

theorem inv_shrink {r : Run} (h : Inv r) (es : List Entry) (n : Nat) (w l : Bool)
    (hs : es.Sublist r.st.entries) (hn : n = es.length) :
    Inv ⟨{ r.st with entries := es, length := n }, r.added, w, l⟩ :=
  ⟨h.last, h.bound, h.lastMem, h.lastZero, h.incr, hs.trans h.sub, hn, h.pos⟩

theorem addWithId_cases (id : Id) (f : Fields) (s : Code.Stream) :
    (id ≤ s.lastId ∧ addWithId id f s = (s, false)) ∨
    (s.lastId < id ∧ (bsearch s.entries id).1 = true ∧ addWithId id f s = (s, false)) ∨
    (s.lastId < id ∧ (bsearch s.entries id).1 = false ∧ addWithId id f s = (push s id f, true)) := by
  unfold addWithId
  by_cases h1 : id ≤ s.lastId
  · left; simp [h1]
  · right
    have h1' := Std.not_le.1 h1
    by_cases h2 : (bsearch s.entries id).1 = true
    · left; simp [h1, h2, h1']
    · right; simp [h1, h2, h1', push]

theorem addWithId_of_gt {s : Code.Stream} (hs : Sorted s.entries) {id : Id} (hgt : s.lastId < id)
    (hnew : ∀ x ∈ s.entries, x.1 ≠ id) (f : Fields) : addWithId id f s = (push s id f, true) := by
  rcases addWithId_cases id f s with ⟨hle, _⟩ | ⟨_, hf, _⟩ | ⟨_, _, he⟩
  · exact absurd hgt (Std.not_lt.2 hle)
  · obtain ⟨x, hx, hxe⟩ := (bsearch_found_iff hs id).1 hf
    exact absurd hxe (hnew x hx)
  · exact he

/-- `generate_next_atomic` yields an ID in every branch, so `add_auto` always pushes -/
theorem addAuto_eq (q : Quirks) (now : Nat) (f : Fields) (s : Code.Stream) :
    ∃ id ms sq, nextAuto q now s = some (id, ms, sq) ∧
      addAuto q now f s = (⟨s.entries ++ [(id, f)], id, ms, sq, s.length + 1⟩, some id) := by
  have hn : ∃ p, nextAuto q now s = some p := by
    unfold nextAuto
    split
    · exact ⟨_, rfl⟩
    · split
      · split <;> exact ⟨_, rfl⟩
      · exact ⟨_, rfl⟩
  obtain ⟨⟨id, ms, sq⟩, hn⟩ := hn
  exact ⟨id, ms, sq, hn, by rw [addAuto, hn]⟩

/-- the outcomes of `generate_next_atomic`: the clock has moved on; saturation at the very top and the carry
    (repaired generator only); the next sequence number, which wraps without the repair -/
theorem nextAuto_cases {q : Quirks} {now : Nat} {s : Code.Stream} {id : Id} {ms sq : Nat}
    (hn : nextAuto q now s = some (id, ms, sq)) :
    (s.atomMs < now ∧ id = ⟨now, 0⟩ ∧ ms = now ∧ sq = 0) ∨
    (now ≤ s.atomMs ∧ q.seqCarry = true ∧ s.atomSeq + 1 ≥ u64Mod ∧ s.atomMs + 1 ≥ u64Mod ∧
        id = ⟨s.atomMs, u64Max⟩ ∧ ms = s.atomMs ∧ sq = s.atomSeq) ∨
    (now ≤ s.atomMs ∧ q.seqCarry = true ∧ s.atomSeq + 1 ≥ u64Mod ∧ s.atomMs + 1 < u64Mod ∧
        id = ⟨s.atomMs + 1, 0⟩ ∧ ms = s.atomMs + 1 ∧ sq = 0) ∨
    (now ≤ s.atomMs ∧ (q.seqCarry = false ∨ s.atomSeq + 1 < u64Mod) ∧
        id = ⟨s.atomMs, (s.atomSeq + 1) % u64Mod⟩ ∧ ms = s.atomMs ∧ sq = (s.atomSeq + 1) % u64Mod) := by
  unfold nextAuto at hn
  by_cases h1 : now > s.atomMs
  · rw [if_pos h1] at hn; cases hn
    exact Or.inl ⟨h1, rfl, rfl, rfl⟩
  · rw [if_neg h1] at hn
    have h1 := Nat.le_of_not_lt h1
    by_cases h2 : (q.seqCarry && decide (s.atomSeq + 1 ≥ u64Mod)) = true
    · rw [if_pos h2] at hn
      rw [Bool.and_eq_true, decide_eq_true_eq] at h2
      by_cases h4 : s.atomMs + 1 ≥ u64Mod
      · rw [if_pos h4] at hn; cases hn
        exact Or.inr (Or.inl ⟨h1, h2.1, h2.2, h4, rfl, rfl, rfl⟩)
      · rw [if_neg h4] at hn; cases hn
        exact Or.inr (Or.inr (Or.inl ⟨h1, h2.1, h2.2, Nat.lt_of_not_le h4, rfl, rfl, rfl⟩))
    · rw [if_neg h2] at hn; cases hn
      rw [Bool.and_eq_true, decide_eq_true_eq, Classical.not_and_iff_not_or_not, Bool.not_eq_true, Nat.not_le] at h2
      exact Or.inr (Or.inr (Or.inr ⟨h1, h2, rfl, rfl, rfl⟩))

/-- Whenever `generate_next_atomic` yields an ID outside the wrap situation (and, for the repaired generator, not
    at the top of the ID space, which the engine refuses beforehand), the ID opens a later millisecond at sequence 0
    or takes the next sequence number, and the atomics are left equal to it. -/
theorem nextAuto_rule {q : Quirks} {now : Nat} {s : Code.Stream} {id : Id} {ms sq : Nat}
    (hw : q.seqCarry = true ∨ wrapsAt now s = false)
    (hnt : ¬ (q.seqCarry = true ∧ isTopId ⟨s.atomMs, s.atomSeq⟩ = true))
    (hn : nextAuto q now s = some (id, ms, sq)) :
    ((s.atomMs < id.ms ∧ id.seq = 0) ∨ (id.ms = s.atomMs ∧ id.seq = s.atomSeq + 1)) ∧ ms = id.ms ∧ sq = id.seq := by
  rcases nextAuto_cases hn with ⟨h1, rfl, rfl, rfl⟩ | ⟨_, h2, h3, h4, _⟩ | ⟨_, _, _, _, rfl, rfl, rfl⟩ |
    ⟨h1, h2, rfl, rfl, rfl⟩
  · exact ⟨Or.inl ⟨h1, rfl⟩, rfl, rfl⟩
  · exact absurd ⟨h2, by simp only [isTopId, Bool.and_eq_true, decide_eq_true_eq]; exact ⟨h4, h3⟩⟩ hnt
  · exact ⟨Or.inl ⟨Nat.lt_succ_self _, rfl⟩, rfl, rfl⟩
  · -- the sequence number has a successor: by the repair's own test, or because this is not the wrap situation
    have hsmall : s.atomSeq + 1 < u64Mod := by
      rcases h2 with h2 | h2
      · rcases hw with hw | hw
        · rw [hw] at h2; cases h2
        · simp only [wrapsAt, Bool.and_eq_false_iff, decide_eq_false_iff_not] at hw
          omega
      · exact h2
    rw [Nat.mod_eq_of_lt hsmall]
    exact ⟨Or.inr ⟨rfl, rfl⟩, rfl, rfl⟩

/-- the engine's pre-check: refusal, or `add_auto` away from the top -/
theorem xaddAuto_cases (q : Quirks) (now : Nat) (f : Fields) (s : Code.Stream) :
    (q.seqCarry = true ∧ isTopId s.lastId = true ∧ xaddAuto q now f s = (s, none)) ∨
    (¬ (q.seqCarry = true ∧ isTopId s.lastId = true) ∧ xaddAuto q now f s = addAuto q now f s) := by
  unfold xaddAuto
  by_cases h : q.seqCarry = true ∧ isTopId s.lastId = true
  · left; exact ⟨h.1, h.2, by simp [h.1, h.2]⟩
  · right; refine ⟨h, ?_⟩
    rw [if_neg]; simpa using h

theorem xaddAuto_refused_iff (q : Quirks) (now : Nat) (f : Fields) (s : Code.Stream) :
    ((xaddAuto q now f s).2 = none ↔ q.seqCarry = true ∧ isTopId s.lastId = true) ∧
    ((xaddAuto q now f s).2 = none → (xaddAuto q now f s).1 = s) := by
  rcases xaddAuto_cases q now f s with ⟨h1, h2, he⟩ | ⟨hnt, he⟩
  · rw [he]; exact ⟨⟨fun _ => ⟨h1, h2⟩, fun _ => rfl⟩, fun _ => rfl⟩
  · have hsome : (addAuto q now f s).2 ≠ none := by
      obtain ⟨_, _, _, _, ha⟩ := addAuto_eq q now f s
      rw [ha]; exact Option.some_ne_none _
    rw [he]; exact ⟨⟨fun h => absurd h hsome, fun h => absurd h hnt⟩, fun h => absurd h hsome⟩

theorem isTopId_iff_succId (a : Id) : isTopId a = true ↔ Spec.succId a = none := by
  unfold Spec.succId isTopId
  simp only [Bool.and_eq_true, decide_eq_true_eq]
  constructor
  · intro ⟨h1, h2⟩; rw [if_neg (by omega), if_neg (by omega)]
  · intro h
    split at h
    · cases h
    · split at h
      · cases h
      · omega

/-- one step of the loader -/
def addStep (acc : Code.Stream) (e : Entry) : Code.Stream := (addWithId e.1 e.2 acc).1

/-- the last ID a loader ends with: that of the last entry, `base` if there is none -/
def lastIdOf (base : Id) : List Entry → Id
  | [] => base
  | e :: es => lastIdOf e.1 es

theorem lastIdOf_mem (base : Id) (es : List Entry) : lastIdOf base es = base ∨ ∃ e ∈ es, e.1 = lastIdOf base es := by
  induction es generalizing base with
  | nil => exact Or.inl rfl
  | cons e es ih =>
    rcases ih e.1 with h | ⟨x, hx, hxe⟩
    · exact Or.inr ⟨e, List.mem_cons_self, h.symm⟩
    · exact Or.inr ⟨x, List.mem_cons_of_mem _ hx, hxe⟩

theorem stream_eta (s : Code.Stream) (hl : s.lastId = ⟨s.atomMs, s.atomSeq⟩) (hn : s.length = s.entries.length) :
    s = ⟨s.entries, s.lastId, s.lastId.ms, s.lastId.seq, s.entries.length⟩ := by
  obtain ⟨es, l, a, b, n⟩ := s
  simp only at hl hn
  subst hl hn; rfl

theorem foldl_addStep_spec (es : List Entry) : ∀ (pre : List Entry) (l : Id),
    Sorted (pre ++ es) → (∀ x ∈ pre, x.1 ≤ l) → (∀ e ∈ es, l < e.1) →
    es.foldl addStep ⟨pre, l, l.ms, l.seq, pre.length⟩ =
      ⟨pre ++ es, lastIdOf l es, (lastIdOf l es).ms, (lastIdOf l es).seq, (pre ++ es).length⟩ := by
  induction es with
  | nil => intro pre l _ _ _; rw [List.append_nil]; rfl
  | cons e es ih =>
    intro pre l hs hb hlt
    have hle := hlt e List.mem_cons_self
    have hpush : addStep ⟨pre, l, l.ms, l.seq, pre.length⟩ e = ⟨pre ++ [e], e.1, e.1.ms, e.1.seq, (pre ++ [e]).length⟩ := by
      rw [List.length_append]
      exact congrArg Prod.fst (addWithId_of_gt (s := ⟨pre, l, l.ms, l.seq, pre.length⟩) (List.pairwise_append.1 hs).1
        hle (fun x hx => Std.ne_of_lt (Std.lt_of_le_of_lt (hb x hx) hle)) e.2)
    rw [List.foldl_cons, hpush, ih (pre ++ [e]) e.1 (by rwa [List.append_assoc])
      (fun x hx => (List.mem_append.1 hx).elim (fun hx => Std.le_of_lt (Std.lt_of_le_of_lt (hb x hx) hle))
        fun hx => List.mem_singleton.1 hx ▸ Std.le_refl _)
      ((sorted_cons.1 (List.pairwise_append.1 hs).2.1).1), List.append_assoc]
    rfl

theorem rebuild_spec {es : List Entry} (hs : Sorted es) (hp : ∀ e ∈ es, Id.zero < e.1) :
    rebuild es = ⟨es, lastIdOf Id.zero es, (lastIdOf Id.zero es).ms, (lastIdOf Id.zero es).seq, es.length⟩ :=
  foldl_addStep_spec es [] Id.zero hs (fun _ hx => absurd hx List.not_mem_nil) hp

/-- With the last ID persisted - or when nothing above the present entries had been removed - a restart
    gives back exactly the state that was saved. -/
theorem restart_eq (q : Quirks) {r : Run} (h : Inv r)
    (hk : q.persistLastId = true ∨ (restart q r.st).lastId = r.st.lastId) : restart q r.st = r.st := by
  have hreb := rebuild_spec h.sorted fun e he => h.pos e (h.sub.subset he)
  have hle : lastIdOf Id.zero r.st.entries ≤ r.st.lastId := by
    rcases lastIdOf_mem Id.zero r.st.entries with h0 | ⟨e, he, hee⟩
    · rw [h0]; exact Id.zero_le _
    · rw [← hee]; exact h.bound e (h.sub.subset he)
  have heta := stream_eta r.st h.last h.len
  have same : lastIdOf Id.zero r.st.entries = r.st.lastId → rebuild r.st.entries = r.st := fun he => by
    rw [hreb, he]; exact heta.symm
  unfold restart raiseLastId at hk ⊢
  by_cases hp : q.persistLastId = true
  · rw [if_pos hp]
    by_cases hlt : (rebuild r.st.entries).lastId < r.st.lastId
    · rw [if_pos hlt, hreb]; exact heta.symm
    · rw [if_neg hlt]
      rw [hreb] at hlt
      exact same (Std.le_antisymm hle (Std.not_lt.1 hlt))
  · have hl := hk.resolve_left hp
    rw [if_neg hp] at hl ⊢
    rw [hreb] at hl
    exact same hl

/-- A restart replays pushes of present entries onto the empty stream and then, with the last ID in the dump,
    may raise the last ID to the saved one: what these keep, a restart keeps. -/
theorem restart_ind {P : Code.Stream → Prop} (q : Quirks) (s : Code.Stream) (h0 : P Stream.new)
    (hpush : ∀ acc, P acc → ∀ e ∈ s.entries, P (push acc e.1 e.2))
    (hraise : ∀ t, P t → P { t with lastId := s.lastId, atomMs := s.lastId.ms, atomSeq := s.lastId.seq }) :
    P (restart q s) := by
  have hfold : ∀ (es : List Entry) acc, (∀ e ∈ es, e ∈ s.entries) → P acc → P (es.foldl addStep acc) := by
    intro es
    induction es with
    | nil => exact fun _ _ h => h
    | cons e es ih =>
      intro acc hes hacc
      refine ih _ (fun x hx => hes x (List.mem_cons_of_mem _ hx)) ?_
      show P (addWithId e.1 e.2 acc).1
      rcases addWithId_cases e.1 e.2 acc with ⟨_, he⟩ | ⟨_, _, he⟩ | ⟨_, _, he⟩
      · rw [he]; exact hacc
      · rw [he]; exact hacc
      · rw [he]; exact hpush acc hacc e (hes e List.mem_cons_self)
  have hr : P (rebuild s.entries) := hfold _ _ (fun _ h => h) h0
  unfold restart raiseLastId
  split
  · split
    · exact hraise _ hr
    · exact hr
  · exact hr

/-- Every operation leaves stream and record alone, pushes one entry (with the facts its ID comes with),
    keeps a sub-sequence of the entries and counts the length down by the number `k` that went, or is a restart. -/
theorem step_cases (q : Quirks) (r : Run) (op : Op) :
    ((step q r op).st = r.st ∧ (step q r op).added = r.added) ∨
    (∃ id f ms sq, (step q r op).st = ⟨r.st.entries ++ [(id, f)], id, ms, sq, r.st.length + 1⟩ ∧
        (step q r op).added = r.added ++ [(id, f)] ∧
        ((op = .addId id f ∧ r.st.lastId < id ∧ ms = id.ms ∧ sq = id.seq) ∨
         (∃ now, op = .addAuto now f ∧ nextAuto q now r.st = some (id, ms, sq) ∧
            ¬ (q.seqCarry = true ∧ isTopId r.st.lastId = true)))) ∨
    (∃ es k, es.Sublist r.st.entries ∧ es.length + k = r.st.entries.length ∧ (step q r op).added = r.added ∧
        (step q r op).st = { r.st with entries := es, length := r.st.length - k }) ∨
    op = .restart := by
  generalize hr' : step q r op = r'
  cases op with
  | addAuto now f =>
    simp only [step] at hr'
    rcases xaddAuto_cases q now f r.st with ⟨_, _, he⟩ | ⟨hnt, he⟩
    · rw [he] at hr'; subst hr'; exact Or.inl ⟨rfl, rfl⟩
    · obtain ⟨id, ms, sq, hn, ha⟩ := addAuto_eq q now f r.st
      rw [he, ha] at hr'; subst hr'
      exact Or.inr (Or.inl ⟨id, f, ms, sq, rfl, rfl, Or.inr ⟨now, rfl, hn, hnt⟩⟩)
  | addId id f =>
    simp only [step] at hr'
    rcases addWithId_cases id f r.st with ⟨_, he⟩ | ⟨_, _, he⟩ | ⟨hgt, _, he⟩
    · rw [he] at hr'; subst hr'; exact Or.inl ⟨rfl, rfl⟩
    · rw [he] at hr'; subst hr'; exact Or.inl ⟨rfl, rfl⟩
    · rw [he] at hr'; subst hr'
      exact Or.inr (Or.inl ⟨id, f, _, _, rfl, rfl, Or.inl ⟨rfl, hgt, rfl, rfl⟩⟩)
  | del ids =>
    subst hr'
    have hd := deleteIds_shrinks r.st.entries ids
    exact Or.inr (Or.inr (Or.inl ⟨_, _, hd.1, hd.2, rfl, rfl⟩))
  | trimCount n =>
    simp only [step, trimByCount] at hr'
    by_cases hn : r.st.entries.length ≤ n
    · rw [if_pos hn] at hr'; subst hr'; exact Or.inl ⟨rfl, rfl⟩
    · rw [if_neg hn] at hr'; subst hr'
      exact Or.inr (Or.inr (Or.inl ⟨_, _, List.drop_sublist (r.st.entries.length - n) _,
        by rw [List.length_drop]; omega, rfl, rfl⟩))
  | trimMinId m =>
    have hk := lowerBound_le_length r.st.entries m
    simp only [step, trimByMinId, bsearch_snd] at hr'
    by_cases hm : lowerBound r.st.entries m = 0
    · rw [if_pos hm] at hr'; subst hr'; exact Or.inl ⟨rfl, rfl⟩
    · rw [if_neg hm] at hr'; subst hr'
      exact Or.inr (Or.inr (Or.inl ⟨_, _, List.drop_sublist (lowerBound r.st.entries m) _,
        by rw [List.length_drop]; omega, rfl, rfl⟩))
  | restart => exact Or.inr (Or.inr (Or.inr rfl))

/-- the two steps whose result is matched on, with the components written out -/
theorem step_addAuto (q : Quirks) (r : Run) (now : Nat) (f : Fields) :
    step q r (.addAuto now f) =
      ⟨(xaddAuto q now f r.st).1, r.added ++ ((xaddAuto q now f r.st).2.map (·, f)).toList,
        r.wrapped || wrapsAt now r.st, r.lost⟩ := by
  simp only [step]
  rcases xaddAuto q now f r.st with ⟨st', _ | id⟩
  · exact congrArg (Run.mk st' · _ _) (List.append_nil _).symm
  · rfl

theorem step_addId (q : Quirks) (r : Run) (id : Id) (f : Fields) :
    step q r (.addId id f) =
      ⟨(addWithId id f r.st).1, if (addWithId id f r.st).2 then r.added ++ [(id, f)] else r.added,
        r.wrapped, r.lost⟩ := by
  simp only [step]
  rcases addWithId id f r.st with ⟨st', _ | _⟩ <;> rfl

theorem step_flags (q : Quirks) (r : Run) (op : Op) :
    ((step q r op).wrapped = false → r.wrapped = false) ∧ ((step q r op).lost = false → r.lost = false) := by
  cases op with
  | addAuto now f => rw [step_addAuto]; exact ⟨fun h => (Bool.or_eq_false_iff.1 h).1, id⟩
  | addId _ f => rw [step_addId]; exact ⟨id, id⟩
  | restart => exact ⟨id, fun h => (Bool.or_eq_false_iff.1 h).1⟩
  | _ => exact ⟨id, id⟩

theorem foldl_flags (q : Quirks) (ops : List Op) (r : Run) :
    ((ops.foldl (step q) r).wrapped = false → r.wrapped = false) ∧
    ((ops.foldl (step q) r).lost = false → r.lost = false) := by
  induction ops generalizing r with
  | nil => exact ⟨id, id⟩
  | cons op ops ih => exact ⟨fun h => (step_flags q r op).1 ((ih _).1 h), fun h => (step_flags q r op).2 ((ih _).2 h)⟩

theorem step_inv (q : Quirks) (r : Run) (op : Op) (h : Inv r)
    (hw : q.seqCarry = true ∨ (step q r op).wrapped = false)
    (hl : q.persistLastId = true ∨ (step q r op).lost = false) : Inv (step q r op) := by
  rcases step_cases q r op with ⟨hst, hadd⟩ | ⟨id, f, ms, sq, hst, hadd, hgen⟩ | ⟨es, k, hsub, hk, hadd, hst⟩ | rfl
  · exact h.congr hst hadd
  · have hid : r.st.lastId < id ∧ ms = id.ms ∧ sq = id.seq := by
      rcases hgen with ⟨_, hid⟩ | ⟨now, rfl, hn, hnt⟩
      · exact hid
      · have hw' := hw.imp_right fun hw => (Bool.or_eq_false_iff.1 (step_addAuto q r now f ▸ hw)).2
        obtain ⟨hrule, hms⟩ := nextAuto_rule hw' (h.last ▸ hnt) hn
        exact ⟨h.last ▸ hrule.elim (fun h => Or.inl h.1) fun h => Or.inr ⟨h.1.symm, h.2 ▸ Nat.lt_succ_self _⟩, hms⟩
    obtain ⟨hgt, rfl, rfl⟩ := hid
    exact (inv_push h id f false false hgt).congr hst hadd
  · exact (inv_shrink h es _ false false hsub (by rw [h.len]; omega)).congr hst hadd
  · have hk : q.persistLastId = true ∨ (restart q r.st).lastId = r.st.lastId := hl.imp_right fun hl => by
      simp only [step, Bool.or_eq_false_iff, decide_eq_false_iff_not, ne_eq, Decidable.not_not] at hl
      exact hl.2
    exact h.congr (restart_eq q h hk) rfl

theorem foldl_inv (q : Quirks) (ops : List Op) (r : Run) (h : Inv r)
    (hw : q.seqCarry = true ∨ (ops.foldl (step q) r).wrapped = false)
    (hl : q.persistLastId = true ∨ (ops.foldl (step q) r).lost = false) : Inv (ops.foldl (step q) r) := by
  induction ops generalizing r with
  | nil => exact h
  | cons op ops ih =>
    rw [List.foldl_cons] at hw hl ⊢
    exact ih _ (step_inv q r op h (hw.imp_right (foldl_flags q ops _).1) (hl.imp_right (foldl_flags q ops _).2)) hw hl

theorem run_inv (q : Quirks) (ops : List Op) (hw : q.seqCarry = true ∨ (run q ops).wrapped = false)
    (hl : q.persistLastId = true ∨ (run q ops).lost = false) :
    Inv (run q ops) := foldl_inv q ops _ inv_init hw hl

theorem foldl_added_subset (q : Quirks) (ops : List Op) (r : Run) : ∀ e ∈ r.added, e ∈ (ops.foldl (step q) r).added := by
  induction ops generalizing r with
  | nil => exact fun _ he => he
  | cons op ops ih =>
    refine fun e he => ih _ e ?_
    rcases step_cases q r op with ⟨_, hadd⟩ | ⟨_, _, _, _, _, hadd, _⟩ | ⟨_, _, _, _, hadd, _⟩ | rfl
    · rw [hadd]; exact he
    · rw [hadd]; exact List.mem_append_left _ he
    · rw [hadd]; exact he
    · exact he

/-- The last ID bounds everything ever added and is one of them: between two states of a history that both
    satisfy the invariant it can only have grown, however many operations (restarts included) lie between. -/
theorem run_lastId_le (q : Quirks) (ops ops' : List Op)
    (hw : q.seqCarry = true ∨ (run q (ops ++ ops')).wrapped = false)
    (hl : q.persistLastId = true ∨ (run q (ops ++ ops')).lost = false) :
    (run q ops).st.lastId ≤ (run q (ops ++ ops')).st.lastId := by
  have happ : run q (ops ++ ops') = ops'.foldl (step q) (run q ops) := List.foldl_append
  have h' := run_inv q (ops ++ ops') hw hl
  rw [happ] at hw hl h' ⊢
  have h := run_inv q ops (hw.imp_right (foldl_flags q ops' _).1) (hl.imp_right (foldl_flags q ops' _).2)
  by_cases hnil : (run q ops).added = []
  · rw [h.lastZero hnil]; exact Id.zero_le _
  · obtain ⟨e, he, hee⟩ := h.lastMem hnil
    exact hee ▸ h'.bound e (foldl_added_subset q ops' _ e he)

theorem restart_len (q : Quirks) (s : Code.Stream) :
    (restart q s).length = (restart q s).entries.length :=
  restart_ind (P := fun t => t.length = t.entries.length) q s rfl
    (fun acc h e _ => by simp only [push, h, List.length_append, List.length_singleton]) (fun _ h => h)

theorem step_len (q : Quirks) (r : Run) (op : Op) (h : r.st.length = r.st.entries.length) :
    (step q r op).st.length = (step q r op).st.entries.length := by
  rcases step_cases q r op with ⟨hst, _⟩ | ⟨_, _, _, _, hst, _⟩ | ⟨es, k, _, hk, _, hst⟩ | rfl
  · rw [hst]; exact h
  · rw [hst]; simp only [h, List.length_append, List.length_singleton]
  · rw [hst]; simp only [h]; omega
  · exact restart_len q r.st

theorem foldl_len (q : Quirks) (ops : List Op) (r : Run) (h : r.st.length = r.st.entries.length) :
    (ops.foldl (step q) r).st.length = (ops.foldl (step q) r).st.entries.length := by
  induction ops generalizing r with
  | nil => exact h
  | cons op ops ih => exact ih _ (step_len q r op h)

/-- explicit IDs of a history stay `slack` away from the top sequence number -/
def seqRoom (slack : Nat) : Op → Prop
  | .addId id _ => id.seq + slack < u64Mod
  | _ => True

/-- every sequence number the state holds (generator, last ID, entries) is `k` below the top -/
def RoomSt (k : Nat) (s : Code.Stream) : Prop :=
  s.atomSeq + k < u64Mod ∧ s.lastId.seq + k < u64Mod ∧ ∀ e ∈ s.entries, e.1.seq + k < u64Mod

theorem RoomSt.mono {k : Nat} {s : Code.Stream} (h : RoomSt (k + 1) s) : RoomSt k s :=
  ⟨by have := h.1; omega, by have := h.2.1; omega, fun e he => by have := h.2.2 e he; omega⟩

theorem roomSt_push {k : Nat} {s : Code.Stream} (h : RoomSt k s) (id : Id) (f : Fields) (ms sq n : Nat)
    (hid : id.seq + k < u64Mod) (hsq : sq + k < u64Mod) : RoomSt k ⟨s.entries ++ [(id, f)], id, ms, sq, n⟩ :=
  ⟨hsq, hid, fun e he => (List.mem_append.1 he).elim (h.2.2 e) fun he => List.mem_singleton.1 he ▸ hid⟩

theorem restart_room (q : Quirks) (k : Nat) (s : Code.Stream) (h : RoomSt k s) : RoomSt k (restart q s) := by
  have hk : 0 + k < u64Mod := by have := h.1; omega
  exact restart_ind (P := RoomSt k) q s ⟨hk, hk, fun _ he => absurd he List.not_mem_nil⟩
    (fun acc ha e he => roomSt_push ha _ _ _ _ _ (h.2.2 e he) (h.2.2 e he))
    (fun t ht => ⟨h.2.1, h.2.1, ht.2.2⟩)

theorem nextAuto_room {q : Quirks} {now : Nat} {s : Code.Stream} {id : Id} {ms sq k : Nat}
    (hn : nextAuto q now s = some (id, ms, sq)) (hk : s.atomSeq + (k + 1) < u64Mod) :
    id.seq + k < u64Mod ∧ sq + k < u64Mod := by
  have h0 : 0 + k < u64Mod := by omega
  rcases nextAuto_cases hn with ⟨_, rfl, _, rfl⟩ | ⟨_, _, _, _, _⟩ | ⟨_, _, _, _, _⟩ | ⟨_, _, rfl, _, rfl⟩
  · exact ⟨h0, h0⟩
  · omega
  · omega
  · rw [Nat.mod_eq_of_lt (by omega)]
    exact ⟨Nat.add_right_comm _ 1 k ▸ hk, Nat.add_right_comm _ 1 k ▸ hk⟩

theorem step_seq_room (q : Quirks) (r : Run) (op : Op) (k : Nat)
    (hk : RoomSt (k + 1) r.st) (hop : seqRoom (k + 1) op) :
    RoomSt k (step q r op).st ∧ ((step q r op).wrapped = r.wrapped) := by
  have hk0 := hk.mono
  constructor
  · rcases step_cases q r op with ⟨hst, _⟩ | ⟨id, f, ms, sq, hst, _, hgen⟩ | ⟨es, _, hsub, _, _, hst⟩ | rfl
    · rw [hst]; exact hk0
    · rw [hst]
      rcases hgen with ⟨rfl, _, _, rfl⟩ | ⟨now, rfl, hn, _⟩
      · have : id.seq + k < u64Mod := by simp only [seqRoom] at hop; omega
        exact roomSt_push hk0 _ _ _ _ _ this this
      · have := nextAuto_room hn hk.1
        exact roomSt_push hk0 _ _ _ _ _ this.1 this.2
    · rw [hst]; exact ⟨hk0.1, hk0.2.1, fun e he => hk0.2.2 e (hsub.subset he)⟩
    · exact restart_room q k r.st hk0
  · cases op with
    | addAuto now f =>
      have hnw : wrapsAt now r.st = false := by
        simp only [wrapsAt, Bool.and_eq_false_iff, decide_eq_false_iff_not]; right; have := hk.1; omega
      rw [step_addAuto]; exact hnw ▸ Bool.or_false _
    | addId _ f => rw [step_addId]
    | _ => rfl

theorem foldl_no_wrap (q : Quirks) (ops : List Op) (r : Run)
    (hk : RoomSt ops.length r.st) (hops : ∀ op ∈ ops, seqRoom ops.length op) :
    (ops.foldl (step q) r).wrapped = r.wrapped := by
  induction ops generalizing r with
  | nil => rfl
  | cons op ops ih =>
    simp only [List.foldl_cons, List.length_cons] at hk hops ⊢
    have h1 := step_seq_room q r op ops.length hk (hops op List.mem_cons_self)
    rw [ih _ h1.1, h1.2]
    intro op' hop'
    have := hops op' (List.mem_cons_of_mem _ hop')
    cases op' <;> simp only [seqRoom] at this ⊢ <;> omega

end Ferrous.Stream
