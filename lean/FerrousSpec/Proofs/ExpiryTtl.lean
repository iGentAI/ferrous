/-
  The reply arithmetic of TTL / PTTL: the if-chain of `handle_ttl` is "−2 below one millisecond, else the seconds
  rounded up".
-/
import FerrousSpec.Model.Expiry
namespace Ferrous.Exp
open Ferrous

/-- the arms of `handle_ttl` after the first, on a positive duration: the seconds, ROUNDED UP -/
theorem ttl_arms_ceil (ns : Nat) (h : 0 < ns) :
    (if ns / nsPerSec = 0 then (1 : Int)
     else if ns % nsPerSec > 0 then ((ns / nsPerSec + 1 : Nat) : Int) else ((ns / nsPerSec : Nat) : Int)) =
      Spec.ttlSeconds ns := by
  unfold Spec.ttlSeconds nsPerSec
  split
  · omega
  · split <;> omega

/-- the first arm answers −2 exactly below one millisecond -/
theorem ttl_first_arm (ns : Nat) : (ns / nsPerSec = 0 ∧ ns % nsPerSec / nsPerMs = 0) ↔ ns < nsPerMs := by
  unfold nsPerSec nsPerMs
  omega

theorem ttlOfRemainingWith_fixed_ceil (ns : Nat) (h : 0 < ns) : ttlOfRemainingWith true ns = Spec.ttlSeconds ns := by
  simp only [ttlOfRemainingWith, if_true]
  rw [if_neg (Nat.ne_of_gt h)]
  exact ttl_arms_ceil ns h

theorem ttlOfRemainingWith_unfixed (ns : Nat) : ttlOfRemainingWith false ns = ttlOfRemaining ns := rfl

theorem ttlOfRemaining_ceil (ns : Nat) (h : nsPerMs ≤ ns) : ttlOfRemaining ns = Spec.ttlSeconds ns := by
  simp only [ttlOfRemaining]
  rw [if_neg (fun hh => Nat.not_lt.mpr h ((ttl_first_arm ns).mp hh))]
  exact ttl_arms_ceil ns (Nat.lt_of_lt_of_le (by decide) h)

theorem ttlOfRemaining_sub_ms (ns : Nat) (h : ns < nsPerMs) : ttlOfRemaining ns = -2 := by
  simp only [ttlOfRemaining]
  exact if_pos ((ttl_first_arm ns).mpr h)

theorem ttlOfRemaining_pos (ns : Nat) (h : nsPerMs ≤ ns) : 1 ≤ ttlOfRemaining ns := by
  rw [ttlOfRemaining_ceil ns h]
  unfold Spec.ttlSeconds nsPerSec nsPerMs at *
  omega

/-- on a whole number of milliseconds (Redis's clock) the code's TTL is Redis's `(ms + 500) / 1000`, plus one when the
    fractional part is below half a second: ⌈·⌉ against round-to-nearest -/
theorem ttl_vs_redis (ms : Nat) (h : 1 ≤ ms) :
    ttlOfRemaining (ms * nsPerMs) = Spec.redisTtl ms + (if 0 < ms % 1000 ∧ ms % 1000 < 500 then 1 else 0) := by
  rw [ttlOfRemaining_ceil _ (Nat.le_mul_of_pos_left _ h)]
  unfold Spec.ttlSeconds Spec.redisTtl nsPerSec nsPerMs
  split <;> omega

end Ferrous.Exp
