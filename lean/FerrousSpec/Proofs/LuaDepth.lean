/-
  The reply-depth limit of the script return-value conversion (property C12; Model/Lua.lean `luaToRespD`):
  it answers `none` exactly for values nested deeper than the limit, otherwise it IS `luaToResp`; and a converted value is
  a frame no deeper than its nesting, so that what is accepted fits the parser's budget (Proofs/RespRoundtrip.lean).
-/
import FerrousSpec.Model.Lua
import FerrousSpec.Proofs.RespRoundtrip
namespace Ferrous.Lua
open Ferrous

mutual
theorem luaToRespD_spec (q : Quirks) (limit : Nat) (v : LuaVal) (d : Nat) :
    (d + nest v ≤ limit → luaToRespD q limit v d = some (luaToResp q v)) ∧
    (d + nest v > limit → luaToRespD q limit v d = none) := by
  cases v with
  | table xs =>
    have hl := luaToRespListD_spec q limit xs d
    simp only [nest, luaToRespD, luaToResp]
    by_cases hd : d > limit
    · rw [if_pos hd]
      exact ⟨fun h => by omega, fun _ => rfl⟩
    · rw [if_neg hd]
      exact ⟨fun h => by rw [hl.1 h], fun h => by rw [hl.2 (by omega) h]⟩
  | _ =>
    simp only [luaToRespD, nest, Nat.add_zero]
    exact ⟨fun h => if_neg (by omega), fun h => if_pos h⟩
theorem luaToRespListD_spec (q : Quirks) (limit : Nat) (xs : List LuaVal) (d : Nat) :
    (d + nestList xs ≤ limit → luaToRespListD q limit xs (d + 1) = some (luaToRespList q xs)) ∧
    (d ≤ limit → d + nestList xs > limit → luaToRespListD q limit xs (d + 1) = none) := by
  cases xs with
  | nil => exact ⟨fun _ => rfl, fun hd h => absurd h (by simp only [nestList]; omega)⟩
  | cons v t =>
    have hv := luaToRespD_spec q limit v (d + 1)
    have ht := luaToRespListD_spec q limit t d
    by_cases hn : v.isNil = true
    · have e : nestList (v :: t) = 0 := by simp only [nestList, hn, if_true]
      refine ⟨fun _ => ?_, fun hd h => absurd h (by omega)⟩
      simp only [luaToRespListD, luaToRespList, hn, if_true]
    · simp only [luaToRespListD, luaToRespList, nestList, hn, Bool.false_eq_true, if_false]
      refine ⟨fun h => by rw [hv.1 (by omega), ht.1 (by omega)], fun hd h => ?_⟩
      -- one of the two is too deep
      by_cases h1 : d + 1 + nest v > limit
      · rw [hv.2 h1]
      · rw [ht.2 hd (by omega)]
        split <;> first | rfl | contradiction
end

mutual
theorem depth_luaToResp_le (q : Quirks) (v : LuaVal) : (luaToResp q v).depth ≤ nest v + 1 := by
  cases v with
  | table xs =>
    have := depthList_luaToRespList_le q xs
    simp only [luaToResp, nest]
    split
    · exact Nat.le_add_left ..
    · exact Nat.add_le_add_right this 1
  | bool b => cases b <;> simp only [luaToResp] <;> (try split) <;> exact Nat.le_refl 1
  | num n k => simp only [luaToResp]; split <;> (try split) <;> exact Nat.le_refl 1
  | errTable m => simp only [luaToResp]; split <;> (try split) <;> exact Nat.le_refl 1
  | statusTable m => simp only [luaToResp]; split <;> (try split) <;> exact Nat.le_refl 1
  | _ => exact Nat.le_refl 1
theorem depthList_luaToRespList_le (q : Quirks) (xs : List LuaVal) : depthList (luaToRespList q xs) ≤ nestList xs := by
  cases xs with
  | nil => exact Nat.le_refl 0
  | cons v t =>
    have h1 := depth_luaToResp_le q v
    have h2 := depthList_luaToRespList_le q t
    by_cases hn : v.isNil = true
    · simp only [luaToRespList, nestList, hn, if_true]
      exact Nat.le_refl 0
    · simp only [luaToRespList, nestList, hn, Bool.false_eq_true, if_false, depthList]
      omega
end

theorem evalB_store (q : Quirks) (kq : KS.Quirks) (limit : Nat) (s : KS.Store) (db now : Nat) (keys argv : List Bytes) (p : Program) :
    (evalB q kq limit s db now keys argv p).1 = (eval q kq s db now keys argv p).1 := by
  unfold evalB eval
  split
  · rfl
  · split <;> rfl

end Ferrous.Lua
