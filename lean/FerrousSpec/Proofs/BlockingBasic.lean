/-
  Blocking pops — list primitives, what each state primitive leaves alone, and the induction principle of the
  machine: every handler, drain and event is a composition of a dozen micro-operations (`WakeSteps`, `Steps`), so a
  reflexive, transitive relation that each of them respects holds between a state and its successor.  First uses:
  the accounting invariant `pushed ~ delivered ++ lost ++ store` and the facts about `gone` / `peerClosed` /
  `blocked` that hold for every quirk setting.
-/
import FerrousSpec.Model.Blocking
namespace Ferrous.Blk

theorem popFirst_some {α : Type} {p : α → Bool} : ∀ {l : List α} {x : α} {l' : List α},
    popFirst p l = some (x, l') →
    ∃ a b, l = a ++ x :: b ∧ l' = a ++ b ∧ p x = true ∧ ∀ y ∈ a, p y = false := by
  intro l
  induction l with
  | nil => intro x l' h; simp [popFirst] at h
  | cons z r ih =>
    intro x l' h
    unfold popFirst at h
    by_cases hz : p z = true
    · simp only [hz, if_true, Option.some.injEq, Prod.mk.injEq] at h
      obtain ⟨rfl, rfl⟩ := h
      exact ⟨[], r, rfl, rfl, hz, by simp⟩
    · simp only [hz] at h
      cases hr : popFirst p r with
      | none => simp [hr] at h
      | some yr =>
        obtain ⟨y, r'⟩ := yr
        simp only [hr] at h
        obtain ⟨rfl, rfl⟩ := h
        obtain ⟨a, b, h1, h2, h3, h4⟩ := ih hr
        refine ⟨z :: a, b, by simp [h1], by simp [h2], h3, ?_⟩
        intro w hw
        cases hw with
        | head => simpa using hz
        | tail _ hw' => exact h4 w hw'

theorem sublist_remove {α : Type} (a b : List α) (e : α) : (a ++ b).Sublist (a ++ e :: b) :=
  (List.Sublist.refl a).append (List.sublist_cons_self e b)

theorem popFirst_none {α : Type} {p : α → Bool} : ∀ {l : List α},
    popFirst p l = none → ∀ y ∈ l, p y = false := by
  intro l
  induction l with
  | nil => intro _ y hy; cases hy
  | cons z r ih =>
    intro h y hy
    unfold popFirst at h
    by_cases hz : p z = true
    · simp [hz] at h
    · simp only [hz] at h
      cases hr : popFirst p r with
      | some yr => simp [hr] at h
      | none =>
        cases hy with
        | head => simpa using hz
        | tail _ hy' => exact ih hr y hy'

theorem popLast_some {α : Type} {p : α → Bool} {l : List α} {x : α} {l' : List α}
    (h : popLast p l = some (x, l')) :
    ∃ a b, l = a ++ x :: b ∧ l' = a ++ b ∧ p x = true ∧ ∀ y ∈ b, p y = false := by
  unfold popLast at h
  cases hr : popFirst p l.reverse with
  | none => simp [hr] at h
  | some yr =>
    obtain ⟨y, r⟩ := yr
    simp only [hr, Option.some.injEq, Prod.mk.injEq] at h
    obtain ⟨rfl, rfl⟩ := h
    obtain ⟨a, b, h1, h2, h3, h4⟩ := popFirst_some hr
    refine ⟨b.reverse, a.reverse, ?_, ?_, h3, ?_⟩
    · have := congrArg List.reverse h1
      simpa using this
    · simp [h2]
    · intro w hw; exact h4 w (by simpa using hw)

theorem popLast_none {α : Type} {p : α → Bool} {l : List α}
    (h : popLast p l = none) : ∀ y ∈ l, p y = false := by
  unfold popLast at h
  cases hr : popFirst p l.reverse with
  | some yr => simp [hr] at h
  | none =>
    intro y hy
    exact popFirst_none hr y (by simpa using hy)

theorem keyIs_iff {α : Type} {k : Key} {e : Key × α} : keyIs k e = true ↔ e.1 = k := by
  simp [keyIs]

theorem keyIs_false_iff {α : Type} {k : Key} {e : Key × α} : keyIs k e = false ↔ e.1 ≠ k := by
  simp [keyIs]

theorem popElem_some {op : Op} {k : Key} {st st' : List (Key × Elem)} {e : Key × Elem}
    (h : popElem op k st = some (e, st')) :
    ∃ a b, st = a ++ e :: b ∧ st' = a ++ b ∧ e.1 = k := by
  cases op with
  | left =>
    obtain ⟨a, b, h1, h2, h3, _⟩ := popFirst_some (p := keyIs k) h
    exact ⟨a, b, h1, h2, keyIs_iff.mp h3⟩
  | right =>
    obtain ⟨a, b, h1, h2, h3, _⟩ := popLast_some (p := keyIs k) h
    exact ⟨a, b, h1, h2, keyIs_iff.mp h3⟩

theorem popElem_none {op : Op} {k : Key} {st : List (Key × Elem)}
    (h : popElem op k st = none) : ∀ y ∈ st, y.1 ≠ k := by
  intro y hy
  cases op with
  | left => exact keyIs_false_iff.mp (popFirst_none (p := keyIs k) h y hy)
  | right => exact keyIs_false_iff.mp (popLast_none (p := keyIs k) h y hy)

theorem popElem_perm {op : Op} {k : Key} {st st' : List (Key × Elem)} {e : Key × Elem}
    (h : popElem op k st = some (e, st')) : st.Perm (e :: st') := by
  obtain ⟨a, b, rfl, rfl, _⟩ := popElem_some h
  exact List.perm_middle

theorem firstNonEmpty_some {op : Op} {st st' : List (Key × Elem)} {e : Key × Elem} :
    ∀ {keys : List Key}, firstNonEmpty op st keys = some (e, st') →
      ∃ k, k ∈ keys ∧ popElem op k st = some (e, st') := by
  intro keys
  induction keys with
  | nil => intro h; simp [firstNonEmpty] at h
  | cons k ks ih =>
    intro h
    unfold firstNonEmpty at h
    cases hp : popElem op k st with
    | some r =>
      simp only [hp, Option.some.injEq] at h
      subst h
      exact ⟨k, by simp, hp⟩
    | none =>
      simp only [hp] at h
      obtain ⟨k', hk', h'⟩ := ih h
      exact ⟨k', by simp [hk'], h'⟩

theorem firstNonEmpty_none {op : Op} {st : List (Key × Elem)} :
    ∀ {keys : List Key}, firstNonEmpty op st keys = none → ∀ k ∈ keys, popElem op k st = none := by
  intro keys
  induction keys with
  | nil => intro _ k hk; cases hk
  | cons k ks ih =>
    intro h k' hk'
    unfold firstNonEmpty at h
    cases hp : popElem op k st with
    | some r => simp [hp] at h
    | none =>
      simp only [hp] at h
      cases hk' with
      | head => exact hp
      | tail _ hk'' => exact ih h k' hk''

theorem firstNonEmpty_single (op : Op) (st : List (Key × Elem)) (k : Key) :
    firstNonEmpty op st [k] = popElem op k st := by
  simp only [firstNonEmpty]
  cases popElem op k st <;> rfl

@[simp] theorem setConn_store (s : State) (c : Conn) (f) : (setConn s c f).store = s.store := rfl
@[simp] theorem setConn_registry (s : State) (c : Conn) (f) : (setConn s c f).registry = s.registry := rfl
@[simp] theorem setConn_wakeQ (s : State) (c : Conn) (f) : (setConn s c f).wakeQ = s.wakeQ := rfl
@[simp] theorem setConn_out (s : State) (c : Conn) (f) : (setConn s c f).out = s.out := rfl
@[simp] theorem setConn_pushed (s : State) (c : Conn) (f) : (setConn s c f).pushed = s.pushed := rfl
@[simp] theorem setConn_lost (s : State) (c : Conn) (f) : (setConn s c f).lost = s.lost := rfl
theorem setConn_conns (s : State) (c : Conn) (f) (c' : Conn) :
    (setConn s c f).conns c' = if c' = c then f (s.conns c') else s.conns c' := rfl

theorem setConn_conns_ne (s : State) (c : Conn) (f) {c' : Conn} (h : c' ≠ c) : (setConn s c f).conns c' = s.conns c' := by
  rw [setConn_conns, if_neg h]

theorem setConn_conns_self (s : State) (c : Conn) (f) : (setConn s c f).conns c = f (s.conns c) := by
  rw [setConn_conns, if_pos rfl]

theorem setBlocked_eq (s : State) (c : Conn) (b) : setBlocked s c b = { s with conns := (setBlocked s c b).conns } := by
  unfold setBlocked; split <;> rfl

@[simp] theorem setBlocked_store (s : State) (c : Conn) (b) : (setBlocked s c b).store = s.store := by rw [setBlocked_eq]
@[simp] theorem setBlocked_registry (s : State) (c : Conn) (b) : (setBlocked s c b).registry = s.registry := by rw [setBlocked_eq]
@[simp] theorem setBlocked_wakeQ (s : State) (c : Conn) (b) : (setBlocked s c b).wakeQ = s.wakeQ := by rw [setBlocked_eq]
@[simp] theorem setBlocked_out (s : State) (c : Conn) (b) : (setBlocked s c b).out = s.out := by rw [setBlocked_eq]
@[simp] theorem setBlocked_pushed (s : State) (c : Conn) (b) : (setBlocked s c b).pushed = s.pushed := by rw [setBlocked_eq]
@[simp] theorem setBlocked_lost (s : State) (c : Conn) (b) : (setBlocked s c b).lost = s.lost := by rw [setBlocked_eq]

theorem setBlocked_conns_ne (s : State) (c : Conn) (b) (c' : Conn) (h : c' ≠ c) :
    (setBlocked s c b).conns c' = s.conns c' := by
  unfold setBlocked; split
  · rfl
  · exact setConn_conns_ne _ _ _ h

theorem setBlocked_blocked_self (s : State) (c : Conn) (b) (h : c ≠ 0) :
    ((setBlocked s c b).conns c).blocked = b := by
  unfold setBlocked; rw [if_neg h, setConn_conns_self]

/-- Whatever the connection, `setBlocked` touches no field of it but `blocked`. -/
theorem setBlocked_conns (s : State) (c : Conn) (b) (c' : Conn) :
    (setBlocked s c b).conns c' = s.conns c' ∨ (setBlocked s c b).conns c' = { s.conns c' with blocked := b } := by
  unfold setBlocked; split
  · exact .inl rfl
  · rw [setConn_conns]; split
    · exact .inr rfl
    · exact .inl rfl

@[simp] theorem setBlocked_gone (s : State) (c : Conn) (b) (c' : Conn) :
    ((setBlocked s c b).conns c').gone = (s.conns c').gone := by
  rcases setBlocked_conns s c b c' with h | h <;> rw [h]

@[simp] theorem setBlocked_peerClosed (s : State) (c : Conn) (b) (c' : Conn) :
    ((setBlocked s c b).conns c').peerClosed = (s.conns c').peerClosed := by
  rcases setBlocked_conns s c b c' with h | h <;> rw [h]

theorem emit_eq (s : State) (c : Conn) (r : Reply) :
    emit s c r = { s with out := (emit s c r).out, lost := (emit s c r).lost } := by
  unfold emit; split
  · split <;> rfl
  · rfl

@[simp] theorem emit_store (s : State) (c : Conn) (r) : (emit s c r).store = s.store := by rw [emit_eq]
@[simp] theorem emit_registry (s : State) (c : Conn) (r) : (emit s c r).registry = s.registry := by rw [emit_eq]
@[simp] theorem emit_wakeQ (s : State) (c : Conn) (r) : (emit s c r).wakeQ = s.wakeQ := by rw [emit_eq]
@[simp] theorem emit_conns (s : State) (c : Conn) (r) : (emit s c r).conns = s.conns := by rw [emit_eq]
@[simp] theorem emit_pushed (s : State) (c : Conn) (r) : (emit s c r).pushed = s.pushed := by rw [emit_eq]

theorem emit_open {s : State} {c : Conn} (h : (s.conns c).peerClosed = false) (r : Reply) :
    emit s c r = { s with out := s.out ++ [(c, r)] } := by
  unfold emit; rw [h]; rfl

/-- A reply that carries no element changes `out` at most (whatever the state of the peer). -/
theorem emit_plain (s : State) (c : Conn) {r : Reply} (hr : r.elem? = none) : ∃ o, emit s c r = { s with out := o } := by
  unfold emit
  split
  · exact ⟨s.out, by rw [hr]⟩
  · exact ⟨_, rfl⟩

theorem notify_eq (k : Key) (s : State) :
    notify k s = { s with registry := (notify k s).registry, wakeQ := (notify k s).wakeQ } := by
  unfold notify; split <;> rfl

@[simp] theorem notify_store (k : Key) (s : State) : (notify k s).store = s.store := by rw [notify_eq]
@[simp] theorem notify_out (k : Key) (s : State) : (notify k s).out = s.out := by rw [notify_eq]
@[simp] theorem notify_pushed (k : Key) (s : State) : (notify k s).pushed = s.pushed := by rw [notify_eq]
@[simp] theorem notify_lost (k : Key) (s : State) : (notify k s).lost = s.lost := by rw [notify_eq]
@[simp] theorem notify_conns (k : Key) (s : State) : (notify k s).conns = s.conns := by rw [notify_eq]

/-- The two outcomes of `notify_key_ready`: no waiter on the key, or its first waiter `e` becomes a wake-up request. -/
theorem notify_cases (k : Key) (s : State) :
    (popFirst (keyIs k) s.registry = none ∧ notify k s = s) ∨
    ∃ a e b, s.registry = a ++ e :: b ∧ e.1 = k ∧ (∀ y ∈ a, y.1 ≠ k) ∧
      notify k s = { s with registry := a ++ b, wakeQ := s.wakeQ ++ [{ conn := e.2.conn, key := k, op := e.2.op }] } := by
  unfold notify
  split
  · next hp => exact .inl ⟨hp, rfl⟩
  · next e reg' hp =>
    obtain ⟨a, b, h1, rfl, h3, h4⟩ := popFirst_some hp
    exact .inr ⟨a, e, b, h1, keyIs_iff.mp h3, fun y hy => keyIs_false_iff.mp (h4 y hy), rfl⟩

theorem wakeOne_nil (q : Quirks) (s : State) (h : s.wakeQ = []) : wakeOne q s = s := by
  unfold wakeOne; rw [h]

theorem iter_wakeOne_nil (q : Quirks) : ∀ n s, s.wakeQ = [] → iter (wakeOne q) n s = s
  | 0, _, _ => rfl
  | n + 1, s, h => by simp only [iter]; rw [wakeOne_nil q s h]; exact iter_wakeOne_nil q n s h

theorem expireOne_wakeQ (now : Nat) (s : State) : (expireOne now s).wakeQ = s.wakeQ := by
  unfold expireOne; split
  · rfl
  · unfold timeoutConn; split <;> simp

theorem iter_expireOne_wakeQ (now : Nat) : ∀ n s, (iter (expireOne now) n s).wakeQ = s.wakeQ
  | 0, _ => rfl
  | n + 1, s => (iter_expireOne_wakeQ now n _).trans (expireOne_wakeQ now s)

/-- `f` touches only the transaction fields of a connection (`inTx`, `queue`, `pending`, `unread`). -/
def TxOnly (f : ConnSt → ConnSt) : Prop :=
  ∀ cs, (f cs).blocked = cs.blocked ∧ (f cs).gone = cs.gone ∧ (f cs).peerClosed = cs.peerClosed

/-- What `wake_client` and the deadline scan are made of: a relation that is reflexive, transitive and holds across
    each of these operations holds across `wakeOne`, `expireOne`, `serveKey` and their iterations. -/
structure WakeSteps (R : State → State → Prop) : Prop where
  refl : ∀ s, R s s
  trans : ∀ {s t u}, R s t → R t u → R s u
  unblock : ∀ s c, R s (setBlocked s c none)
  emit : ∀ s c r, r.elem? = none → R s (emit s c r)
  /-- an element leaves its list and is sent to a client -/
  deliver : ∀ s c r e a b, r.elem? = some e → s.store = a ++ e :: b → R s (Blk.emit { s with store := a ++ b } c r)
  /-- an element leaves its list for nobody -/
  lose : ∀ s e a b, s.store = a ++ e :: b → R s { s with store := a ++ b, lost := s.lost ++ [e] }
  notify : ∀ k s, R s (Blk.notify k s)
  dequeue : ∀ s w rest, s.wakeQ = w :: rest → R s { s with wakeQ := rest }
  unreg : ∀ s r', r'.Sublist s.registry → R s { s with registry := r' }

/-- …and what the handlers add to them. -/
structure Steps (R : State → State → Prop) : Prop extends WakeSteps R where
  tx : ∀ s c f, TxOnly f → R s (setConn s c f)
  block : ∀ s c b, R s (setBlocked s c (some b))
  push : ∀ s op k vs, R s { s with store := pushElems op k vs s.store, pushed := s.pushed ++ vs.map fun v => (k, v) }
  register : ∀ s new, R s { s with registry := s.registry ++ new }

section
variable {R : State → State → Prop}

theorem steps_iter (h : WakeSteps R) {f : State → State} (hf : ∀ s, R s (f s)) : ∀ n s, R s (iter f n s)
  | 0, s => h.refl s
  | n + 1, s => h.trans (hf s) (steps_iter h hf n (f s))

/-- `wake_client` once its request `w` is off the queue. -/
theorem steps_wakeOne_cons (h : WakeSteps R) (q : Quirks) {s : State} {w : Wake} {rest : List Wake}
    (hw : s.wakeQ = w :: rest) : R { s with wakeQ := rest } (wakeOne q s) := by
  have hn : ∀ t : State, R t (if t.store.any (keyIs w.key) then Blk.notify w.key t else t) := fun t => by
    split
    · exact h.notify _ _
    · exact h.refl _
  unfold wakeOne
  rw [hw]
  dsimp only
  split
  · exact hn _
  split
  · exact h.trans (h.trans (h.unblock _ _) (h.unreg _ _ List.filter_sublist)) (hn _)
  split
  · exact h.refl _
  · next e st' hp =>
    obtain ⟨a, b, h1, rfl, _⟩ := popElem_some hp
    split
    · have h2 := h.trans (h.deliver { s with wakeQ := rest } w.conn (.pair e.1 e.2) e a b rfl h1) (h.unblock _ w.conn)
      split
      · exact h.trans h2 (h.unreg _ _ List.filter_sublist)
      · exact h2
    · exact h.lose { s with wakeQ := rest } e a b h1

theorem steps_wakeOne (h : WakeSteps R) (q : Quirks) (s : State) : R s (wakeOne q s) := by
  cases hw : s.wakeQ with
  | nil => rw [wakeOne_nil q s hw]; exact h.refl s
  | cons w rest => exact h.trans (h.dequeue s w rest hw) (steps_wakeOne_cons h q hw)

theorem steps_drain (h : WakeSteps R) (q : Quirks) (s : State) : R s (drain q s) := by
  unfold drain
  split
  · exact steps_iter h (steps_wakeOne h q) _ _
  · exact h.refl s

theorem steps_notifyN (h : WakeSteps R) (k : Key) : ∀ n s, R s (notifyN n k s)
  | 0, s => h.refl s
  | n + 1, s => h.trans (h.notify k s) (steps_notifyN h k n _)

theorem steps_serveKey (h : WakeSteps R) (q : Quirks) (k : Key) : ∀ n s, R s (serveKey q k n s)
  | 0, s => h.refl s
  | n + 1, s => by
    simp only [serveKey]
    split
    · refine h.trans (h.trans (h.notify k s) ?_) (steps_serveKey h q k n _)
      split
      · exact steps_iter h (steps_wakeOne h q) _ _
      · exact steps_wakeOne h q _
    · exact h.refl s

theorem steps_serveKeys (h : WakeSteps R) (q : Quirks) (ks : List Key) : ∀ s, R s (serveKeys q ks s) := by
  unfold serveKeys
  induction ks with
  | nil => exact h.refl
  | cons k r ih => intro s; exact h.trans (steps_serveKey h q k _ s) (ih _)

theorem steps_expireOne (h : WakeSteps R) (now : Nat) (s : State) : R s (expireOne now s) := by
  unfold expireOne
  split
  · exact h.refl s
  · next e reg' hp =>
    obtain ⟨a, b, h1, rfl, _, _⟩ := popFirst_some hp
    refine h.trans (h.unreg s _ (h1 ▸ sublist_remove a b e)) ?_
    unfold timeoutConn
    split
    · exact h.trans (h.emit _ _ _ rfl) (h.unblock _ _)
    · exact h.refl _

theorem steps_dataCore (h : Steps R) (q : Quirks) (now : Nat) (c cid : Conn) (s : State) (cmd : Cmd) :
    R s (dataCore q now c cid s cmd) := by
  cases cmd with
  | push op k vs =>
    simp only [dataCore]
    split
    · exact h.emit _ _ _ rfl
    · have h2 := h.trans (h.push s op k vs) (h.emit _ c (.int (listOf (pushElems op k vs s.store) k).length) rfl)
      split
      · exact h2
      · exact h.trans h2 (steps_notifyN h.toWakeSteps k _ _)
  | pop op k =>
    simp only [dataCore]
    split
    · next e st' hp =>
      obtain ⟨a, b, h1, rfl, _⟩ := popElem_some hp
      exact h.deliver s c (.bulk e.1 e.2) e a b rfl h1
    · exact h.emit _ _ _ rfl
  | bpop op keys t =>
    simp only [dataCore]
    split
    · exact h.emit _ _ _ rfl
    · split
      · next e st' hp =>
        obtain ⟨k, _, hp'⟩ := firstNonEmpty_some hp
        obtain ⟨a, b, h1, rfl, _⟩ := popElem_some hp'
        exact h.deliver s c (.pair e.1 e.2) e a b rfl h1
      · split
        · exact h.emit _ _ _ rfl
        · exact h.trans (h.register s _) (h.block _ _ _)
  | multi => exact h.refl s
  | exec => exact h.refl s

theorem steps_dataCmd (h : Steps R) (q : Quirks) (now : Nat) (c cid : Conn) (s : State) (cmd : Cmd) :
    R s (dataCmd q now c cid s cmd) :=
  h.trans (steps_dataCore h q now c cid s cmd) (steps_drain h.toWakeSteps q _)

theorem steps_foldl (h : Steps R) (q : Quirks) (now : Nat) (c cid : Conn) (cmds : List Cmd) :
    ∀ s, R s (cmds.foldl (dataCmd q now c cid) s) := by
  induction cmds with
  | nil => exact h.refl
  | cons cmd r ih => intro s; exact h.trans (steps_dataCmd h q now c cid s cmd) (ih _)

theorem steps_topCmd (h : Steps R) (q : Quirks) (now : Nat) (c : Conn) (s : State) (cmd : Cmd) :
    R s (topCmd q now c s cmd) := by
  have hq : ∀ (f : ConnSt → ConnSt) (r : Reply), TxOnly f → r.elem? = none → R s (Blk.emit (setConn s c f) c r) :=
    fun f r hf hr => h.trans (h.tx s c f hf) (h.emit _ c r hr)
  cases cmd
  case multi =>
    simp only [topCmd]; split
    · exact h.emit _ _ _ rfl
    · exact hq _ _ (fun _ => ⟨rfl, rfl, rfl⟩) rfl
  case exec =>
    simp only [topCmd]; split
    · have h2 := h.trans (hq (fun cs => { cs with inTx := false, queue := [] }) (.arrHdr (s.conns c).queue.length)
        (fun _ => ⟨rfl, rfl, rfl⟩) rfl) (steps_foldl h q now c 0 (s.conns c).queue _)
      split
      · exact h.trans h2 (steps_serveKeys h.toWakeSteps q _ _)
      · exact h2
    · exact h.emit _ _ _ rfl
  all_goals
    simp only [topCmd]; split
    · exact hq _ _ (fun _ => ⟨rfl, rfl, rfl⟩) rfl
    · exact steps_dataCmd h q now c c s _

theorem steps_runBatch (h : Steps R) (q : Quirks) (now : Nat) (c : Conn) (cmds : List Cmd) :
    ∀ s, R s (runBatch q now c cmds s) := by
  induction cmds with
  | nil => exact h.refl
  | cons cmd r ih =>
    intro s
    simp only [runBatch]
    split
    · exact h.trans (steps_topCmd h q now c s cmd) (h.tx _ c _ (fun _ => ⟨rfl, rfl, rfl⟩))
    · exact h.trans (steps_topCmd h q now c s cmd) (ih _)

/-- Hang-ups, CLIENT KILL and reaping rewrite a connection freely: a relation that also allows that holds across every event. -/
theorem steps_step (h : Steps R) (hc : ∀ s c f, R s (setConn s c f)) (q : Quirks) (s : State) (e : Event) :
    R s (step q s e) := by
  cases e
  case wakeups => exact steps_iter h.toWakeSteps (steps_wakeOne h.toWakeSteps q) _ _
  case conn c now cmds =>
    simp only [step]
    split
    · exact h.trans (hc s c _) (steps_runBatch h q now c _ _)
    · split
      · exact h.trans (hc s c _) (steps_runBatch h q now c _ _)
      · exact h.refl s
  case timeouts now => exact steps_iter h.toWakeSteps (steps_expireOne h.toWakeSteps now) _ _
  case reap c =>
    simp only [step]; split
    · exact h.trans (hc s c _) (h.unreg _ _ List.filter_sublist)
    · exact h.refl s
  all_goals
    simp only [step]; split
    · exact hc s _ _
    · exact h.refl s

theorem steps_runFrom (h : Steps R) (hc : ∀ s c f, R s (setConn s c f)) (q : Quirks) (evs : List Event) :
    ∀ s, R s (runFrom q s evs) := by
  unfold runFrom
  induction evs with
  | nil => exact h.refl
  | cons e r ih => intro s; exact h.trans (steps_step h hc q s e) (ih _)

end

/-- Everything that has left a list (handed to a live client, or lost) followed by what is still stored. -/
def total (s : State) : List (Key × Elem) := delivered s ++ s.lost ++ s.store

def Acc (s : State) : Prop := s.pushed.Perm (total s)

theorem Acc_congr {s t : State} (h0 : t.pushed = s.pushed) (h1 : t.out = s.out) (h2 : t.lost = s.lost)
    (h3 : t.store = s.store) (h : Acc s) : Acc t := by
  unfold Acc total delivered; rw [h0, h1, h2, h3]; exact h

theorem total_emit_none {s : State} {c : Conn} {r : Reply} (hr : r.elem? = none) :
    total (emit s c r) = total s := by
  unfold emit
  split
  · rw [hr]
  · simp [total, delivered, List.filterMap_append, hr]

/-- Emitting an element moves it from wherever it was to `delivered` or to `lost`. -/
theorem total_emit_some {s : State} {c : Conn} {r : Reply} {e : Key × Elem} (hr : r.elem? = some e) :
    (total (emit s c r)).Perm (e :: total s) := by
  unfold emit
  split
  · rw [hr]
    show (delivered s ++ (s.lost ++ [e]) ++ s.store).Perm (e :: (delivered s ++ s.lost ++ s.store))
    rw [show delivered s ++ (s.lost ++ [e]) ++ s.store = (delivered s ++ s.lost) ++ e :: s.store by simp]
    exact List.perm_middle
  · simp only [total, delivered, List.filterMap_append, List.filterMap_cons, hr, List.filterMap_nil, List.append_assoc]
    exact List.perm_middle

theorem Acc_pop_emit {s : State} {c : Conn} {r : Reply} {e : Key × Elem} {st' : List (Key × Elem)}
    (hr : r.elem? = some e) (hp : s.store.Perm (e :: st')) (h : Acc s) :
    Acc (emit { s with store := st' } c r) := by
  unfold Acc
  rw [emit_pushed]
  refine (h.trans ?_).trans (total_emit_some hr).symm
  exact (List.Perm.append_left (delivered s ++ s.lost) hp).trans List.perm_middle

theorem Acc_pop_lost {s : State} {e : Key × Elem} {st' : List (Key × Elem)}
    (hp : s.store.Perm (e :: st')) (h : Acc s) :
    Acc { s with store := st', lost := s.lost ++ [e] } := by
  unfold Acc
  refine h.trans ?_
  show (delivered s ++ s.lost ++ s.store).Perm (delivered s ++ (s.lost ++ [e]) ++ st')
  rw [show delivered s ++ (s.lost ++ [e]) ++ st' = (delivered s ++ s.lost) ++ e :: st' by simp]
  exact List.Perm.append_left _ hp

theorem pushElems_perm (op : Op) (k : Key) (vs : List Elem) (st : List (Key × Elem)) :
    (pushElems op k vs st).Perm (st ++ vs.map fun v => (k, v)) := by
  cases op with
  | left =>
    refine List.perm_append_comm.trans (List.Perm.append_left _ ?_)
    rw [List.map_reverse]
    exact List.reverse_perm _
  | right => exact List.Perm.refl _

theorem Acc_push {s : State} (op : Op) (k : Key) (vs : List Elem) (h : Acc s) :
    Acc { s with store := pushElems op k vs s.store, pushed := s.pushed ++ vs.map fun v => (k, v) } := by
  unfold Acc
  show (s.pushed ++ vs.map fun v => (k, v)).Perm (delivered s ++ s.lost ++ pushElems op k vs s.store)
  refine (List.Perm.append_right _ h).trans ?_
  show (delivered s ++ s.lost ++ s.store ++ vs.map fun v => (k, v)).Perm _
  rw [List.append_assoc (delivered s ++ s.lost)]
  exact List.Perm.append_left _ (pushElems_perm op k vs s.store).symm

theorem accSteps : Steps fun s t => Acc s → Acc t where
  refl _ h := h
  trans h₁ h₂ h := h₂ (h₁ h)
  unblock _ _ := Acc_congr (by simp) (by simp) (by simp) (by simp)
  emit _ _ _ hr h := by unfold Acc; rw [emit_pushed, total_emit_none hr]; exact h
  deliver _ _ _ _ _ _ hr h1 := Acc_pop_emit hr (h1 ▸ List.perm_middle)
  lose _ _ _ _ h1 := Acc_pop_lost (h1 ▸ List.perm_middle)
  notify _ _ := Acc_congr (by simp) (by simp) (by simp) (by simp)
  dequeue _ _ _ _ := Acc_congr rfl rfl rfl rfl
  unreg _ _ _ := Acc_congr rfl rfl rfl rfl
  tx _ _ _ _ := Acc_congr rfl rfl rfl rfl
  block _ _ _ := Acc_congr (by simp) (by simp) (by simp) (by simp)
  push _ op k vs := Acc_push op k vs
  register _ _ := Acc_congr rfl rfl rfl rfl

theorem Acc_runFrom (q : Quirks) (evs : List Event) (s : State) : Acc s → Acc (runFrom q s evs) :=
  steps_runFrom accSteps (fun _ _ _ => Acc_congr rfl rfl rfl rfl) q evs s

theorem Acc_init : Acc init := List.Perm.refl []

/-- An element is lost ⇒ the multiset equation of the property fails. -/
theorem not_conserved_of_lost {s : State} (hA : Acc s) (hl : s.lost ≠ []) :
    ¬ s.pushed.Perm (delivered s ++ s.store) := by
  intro h
  have h1 := hA.length_eq
  have h2 := h.length_eq
  unfold total at h1
  simp only [List.length_append] at h1 h2
  exact hl (List.length_eq_zero_iff.mp (by omega))

/-- The wire connection executing a batch exists and its peer is there. -/
def Open (s : State) (c : Conn) : Prop :=
  c ≠ 0 ∧ (s.conns c).gone = false ∧ (s.conns c).peerClosed = false

/-- `t` has the connections of `s`, as alive as they were. -/
def SameLife (s t : State) : Prop :=
  ∀ c, (t.conns c).gone = (s.conns c).gone ∧ (t.conns c).peerClosed = (s.conns c).peerClosed

theorem SameLife.of_conns {s t : State} (h : t.conns = s.conns) : SameLife s t := fun _ => by rw [h]; exact ⟨rfl, rfl⟩

theorem lifeSteps : Steps SameLife where
  refl _ _ := ⟨rfl, rfl⟩
  trans h₁ h₂ c := ⟨(h₂ c).1.trans (h₁ c).1, (h₂ c).2.trans (h₁ c).2⟩
  unblock _ _ _ := ⟨setBlocked_gone .., setBlocked_peerClosed ..⟩
  emit _ _ _ _ := .of_conns (emit_conns ..)
  deliver _ _ _ _ _ _ _ _ := .of_conns (emit_conns ..)
  lose _ _ _ _ _ := .of_conns rfl
  notify _ _ := .of_conns (notify_conns ..)
  dequeue _ _ _ _ := .of_conns rfl
  unreg _ _ _ := .of_conns rfl
  tx s c f hf c' := by
    rw [setConn_conns]; split
    · exact (hf _).2
    · exact ⟨rfl, rfl⟩
  block _ _ _ _ := ⟨setBlocked_gone .., setBlocked_peerClosed ..⟩
  push _ _ _ _ := .of_conns rfl
  register _ _ := .of_conns rfl

theorem SameLife.open {s t : State} (h : SameLife s t) {x : Conn} (ho : Open s x) : Open t x :=
  ⟨ho.1, (h x).1 ▸ ho.2.1, (h x).2 ▸ ho.2.2⟩

theorem Open_dataCmd {q : Quirks} {now : Nat} {c cid : Conn} {s : State} {cmd : Cmd} {x : Conn} (h : Open s x) :
    Open (dataCmd q now c cid s cmd) x := (steps_dataCmd lifeSteps q now c cid s cmd).open h

theorem Open_topCmd {q : Quirks} {now : Nat} {c : Conn} {s : State} {cmd : Cmd} {x : Conn} (h : Open s x) :
    Open (topCmd q now c s cmd) x := (steps_topCmd lifeSteps q now c s cmd).open h

theorem Open_setConn_tx {s : State} {x : Conn} (h : Open s x) (c : Conn) (f : ConnSt → ConnSt) (hf : TxOnly f) :
    Open (setConn s c f) x := (lifeSteps.tx s c f hf).open h

theorem Open_tx {s : State} {x : Conn} (h : Open s x) (c : Conn) (f : ConnSt → ConnSt) (r : Reply) (hf : TxOnly f) :
    Open (emit (setConn s c f) c r) x :=
  (SameLife.of_conns (emit_conns ..)).open (Open_setConn_tx h c f hf)

theorem Open_of_canRun {s : State} {c : Conn} (h : canRun s c = true) : Open s c := by
  simp only [canRun, Bool.and_eq_true, bne_iff_ne, ne_eq, Bool.not_eq_true'] at h
  exact ⟨h.1.1.1, h.1.1.2, h.1.2⟩

/-- No connection becomes blocked, or blocked in another call. -/
def OnlyUnblocks (s t : State) : Prop :=
  ∀ c, (t.conns c).blocked = (s.conns c).blocked ∨ (t.conns c).blocked = none

theorem OnlyUnblocks.of_conns {s t : State} (h : t.conns = s.conns) : OnlyUnblocks s t := fun _ => by rw [h]; exact .inl rfl

theorem unblockSteps : WakeSteps OnlyUnblocks where
  refl _ _ := .inl rfl
  trans h₁ h₂ c := by
    rcases h₂ c with h | h
    · rw [h]; exact h₁ c
    · exact .inr h
  unblock s c c' := by
    rcases setBlocked_conns s c none c' with h | h <;> rw [h]
    · exact .inl rfl
    · exact .inr rfl
  emit _ _ _ _ := .of_conns (emit_conns ..)
  deliver _ _ _ _ _ _ _ _ := .of_conns (emit_conns ..)
  lose _ _ _ _ _ := .of_conns rfl
  notify _ _ := .of_conns (notify_conns ..)
  dequeue _ _ _ _ := .of_conns rfl
  unreg _ _ _ := .of_conns rfl

end Ferrous.Blk
