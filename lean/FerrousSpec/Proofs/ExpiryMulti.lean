/-
  A multi-member write made as ONE storage call is atomic with respect to the deadline; a block of calls under a
  frozen clock happens at one instant.
-/
import FerrousSpec.Proofs.ExpirySweep
namespace Ferrous.Exp
open Ferrous

theorem update_result (c : Cfg) (fn : String) (k : Key) (tag : Tag) (n now : Nat) (s : Shard) :
    (∃ e, (enter c fn now s k).2 = some e ∧ e.tag = tag ∧
        lookup (step c (.update fn k tag n) now s).1.data k = some { e with val := e.val + n } ∧
        (step c (.update fn k tag n) now s).2 = .num (e.val + n)) ∨
    ((enter c fn now s k).2 = none ∧
        lookup (step c (.update fn k tag n) now s).1.data k = some ⟨tag, n, none⟩ ∧
        (step c (.update fn k tag n) now s).2 = .num n) ∨
    (∃ e, (enter c fn now s k).2 = some e ∧ e.tag ≠ tag ∧ (step c (.update fn k tag n) now s).2 = .wrongType ∧
        (step c (.update fn k tag n) now s).1 = (enter c fn now s k).1) := by
  simp only [step]
  generalize enter c fn now s k = r
  obtain ⟨s1, cur⟩ := r
  cases cur with
  | none => right; left; simp [lookup_insert_self]
  | some e =>
    by_cases ht : e.tag = tag
    · left; exact ⟨e, rfl, ht, by simp [ht, lookup_insert_self], by simp [ht]⟩
    · right; right; exact ⟨e, rfl, ht, by simp [ht], by simp [ht]⟩

theorem perMemberRun_live (c : Cfg) (fn : String) (k : Key) (times : List Nat) (s : Shard) (e : Stored)
    (hl : lookup s.data k = some e) (ht : e.tag = .zset) (hv : ∀ t ∈ times, expired t e = false) :
    lookup (perMemberRun c fn k times s).1.data k = some { e with val := e.val + times.length } ∧
    (perMemberRun c fn k times s).2 = times.length := by
  induction times generalizing s e with
  | nil => simp [perMemberRun, hl]
  | cons t r ih =>
    have he := hv t (by simp)
    have hstep : step c (.update fn k .zset 1) t s =
        (⟨insert s.data k { e with val := e.val + 1 }, s.expiring⟩, .num (e.val + 1)) := by
      simp [step, enter_live c fn t s k e hl he, ht]
    have hl' : lookup (⟨insert s.data k { e with val := e.val + 1 }, s.expiring⟩ : Shard).data k = some { e with val := e.val + 1 } :=
      lookup_insert_self _ _ _
    have := ih ⟨insert s.data k { e with val := e.val + 1 }, s.expiring⟩ { e with val := e.val + 1 } hl' ht
      (fun t' h' => by have := hv t' (List.mem_cons_of_mem _ h'); simpa [expired] using this)
    simp only [perMemberRun, hstep]
    refine ⟨?_, by simp [this.2]⟩
    rw [this.1]
    simp only [List.length_cons]
    congr 1
    simp only [Stored.mk.injEq, true_and, and_true]
    omega

/-- every storage call of the block has a lazy test -/
def blockLazy (c : Cfg) : List (Op × Nat) → Bool
  | [] => true
  | (o, _) :: r => lazyOp c o && blockLazy c r

/-- FROZEN CLOCK = ONE INSTANT: a block whose calls all read the clock frozen at its start returns, call by call, what the
    prescribed store returns when the whole block happens at that instant, and leaves the same visible entries. -/
theorem blockRun_frozen_refines (c : Cfg) (t0 : Nat) (ops : List (Op × Nat)) (s : Shard) (d : Db)
    (hl : blockLazy c ops = true) (hn : NodupKeys s.data) (hv : Spec.purge t0 s.data = Spec.purge t0 d) :
    (blockRun c true t0 ops s).2 = (Spec.blockRun t0 ops d).2 ∧
    Spec.purge t0 (blockRun c true t0 ops s).1.data = Spec.purge t0 (Spec.blockRun t0 ops d).1 := by
  induction ops generalizing s d with
  | nil => exact ⟨rfl, hv⟩
  | cons p r ih =>
    obtain ⟨o, t⟩ := p
    simp only [blockLazy, Bool.and_eq_true] at hl
    have href := step_refines c o t0 s hn (Or.inl hl.1)
    have hcg := Spec.step_congr o t0 _ _ hv
    have hv' : Spec.purge t0 (step c o t0 s).1.data = Spec.purge t0 (Spec.step o t0 d).1 := by
      rw [← hcg, ← href.1, purge_idem]
    have := ih (step c o t0 s).1 (Spec.step o t0 d).1 hl.2 (step_nodup c o t0 s hn) hv'
    simp only [blockRun, Spec.blockRun, if_true]
    exact ⟨by rw [href.2, hcg, this.1], this.2⟩

theorem step_frame_view (c : Cfg) (o : Op) (now : Nat) (s : Shard) (k : Key) (hn : NodupKeys s.data) (h : touches o k = false) :
    lookup (Spec.purge now (step c o now s).1.data) k = lookup (Spec.purge now s.data) k := by
  rw [lookup_purge now _ k (step_nodup c o now s hn), lookup_purge now _ k hn, step_frame c o now s k h]

/-- the calls of a block that are not about `k` -/
def blockAvoids (k : Key) : List (Op × Nat) → Bool
  | [] => true
  | (o, _) :: r => !touches o k && blockAvoids k r

theorem blockRun_frozen_frame (c : Cfg) (t0 : Nat) (ops : List (Op × Nat)) (s : Shard) (k : Key) (hn : NodupKeys s.data)
    (ha : blockAvoids k ops = true) :
    lookup (Spec.purge t0 (blockRun c true t0 ops s).1.data) k = lookup (Spec.purge t0 s.data) k ∧
    NodupKeys (blockRun c true t0 ops s).1.data := by
  induction ops generalizing s with
  | nil => exact ⟨rfl, hn⟩
  | cons p r ih =>
    obtain ⟨o, t⟩ := p
    simp only [blockAvoids, Bool.and_eq_true, Bool.not_eq_true'] at ha
    have := ih (step c o t0 s).1 (step_nodup c o t0 s hn) ha.2
    simp only [blockRun, if_true]
    exact ⟨by rw [this.1, step_frame_view c o t0 s k hn ha.1], this.2⟩

/-- SAME ANSWER TWICE: under the frozen clock a lazily checked call that writes nothing, made again after calls that are
    not about its key, returns what it returned the first time. -/
theorem blockRun_reread (c : Cfg) {o : Op} {fn : String} {k : Key} (hs : o.site = some (fn, k)) (t0 : Nat)
    (hro : ∀ cur, dataWrites o t0 cur = []) (hl : lazyOp c o = true) (mid : List (Op × Nat)) (s : Shard)
    (hn : NodupKeys s.data) (ha : blockAvoids k mid = true) :
    (step c o t0 (blockRun c true t0 mid (step c o t0 s).1).1).2 = (step c o t0 s).2 := by
  have h1 := step_refines c o t0 s hn (Or.inl hl)
  have hf := blockRun_frozen_frame c t0 mid (step c o t0 s).1 k (step_nodup c o t0 s hn) ha
  have h2 := step_refines c o t0 _ hf.2 (Or.inl hl)
  have hv : Spec.purge t0 (step c o t0 s).1.data = Spec.purge t0 s.data := by
    rw [h1.1, Spec.step_of_site hs, hro]; rfl
  rw [h2.2, h1.2, Spec.step_of_site hs, Spec.step_of_site hs, hf.1, hv]

end Ferrous.Exp
