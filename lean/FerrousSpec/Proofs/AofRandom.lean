import FerrousSpec.Model.Aof
import FerrousSpec.Proofs.KsAtomic
-- AofNorm: `fun_cases cmdSpop` is used there too, and its auxiliary equations may be generated in one module only
import FerrousSpec.Proofs.AofNorm
namespace Ferrous.Aof
open Ferrous Ferrous.KS

/-! ## A random write logged by its effect: `SPOP key [count]` that took `got` ≡ `SREM key got…`

The tree logs a SPOP by its effect, as the SREM of the members it returned (`Gen.randomByEffect`, `Cfg.byEffect`;
C11 `random_logged_by_effect`).  This is why that is sound: on every database, for every admissible outcome (the
reply is not an error, in particular not the oracle's rejection of an impossible draw), both leave the same database. -/

theorem removeAll_fst (s l : List Bytes) : (removeAll s l).1 = s.filter fun m => !l.contains m := by
  induction l generalizing s with
  | nil =>
    simp only [removeAll, List.contains_nil, Bool.not_false]
    exact (List.filter_eq_self.mpr (fun _ _ => rfl)).symm
  | cons m r ih =>
    unfold removeAll
    by_cases hc : s.contains m = true
    · simp only [hc, if_true]
      rw [ih, List.filter_filter]
      apply List.filter_congr
      intro x _
      simp [Bool.and_comm]
    · simp only [hc, Bool.false_eq_true, if_false]
      rw [ih]
      apply List.filter_congr
      intro x hx
      have hxm : x ≠ m := by
        intro h; subst h
        exact hc (by simpa using hx)
      simp [hxm]

/-- SPOP returns the database it was given — with an error reply, or because nothing was drawn — or takes the drawn
    members out of the set at its key. -/
theorem cmdSpop_cases (db : Db) (args : List Bytes) (obs : Option (List Bytes)) :
    ((cmdSpop db args obs).1 = db ∧ (isErr (cmdSpop db args obs).2 = true ∨ obs.getD [] = [])) ∨
    ∃ k rest xs d, args = k :: rest ∧ lookup db k = some ⟨.set xs, d⟩ ∧
      (cmdSpop db args obs).1 = putColl db k ⟨.set xs, d⟩ (.set (xs.filter fun m => !(obs.getD []).contains m)) := by
  fun_cases cmdSpop db args obs
  case case1 h | case9 h => exact Or.inl ⟨rfl, Or.inr (List.isEmpty_iff.mp h)⟩
  case case3 k xs d hl m hg _ =>
    have hg : obs.getD [] = [m] := hg
    refine Or.inr ⟨k, [], xs, d, rfl, hl, ?_⟩
    rw [hg]
    exact congrArg (fun l => putColl db k _ (.set l)) (List.filter_congr fun x _ => by simp)
  case case11 k c _ _ _ xs d hl _ => exact Or.inr ⟨k, [c], xs, d, rfl, hl, rfl⟩
  all_goals exact Or.inl ⟨rfl, Or.inl rfl⟩

theorem spop_as_srem (db : Db) (k : Bytes) (rest got : List Bytes) (hgot : got ≠ [])
    (hok : isErr (cmdSpop db (k :: rest) (some got)).2 = false) :
    (cmdSpop db (k :: rest) (some got)).1 = (cmdSrem db (k :: got)).1 := by
  rcases cmdSpop_cases db (k :: rest) (some got) with ⟨_, he | he⟩ | ⟨k', _, xs, d, ha, hl, e⟩
  · rw [he] at hok; exact Bool.noConfusion hok
  · exact absurd he hgot
  · cases ha
    obtain ⟨m, ms, rfl⟩ := List.exists_cons_of_ne_nil hgot
    rw [e]
    simp only [cmdSrem, hl, removeAll_fst, Option.getD_some]

theorem isErrReply_eq (f : Frame) : isErrReply f = isErr f := by cases f <;> rfl

theorem insert_lookup_self {db : Db} {k : Bytes} {e : Entry} (h : lookup db k = some e) : KS.insert db k e = db := by
  induction db with
  | nil => simp [lookup] at h
  | cons p t ih =>
    obtain ⟨k', e'⟩ := p
    simp only [lookup] at h
    simp only [KS.insert]
    by_cases hk : k' = k
    · simp only [hk, if_true] at h ⊢
      simp at h
      rw [h]
    · simp only [hk, if_false] at h ⊢
      rw [ih h]

theorem cmdSpop_nodraw (db : Db) (hdb : DbOk db) (args : List Bytes) (obs : Option (List Bytes))
    (h : obs.getD [] = [] ∨ args = []) : (cmdSpop db args obs).1 = db := by
  rcases cmdSpop_cases db args obs with ⟨e, _⟩ | ⟨k, _, xs, d, rfl, hl, e⟩
  · exact e
  · -- nothing drawn: the set is written back as it is, and it is not empty
    rw [e, h.resolve_right (List.cons_ne_nil _ _),
      show xs.filter (fun m => !([] : List Bytes).contains m) = xs from List.filter_eq_self.mpr fun _ _ => rfl]
    have hv := lookup_valOk hdb hl
    simp only [valOk] at hv
    unfold putColl
    cases xs with
    | nil => exact absurd rfl hv.1
    | cons x t => exact insert_lookup_self hl
end Ferrous.Aof
