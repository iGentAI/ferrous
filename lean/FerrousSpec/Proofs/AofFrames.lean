/-
  C11: the file is the RESP encoding of the log.  A command of bulk strings is a well-formed frame within the nesting
  limit, so C20's round trip reads `fileOf cs` back command by command (`readLog_fileOf`, `runWhole_fileOf`) and a
  proper prefix of one more frame asks for more data (`readLog_torn`); byte by byte, what the append sites of the code
  write is `fileOf` of the model's `log` (`fileAfter_eq`).
-/
import FerrousSpec.Model.Aof
import FerrousSpec.Proofs.RespRoundtrip
import FerrousSpec.Proofs.RespStream
namespace Ferrous.Aof
open Ferrous

/-- no argument of 8 EiB, no command of 2^63 arguments (the serializer writes lengths that `parse::<i64>` reads back) -/
def cmdWf (c : List Bytes) : Prop := c.length ≤ 9223372036854775807 ∧ ∀ a ∈ c, a.length ≤ 9223372036854775807

theorem wfList_bulks (c : List Bytes) (h : ∀ a ∈ c, a.length ≤ 9223372036854775807) :
    wfList (c.map .bulk) = true := by
  induction c with
  | nil => simp [wfList]
  | cons a t ih =>
    simp only [List.map_cons, wfList, wf, Bool.and_eq_true, decide_eq_true_eq]
    exact ⟨h a (by simp), ih (fun b hb => h b (by simp [hb]))⟩

theorem wf_cmdFrame (c : List Bytes) (h : cmdWf c) : wf (cmdFrame c) = true := by
  unfold cmdFrame
  simp only [wf, Bool.and_eq_true, decide_eq_true_eq, List.length_map]
  exact ⟨h.1, wfList_bulks c h.2⟩

theorem bulksOf_map (c : List Bytes) : bulksOf (c.map .bulk) = some c := by
  induction c with
  | nil => rfl
  | cons a t ih => simp [bulksOf, ih]

theorem cmdOfFrame_cmdFrame (c : List Bytes) : cmdOfFrame (cmdFrame c) = some c := by
  simp [cmdOfFrame, cmdFrame, bulksOf_map]

theorem serCmd_cons (c : List Bytes) : ∃ t, serCmd c = 42 :: t := by
  unfold serCmd cmdFrame
  rw [ser]
  exact ⟨_, rfl⟩

theorem depthList_bulks (c : List Bytes) : depthList (c.map .bulk) ≤ 1 := by
  induction c with
  | nil => simp [depthList]
  | cons a t ih => simp only [List.map_cons, depthList, Frame.depth]; omega

theorem depth_cmdFrame (c : List Bytes) : (cmdFrame c).depth ≤ maxNesting + 1 := by
  unfold cmdFrame
  have := depthList_bulks c
  simp only [Frame.depth, maxNesting]
  omega

theorem serCmd_length_pos (c : List Bytes) : 0 < (serCmd c).length := by
  obtain ⟨t, ht⟩ := serCmd_cons c
  simp [ht]

theorem fileOf_length (cs : List (List Bytes)) : cs.length ≤ (fileOf cs).length := by
  induction cs with
  | nil => simp [fileOf]
  | cons c t ih =>
    have := serCmd_length_pos c
    simp [fileOf]; omega

theorem fileOf_append (a b : List (List Bytes)) : fileOf (a ++ b) = fileOf a ++ fileOf b := by
  induction a with
  | nil => simp [fileOf]
  | cons c t ih => simp [fileOf, ih]

theorem fileOf_head (cs : List (List Bytes)) : fileOf cs = [] ∨ ∃ t, fileOf cs = 42 :: t := by
  cases cs with
  | nil => left; rfl
  | cons c t =>
    right
    obtain ⟨u, hu⟩ := serCmd_cons c
    exact ⟨u ++ fileOf t, by simp [fileOf, hu]⟩

theorem parseBytes_serCmd (c : List Bytes) (hc : cmdWf c) (rest : Bytes) :
    parseBytes (serCmd c ++ rest) = .ok (cmdFrame c) rest :=
  parseBytes_ser (cmdFrame c) (wf_cmdFrame c hc) (depth_cmdFrame c) rest

theorem readLogF_step (n : Nat) (c : List Bytes) (hc : cmdWf c) (rest : Bytes) :
    readLogF (n + 1) (serCmd c ++ rest) = (c :: (readLogF n rest).1, (readLogF n rest).2) := by
  obtain ⟨t, ht⟩ := serCmd_cons c
  have hne : (serCmd c ++ rest).isEmpty = false := by simp [ht]
  simp only [readLogF, hne, parseBytes_serCmd c hc rest, cmdOfFrame_cmdFrame]
  simp

theorem readLogF_file (cs : List (List Bytes)) (hw : ∀ c ∈ cs, cmdWf c) :
    ∀ n, cs.length < n → ∀ (p : Bytes),
      readLogF n (fileOf cs ++ p) = (cs ++ (readLogF (n - cs.length) p).1, (readLogF (n - cs.length) p).2) := by
  induction cs with
  | nil => intro n hn p; simp [fileOf]
  | cons c t ih =>
    intro n hn p
    cases n with
    | zero => simp at hn
    | succ n =>
      have hc := hw c (by simp)
      have := ih (fun d hd => hw d (by simp [hd])) n (by simp at hn; omega) p
      simp only [fileOf, List.append_assoc]
      rw [readLogF_step n c hc, this]
      simp

theorem readLog_fileOf (cs : List (List Bytes)) (hw : ∀ c ∈ cs, cmdWf c) : readLog (fileOf cs) = (cs, .clean) := by
  unfold readLog
  have hl := fileOf_length cs
  have := readLogF_file cs hw ((fileOf cs).length + 1) (by omega) []
  simp only [List.append_nil] at this
  rw [this]
  have h2 : (fileOf cs).length + 1 - cs.length = ((fileOf cs).length - cs.length) + 1 := by omega
  rw [h2]
  simp [readLogF]

/-- every proper, non-empty prefix of a serialised frame asks for more data -/
theorem proper_prefix_needs (f : Frame) (hw : wf f = true) (hd : f.depth ≤ maxNesting + 1) (p e : Bytes) (hpe : p ++ e = ser f) (he : e ≠ []) :
    parseBytes p = .need := by
  by_cases h : parseBytes p = .need
  · exact h
  · have h1 := parseBytes_append p e h
    have h2 : parseBytes (ser f) = .ok f [] := by
      have := parseBytes_ser f hw hd []
      simpa using this
    rw [hpe, h2] at h1
    cases hp : parseBytes p with
    | need => exact absurd hp h
    | err => simp [hp, Res.ext] at h1
    | ok f' r =>
      simp only [hp, Res.ext, Res.ok.injEq] at h1
      have : r ++ e = [] := h1.2.symm
      simp at this
      exact absurd this.2 he

/-- the file followed by a proper non-empty prefix of one more command: exactly the complete
    commands, then "need more data" -/
theorem readLog_torn (cs : List (List Bytes)) (hw : ∀ c ∈ cs, cmdWf c) (c : List Bytes) (hc : cmdWf c)
    (p e : Bytes) (hpe : p ++ e = serCmd c) (hp : p ≠ []) (he : e ≠ []) :
    readLog (fileOf cs ++ p) = (cs, .torn p) := by
  unfold readLog
  have hl := fileOf_length cs
  have hpl : 0 < p.length := by cases p <;> simp at hp ⊢
  have := readLogF_file cs hw ((fileOf cs ++ p).length + 1) (by simp; omega) p
  rw [this]
  have h2 : (fileOf cs ++ p).length + 1 - cs.length = ((fileOf cs ++ p).length - cs.length) + 1 := by simp; omega
  rw [h2]
  have hneed := proper_prefix_needs (cmdFrame c) (wf_cmdFrame c hc) (depth_cmdFrame c) p e hpe he
  have hne : p.isEmpty = false := by cases p <;> simp at hp ⊢
  simp [readLogF, hne, hneed]

theorem parserParse_cmd (c : List Bytes) (hc : cmdWf c) (rest : Bytes) :
    parserParse true (serCmd c ++ rest) = (.frame (cmdFrame c), rest.dropWhile isNl) := by
  obtain ⟨t, ht⟩ := serCmd_cons c
  have hp := parseBytes_serCmd c hc rest
  rw [ht, List.cons_append] at hp
  -- the entry starts with `*`: no white space to skip, no inline `PING`
  simp [parserParse, ht, isWs, stripPing, pingBytes, isPingProperPrefix, hp]

theorem drainF_file (cs : List (List Bytes)) (hw : ∀ c ∈ cs, cmdWf c) :
    ∀ n, cs.length < n → drainF true n (fileOf cs) = (cs.map fun c => .frame (cmdFrame c), [], false) := by
  induction cs with
  | nil =>
    intro n hn
    cases n with
    | zero => simp at hn
    | succ n => simp [fileOf, drainF, parserParse]
  | cons c t ih =>
    intro n hn
    cases n with
    | zero => simp at hn
    | succ n =>
      have hc := hw c (by simp)
      have hpp := parserParse_cmd c hc (fileOf t)
      have hrest : (fileOf t).dropWhile isNl = fileOf t := by
        rcases fileOf_head t with h | ⟨u, hu⟩
        · simp [h]
        · simp [hu, isNl]
      rw [hrest] at hpp
      simp only [fileOf]
      rw [drainF_frame hpp, ih (fun d hd => hw d (by simp [hd])) n (by simp at hn; omega)]
      simp

theorem runWhole_fileOf (cs : List (List Bytes)) (hw : ∀ c ∈ cs, cmdWf c) :
    runWhole true (fileOf cs) = cs.map fun c => .frame (cmdFrame c) := by
  unfold runWhole drain
  have hl := fileOf_length cs
  rw [drainF_file cs hw _ (by omega)]

/-- the commands of a history that reached `process_normal_command`, in order -/
def rawsOf : List Ev → List (List Bytes)
  | [] => []
  | .cmd _ _ _ raw :: h => raw :: rawsOf h
  | .wake _ _ _ _ :: h => rawsOf h
  | .expire _ _ _ :: h => rawsOf h

theorem logEv_code_cmd (w : List String) (st : LogSt) (ve : Bool) (now : Nat) (obs : Option (List Bytes)) (raw : List Bytes) :
    (logEv (Cfg.code w) st (.cmd ve now obs raw)).1 = if isWrite w (nameOf raw) = true then [raw] else [] := by
  simp only [logEv, Cfg.code, entryOf, selFor, Bool.false_eq_true, false_and, if_false, List.nil_append]
  split <;> rfl

/-- the code's log is the sub-list of those commands whose name is in the table: each once, in execution order -/
theorem log_code_eq_filter (w : List String) (st : LogSt) (h : List Ev) :
    logFrom (Cfg.code w) st h = (rawsOf h).filter fun raw => isWrite w (nameOf raw) := by
  induction h generalizing st with
  | nil => rfl
  | cons ev t ih =>
    cases ev with
    | cmd ve now obs raw =>
      rw [logFrom, logEv_code_cmd, ih, rawsOf, List.filter_cons]
      split <;> simp
    | wake db now left key => simpa [logFrom, logEv, Cfg.code, rawsOf] using ih st
    | expire db now key => simpa [logFrom, logEv, Cfg.code, rawsOf] using ih st

/-- one `append_command_in_db` writes the entries `selFor … ++ [cmd]` and moves `last_db` as the tracking says -/
theorem appendInDb_eq (cfg : Cfg) (st : LogSt) (file : Bytes) (d : Nat) (cmd : List Bytes) :
    Code.appendInDb cfg.logSelect st.file file d cmd =
      (file ++ fileOf (selFor cfg st d ++ [cmd]), fileAfter cfg st d) := by
  unfold Code.appendInDb selFor fileAfter
  by_cases h : cfg.logSelect = true ∧ st.file ≠ d
  · simp [h, fileOf]
  · simp only [h, if_false]
    simp [fileOf]

theorem fileStep_eq (w : List String) (sel wake eff exp : Bool) (hwf : isWrite w "SELECT" = false) (s : Code.FileSt) (ev : Ev) :
    (Code.fileStep w sel wake eff exp s ev).file = s.file ++ fileOf (logEv (Cfg.treeX w sel wake eff exp) ⟨s.conn, s.last⟩ ev).1 ∧
    (⟨(Code.fileStep w sel wake eff exp s ev).conn, (Code.fileStep w sel wake eff exp s ev).last⟩ : LogSt) =
      (logEv (Cfg.treeX w sel wake eff exp) ⟨s.conn, s.last⟩ ev).2 := by
  cases ev with
  | cmd ve now obs raw =>
    by_cases hw : isWrite w (nameOf raw) = true
    · have hs : nameOf raw ≠ "SELECT" := by
        intro h; rw [h, hwf] at hw; exact absurd hw (by decide)
      cases he : entryOf eff raw obs with
      | none => simp [Code.fileStep, logEv, hw, he, Cfg.treeX, fileOf]
      | some e =>
        have := appendInDb_eq (Cfg.treeX w sel wake eff exp) ⟨s.conn, s.last⟩ s.file s.conn e
        simp only [Cfg.treeX] at this
        simp only [Code.fileStep, logEv, hw, if_true, hs, if_false, he, Cfg.treeX, this]
        simp
    · have hw' : isWrite w (nameOf raw) = false := by simpa using hw
      simp [Code.fileStep, logEv, hw', Cfg.treeX, fileOf]
  | wake db now left key =>
    cases wake with
    | false => simp [Code.fileStep, logEv, Cfg.treeX, fileOf]
    | true =>
      have := appendInDb_eq (Cfg.treeX w sel true eff exp) ⟨s.conn, s.last⟩ s.file db (popCmd left key)
      simp only [Cfg.treeX] at this
      simp only [Code.fileStep, logEv, if_true, Cfg.treeX, this]
      simp
  | expire db now key =>
    cases exp with
    | false => simp [Code.fileStep, logEv, Cfg.treeX, fileOf]
    | true =>
      have := appendInDb_eq (Cfg.treeX w sel wake eff true) ⟨s.conn, s.last⟩ s.file db (delCmd key)
      simp only [Cfg.treeX] at this
      simp only [Code.fileStep, logEv, if_true, Cfg.treeX, this]
      simp

theorem fileAfter_eq_from (w : List String) (sel wake eff exp : Bool) (hwf : isWrite w "SELECT" = false) (s : Code.FileSt) (h : List Ev) :
    (Code.fileAfter w sel wake eff exp s h).file = s.file ++ fileOf (logFrom (Cfg.treeX w sel wake eff exp) ⟨s.conn, s.last⟩ h) := by
  induction h generalizing s with
  | nil => simp [Code.fileAfter, logFrom, fileOf]
  | cons ev t ih =>
    have hstep := fileStep_eq w sel wake eff exp hwf s ev
    have := ih (Code.fileStep w sel wake eff exp s ev)
    simp only [Code.fileAfter, List.foldl_cons] at this ⊢
    rw [this, hstep.1, hstep.2, logFrom, fileOf_append, List.append_assoc]

theorem fileAfter_eq (w : List String) (sel wake eff exp : Bool) (hwf : (Cfg.treeX w sel wake eff exp).wf = true) (h : List Ev) :
    (Code.fileAfter w sel wake eff exp {} h).file = fileOf (log (Cfg.treeX w sel wake eff exp) h) := by
  have hw : isWrite w "SELECT" = false := by simpa [Cfg.wf, Cfg.treeX, isWrite] using hwf
  simpa [log] using fileAfter_eq_from w sel wake eff exp hw {} h

end Ferrous.Aof
