/-
  C10, part 3: files and save runs.  `Inv` is the invariant of the machine while at most one save
  runs (which the repaired server enforces, and the unrepaired one as long as no SAVE is issued
  during a background save): the dump name never points to a file that is being written.
  `InvL` carries it to the machine with the save lock (`runL`): the lock holder satisfies `Inv`, the
  waiting savers have made no file operation yet — no hypothesis on the schedule.
-/
import FerrousSpec.Model.RdbSave
namespace Ferrous.RdbSave
open Ferrous Ferrous.Rdb

theorem writeAt_end (f b : Bytes) : writeAt f f.length b = f ++ b := by
  simp [writeAt, List.drop_eq_nil_of_le]

@[simp] theorem set_data_same (fs : FS) (k : Nat) (b : Bytes) : (fs.set k b).data k = b := by simp [FS.set]
theorem set_data_ne (fs : FS) (k : Nat) (b : Bytes) (i : Nat) (h : i ≠ k) : (fs.set k b).data i = fs.data i := by
  simp [FS.set, h]
@[simp] theorem set_dump (fs : FS) (k : Nat) (b : Bytes) : (fs.set k b).dump = fs.dump := rfl
@[simp] theorem set_tmp (fs : FS) (k : Nat) (b : Bytes) : (fs.set k b).tmp = fs.tmp := rfl
@[simp] theorem set_next (fs : FS) (k : Nat) (b : Bytes) : (fs.set k b).next = fs.next := rfl

theorem set_set (fs : FS) (k : Nat) (a b : Bytes) : (fs.set k a).set k b = fs.set k b := by
  simp only [FS.set, FS.mk.injEq, true_and, and_true]
  funext i
  split <;> rfl

theorem set_self (fs : FS) (k : Nat) : fs.set k (fs.data k) = fs := by
  obtain ⟨d, t, data, n⟩ := fs
  simp only [FS.set, FS.mk.injEq, true_and, and_true]
  funext i
  split <;> simp [*]

theorem dumpContent_of {fs : FS} {i : Nat} (h : fs.dump = some i) : dumpContent fs = some (fs.data i) :=
  congrArg (Option.map fs.data) h

theorem dumpContent_set {fs : FS} {k : Nat} (h : fs.dump ≠ some k) (b : Bytes) :
    dumpContent (fs.set k b) = dumpContent fs := by
  unfold dumpContent
  rw [set_dump]
  cases hd : fs.dump with
  | none => rfl
  | some i => exact congrArg some (set_data_ne fs k b i fun e => h (by rw [hd, e]))

theorem tmpContent_set {fs : FS} {k : Nat} (h : fs.tmp = some k) (b : Bytes) : tmpContent (fs.set k b) = some b := by
  unfold tmpContent
  rw [set_tmp, h]
  exact congrArg some (set_data_same fs k b)

/-- the names are sane: dump and tmp are different files, both already allocated -/
structure NamesOK (fs : FS) : Prop where
  distinct : ∀ i j, fs.dump = some i → fs.tmp = some j → i ≠ j
  dumplt : ∀ i, fs.dump = some i → i < fs.next
  tmplt : ∀ j, fs.tmp = some j → j < fs.next

theorem NamesOK.dump_ne_tmp {fs : FS} (h : NamesOK fs) {k : Nat} (hk : fs.tmp = some k) : fs.dump ≠ some k :=
  fun hd => h.distinct k k hd hk rfl

theorem NamesOK.set {fs : FS} (h : NamesOK fs) (k : Nat) (b : Bytes) : NamesOK (fs.set k b) :=
  ⟨h.distinct, h.dumplt, h.tmplt⟩

theorem NamesOK.renamed {fs : FS} (h : NamesOK fs) {k : Nat} (hk : fs.tmp = some k) :
    NamesOK { fs with dump := some k, tmp := none } :=
  ⟨nofun, fun i hi => by cases hi; exact h.tmplt k hk, nofun⟩

/-- `open(tmp)` with create and truncate: the file system afterwards, and the file opened -/
def opened (fs : FS) : FS × Nat :=
  match fs.tmp with
  | some k => (fs.set k [], k)
  | none => ({ (fs.set fs.next []) with tmp := some fs.next, next := fs.next + 1 }, fs.next)

theorem opened_tmp (fs : FS) : (opened fs).1.tmp = some (opened fs).2 := by
  unfold opened
  cases h : fs.tmp with
  | some k => exact h
  | none => rfl

theorem opened_data (fs : FS) : (opened fs).1.data (opened fs).2 = [] := by
  unfold opened
  cases fs.tmp <;> exact set_data_same ..

theorem namesOK_opened {fs : FS} (h : NamesOK fs) : NamesOK (opened fs).1 := by
  unfold opened
  cases ht : fs.tmp with
  | some k => exact h.set k []
  | none =>
    exact ⟨fun i j hi hj => by cases hj; exact Nat.ne_of_lt (h.dumplt i hi),
      fun i hi => Nat.lt_succ_of_lt (h.dumplt i hi), fun j hj => by cases hj; exact Nat.lt_succ_self _⟩

theorem NamesOK.dumpContent_opened {fs : FS} (h : NamesOK fs) : dumpContent (opened fs).1 = dumpContent fs := by
  unfold opened
  cases ht : fs.tmp with
  | some k => exact dumpContent_set (h.dump_ne_tmp ht) []
  | none => exact dumpContent_set (fun hd => Nat.lt_irrefl _ (h.dumplt _ hd)) []

theorem NamesOK.dumpContent_tmpfile {fs : FS} (h : NamesOK fs) (b : Bytes) :
    dumpContent ((opened fs).1.set (opened fs).2 b) = dumpContent fs := by
  rw [dumpContent_set ((namesOK_opened h).dump_ne_tmp (opened_tmp fs)), h.dumpContent_opened]

theorem stepProc_open (s : Sys) (i : Nat) (bg : Bool) (off : Nat) (todo : List Bytes) (fa : Option Nat) (content : Bytes) :
    stepProc s i ⟨bg, none, off, todo, fa, content⟩ =
      { s with fs := (opened s.fs).1, procs := setNth s.procs i ⟨bg, some (opened s.fs).2, 0, todo, fa, content⟩ } := by
  unfold stepProc opened
  cases s.fs.tmp <;> rfl

theorem stepProc_write {s : Sys} {i : Nat} {bg : Bool} {k off : Nat} {c : Bytes} {rest : List Bytes} {fa : Option Nat}
    {content : Bytes} (h : fa ≠ some 1) :
    stepProc s i ⟨bg, some k, off, c :: rest, fa, content⟩ =
      { s with fs := s.fs.set k (writeAt (s.fs.data k) off c),
               procs := setNth s.procs i ⟨bg, some k, off + c.length, rest, fa.map (· - 1), content⟩ } :=
  if_neg h

theorem stepProc_fail (s : Sys) (i : Nat) (bg : Bool) (k off : Nat) (c : Bytes) (rest : List Bytes) (content : Bytes) :
    stepProc s i ⟨bg, some k, off, c :: rest, some 1, content⟩ =
      finish s i ⟨bg, some k, off, c :: rest, some 1, content⟩ s.fs .failed :=
  rfl

theorem stepProc_rename {s : Sys} {i : Nat} {bg : Bool} {k off : Nat} {fa : Option Nat} {content : Bytes} {j : Nat}
    (h : s.fs.tmp = some j) :
    stepProc s i ⟨bg, some k, off, [], fa, content⟩ =
      finish s i ⟨bg, some k, off, [], fa, content⟩ { s.fs with dump := some j, tmp := none } .saved := by
  simp only [stepProc, h]

/-- another save has renamed the temporary file away -/
theorem stepProc_lost {s : Sys} {i : Nat} {bg : Bool} {k off : Nat} {fa : Option Nat} {content : Bytes}
    (h : s.fs.tmp = none) :
    stepProc s i ⟨bg, some k, off, [], fa, content⟩ = finish s i ⟨bg, some k, off, [], fa, content⟩ s.fs .failed := by
  simp only [stepProc, h]

/-- a running save and its file: before `open` everything is still to do; afterwards the tmp name
    points to its file, which holds exactly what the run has written so far -/
def ProcOK (fs : FS) (p : Proc) : Prop :=
  match p.ino with
  | none => p.todo.flatten = p.content
  | some k => fs.tmp = some k ∧ p.off = (fs.data k).length ∧ fs.data k ++ p.todo.flatten = p.content

structure Inv (Good : Bytes → Prop) (s : Sys) : Prop where
  one : s.procs.length ≤ 1
  bgflag : ∀ p ∈ s.procs, p.bg = true → s.flag = true
  flagbg : s.flag = true → ∃ p ∈ s.procs, p.bg = true
  distinct : ∀ i j, s.fs.dump = some i → s.fs.tmp = some j → i ≠ j
  dumplt : ∀ i, s.fs.dump = some i → i < s.fs.next
  tmplt : ∀ j, s.fs.tmp = some j → j < s.fs.next
  procs : ∀ p ∈ s.procs, ProcOK s.fs p ∧ Good p.content
  dump : ∀ i, s.fs.dump = some i → Good (s.fs.data i)

variable {Good : Bytes → Prop}

theorem Inv.names {s : Sys} (h : Inv Good s) : NamesOK s.fs := ⟨h.distinct, h.dumplt, h.tmplt⟩

/-- the dump name holds an acceptable file or nothing -/
theorem Inv.dumpContent_good {s : Sys} (h : Inv Good s) (b : Bytes) (hb : dumpContent s.fs = some b) : Good b := by
  unfold dumpContent at hb
  cases hd : s.fs.dump with
  | none => rw [hd] at hb; cases hb
  | some i => rw [hd] at hb; cases hb; exact h.dump i hd

theorem inv_idle {fs : FS} {log : List Outcome} (hn : NamesOK fs) (hd : ∀ b, dumpContent fs = some b → Good b) :
    Inv Good ⟨fs, false, [], log⟩ :=
  ⟨Nat.zero_le 1, nofun, nofun, hn.distinct, hn.dumplt, hn.tmplt, nofun, fun _ hi => hd _ (dumpContent_of hi)⟩

theorem inv_single {fs : FS} {p : Proc} {log : List Outcome} (hn : NamesOK fs) (hp : ProcOK fs p) (hg : Good p.content)
    (hd : ∀ b, dumpContent fs = some b → Good b) : Inv Good ⟨fs, p.bg, [p], log⟩ :=
  ⟨Nat.le_refl 1, fun _ hq hb => by rw [← hb, List.mem_singleton.mp hq], fun hf => ⟨p, List.mem_singleton_self p, hf⟩,
    hn.distinct, hn.dumplt, hn.tmplt, fun _ hq => by rw [List.mem_singleton.mp hq]; exact ⟨hp, hg⟩, fun _ hi => hd _ (dumpContent_of hi)⟩

theorem Inv.flag_eq {fs : FS} {flag : Bool} {p : Proc} {log : List Outcome} (h : Inv Good ⟨fs, flag, [p], log⟩) :
    flag = p.bg := by
  cases hb : p.bg with
  | true => exact h.bgflag p (List.mem_singleton_self p) hb
  | false =>
    refine Bool.eq_false_iff.mpr fun hf => ?_
    obtain ⟨q, hq, hqb⟩ := h.flagbg hf
    cases List.mem_singleton.mp hq
    rw [hb] at hqb
    cases hqb

theorem inv_flag_of_nil {Good : Bytes → Prop} {s : Sys} (h : Inv Good s) (hnil : s.procs = []) : s.flag = false :=
  Bool.eq_false_iff.mpr fun hf => by
    obtain ⟨p, hp, _⟩ := h.flagbg hf
    rw [hnil] at hp
    cases hp

theorem namesOK_init (old : Option Bytes) : NamesOK (initSys old).fs := by
  cases old <;> constructor <;> simp [initSys]

theorem dumpContent_init (old : Option Bytes) : dumpContent (initSys old).fs = old := by
  cases old <;> simp [initSys, dumpContent]

theorem inv_init (Good : Bytes → Prop) (old : Option Bytes) (h : ∀ b, old = some b → Good b) : Inv Good (initSys old) := by
  have hd := dumpContent_init old
  have hn := namesOK_init old
  cases old <;> exact inv_idle hn fun b hb => h b (hd ▸ hb)

/-- no save is running when the flag is clear and no SAVE occupies the command thread -/
theorem procs_nil_of {s : Sys} (h : Inv Good s) (hfg : s.procs.any (fun p => !p.bg) = false)
    (hflag : s.flag = false) : s.procs = [] := by
  cases hp : s.procs with
  | nil => rfl
  | cons p ps =>
    have hmem : p ∈ s.procs := hp ▸ List.mem_cons_self
    have hbg : p.bg = true := by simpa using List.any_eq_false.mp hfg p hmem
    exact absurd (h.bgflag p hmem hbg) (by simp [hflag])

theorem inv_start {s : Sys} (h : Inv Good s) (bg : Bool) (j : Job) (hj : Good j.chunks.flatten) :
    Inv Good { s with flag := bg, procs := [mkProc bg j] } :=
  inv_single (p := mkProc bg j) h.names rfl hj h.dumpContent_good

theorem inv_log {s : Sys} (h : Inv Good s) (l : List Outcome) : Inv Good { s with log := l } :=
  ⟨h.one, h.bgflag, h.flagbg, h.distinct, h.dumplt, h.tmplt, h.procs, h.dump⟩

theorem inv_finish {fs : FS} {p : Proc} {log : List Outcome} (fs' : FS) (o : Outcome) (hn : NamesOK fs')
    (hd : ∀ b, dumpContent fs' = some b → Good b) : Inv Good (finish ⟨fs, p.bg, [p], log⟩ 0 p fs' o) := by
  have hf : (if p.bg then false else p.bg) = false := by cases p.bg <;> rfl
  show Inv Good ⟨fs', if p.bg then false else p.bg, [], o :: log⟩
  rw [hf]
  exact inv_idle hn hd

theorem inv_stepProc (fs : FS) (flag : Bool) (p : Proc) (log : List Outcome)
    (h : Inv Good ⟨fs, flag, [p], log⟩) : Inv Good (stepProc ⟨fs, flag, [p], log⟩ 0 p) := by
  cases h.flag_eq
  have hn : NamesOK fs := h.names
  have hd : ∀ b, dumpContent fs = some b → Good b := h.dumpContent_good
  obtain ⟨hp, hg⟩ := h.procs p (List.mem_singleton_self p)
  obtain ⟨bg, ino, off, todo, fa, content⟩ := p
  unfold ProcOK at hp
  cases ino with
  | none =>
    rw [stepProc_open]
    refine inv_single (p := ⟨bg, some (opened fs).2, 0, todo, fa, content⟩) (namesOK_opened hn) ?_ hg
      (by rw [hn.dumpContent_opened]; exact hd)
    exact ⟨opened_tmp fs, by rw [opened_data]; rfl, by rw [opened_data]; exact hp⟩
  | some k =>
    obtain ⟨htmp, hoff, hcont⟩ := hp
    simp only at htmp hoff hcont hg
    cases todo with
    | cons c rest =>
      by_cases hf : fa = some 1
      · subst hf
        exact inv_finish fs .failed hn hd
      · rw [stepProc_write hf]
        subst hoff
        refine inv_single (p := ⟨bg, some k, _, rest, fa.map (· - 1), content⟩) (hn.set k _) ?_ hg
          (by rw [dumpContent_set (hn.dump_ne_tmp htmp)]; exact hd)
        refine ⟨htmp, ?_, ?_⟩ <;> simp only [writeAt_end, set_data_same, List.length_append]
        rw [List.append_assoc]
        exact hcont
    | nil =>
      rw [stepProc_rename htmp]
      refine inv_finish _ .saved (hn.renamed htmp) fun b hb => ?_
      cases hb
      rw [← hcont, List.flatten_nil, List.append_nil] at hg
      exact hg

theorem inv_step (s : Sys) (e : Ev) (h : Inv Good s)
    (hjob : ∀ j, e = .startSave j ∨ e = .startBgsave j → Good j.chunks.flatten) : Inv Good (step true s e) := by
  cases e with
  | startSave j =>
    simp only [step, Bool.true_and]
    split
    · exact h
    · rename_i hfg
      split
      · exact inv_log h _
      · rename_i hfl
        have hflag : s.flag = false := by simpa using hfl
        rw [procs_nil_of h (by simpa using hfg) hflag, hflag]
        exact inv_start h false j (hjob j (Or.inl rfl))
  | startBgsave j =>
    simp only [step]
    split
    · exact h
    · rename_i hfg
      split
      · exact inv_log h _
      · rename_i hfl
        rw [procs_nil_of h (by simpa using hfg) (by simpa using hfl)]
        exact inv_start h true j (hjob j (Or.inr rfl))
  | step i =>
    obtain ⟨fs, flag, procs, log⟩ := s
    cases procs with
    | nil => exact h
    | cons p ps =>
      cases ps with
      | cons q qs => exact (Nat.not_succ_le_zero _ (Nat.le_of_succ_le_succ h.one)).elim
      | nil =>
        cases i with
        | zero => exact inv_stepProc fs flag p log h
        | succ i => exact h

/-- every save in the schedule writes an acceptable file -/
def jobsGood (Good : Bytes → Prop) (evs : List Ev) : Prop :=
  ∀ e ∈ evs, ∀ j, e = .startSave j ∨ e = .startBgsave j → Good j.chunks.flatten

theorem inv_run (evs : List Ev) (s : Sys) (h : Inv Good s) (hj : jobsGood Good evs) : Inv Good (run true s evs) :=
  List.foldlRecOn evs (step true) h fun s hs e he => inv_step s e hs (hj e he)

theorem run_cons (x : Bool) (s : Sys) (e : Ev) (es : List Ev) : run x s (e :: es) = run x (step x s e) es := rfl

/-- As long as no SAVE is issued while the in-progress flag is set, the server without the repair
    runs exactly as the one with it. -/
theorem run_eq_exclusive (x : Bool) : ∀ (evs : List Ev) (s : Sys), noSaveDuringBgsave x s evs = true →
    run x s evs = run true s evs
  | [], _, _ => rfl
  | e :: es, s, h => by
    simp only [noSaveDuringBgsave, Bool.and_eq_true] at h
    have he : step x s e = step true s e := by
      cases e with
      | startSave j =>
        have hf : s.flag = false := by simpa using h.1
        simp only [step, hf, Bool.and_false]
      | startBgsave j => rfl
      | step i => rfl
    rw [run_cons, run_cons, run_eq_exclusive x es _ h.2, he]

/-- every save in the schedule writes an acceptable file -/
def jobsGoodL (Good : Bytes → Prop) (evs : List EvL) : Prop :=
  ∀ e ∈ evs, ∀ j, e = .save j ∨ e = .bgsave j ∨ e = .shutdown j → Good j.chunks.flatten

/-- the invariant of the locked machine: the files and the lock holder satisfy `Inv`, and every
    waiting saver is going to write an acceptable file -/
structure InvL (Good : Bytes → Prop) (s : SysL) : Prop where
  core : Inv Good s.core
  waiting : ∀ w ∈ s.waiting, Good w.2.chunks.flatten

theorem invL_init (Good : Bytes → Prop) (old : Option Bytes) (h : ∀ b, old = some b → Good b) :
    InvL Good (initSysL old) :=
  ⟨inv_init Good old h, nofun⟩

theorem InvL.refuse {s : SysL} (h : InvL Good s) :
    InvL Good { s with core := { s.core with log := .refused :: s.core.log } } :=
  ⟨inv_log h.core _, h.waiting⟩

theorem InvL.enqueue {s : SysL} (h : InvL Good s) (flag bg : Bool) (j : Job) (hj : Good j.chunks.flatten) :
    InvL Good { s with flag := flag, waiting := s.waiting ++ [(bg, j)] } :=
  ⟨h.core, fun w hw => (List.mem_append.mp hw).elim (h.waiting w) fun hw => List.mem_singleton.mp hw ▸ hj⟩

theorem invL_step (s : SysL) (e : EvL) (h : InvL Good s)
    (hjob : ∀ j, e = .save j ∨ e = .bgsave j ∨ e = .shutdown j → Good j.chunks.flatten) : InvL Good (stepL s e) := by
  cases e with
  | save j =>
    simp only [stepL]
    split
    · exact h.refuse
    · exact h.enqueue s.flag false j (hjob j (.inl rfl))
  | bgsave j =>
    simp only [stepL]
    split
    · exact h.refuse
    · exact h.enqueue true true j (hjob j (.inr (.inl rfl)))
  | shutdown j => exact h.enqueue s.flag false j (hjob j (.inr (.inr rfl)))
  | grant i =>
    simp only [stepL]
    split
    · rename_i bg j hnil hw
      rw [hnil]
      exact ⟨inv_start h.core bg j (h.waiting _ (List.mem_of_getElem? hw)),
        fun w hw' => h.waiting w (List.mem_of_mem_eraseIdx hw')⟩
    · exact h
  | step =>
    simp only [stepL]
    split
    · rename_i p hp
      obtain ⟨⟨fs, cflag, procs, log⟩, flag, waiting⟩ := s
      subst hp
      exact ⟨inv_stepProc fs cflag p log h.core, h.waiting⟩
    · exact h

theorem invL_run (evs : List EvL) (s : SysL) (h : InvL Good s) (hj : jobsGoodL Good evs) : InvL Good (runL s evs) :=
  List.foldlRecOn evs stepL h fun s hs e he => invL_step s e hs (hj e he)

theorem step_holder (x : Bool) (fs : FS) (flag : Bool) (p : Proc) (log : List Outcome) :
    step x ⟨fs, flag, [p], log⟩ (.step 0) = stepProc ⟨fs, flag, [p], log⟩ 0 p := rfl

theorem run_idle (x : Bool) (n : Nat) (s : Sys) (h : s.procs = []) : run x s (List.replicate n (.step 0)) = s := by
  induction n with
  | zero => rfl
  | succ n ih =>
    have : step x s (.step 0) = s := by simp [step, h]
    rw [List.replicate_succ, run_cons, this, ih]

theorem step_write (x : Bool) {fs : FS} (flag : Bool) (log : List Outcome) (bg : Bool) {k off : Nat} (c : Bytes)
    (rest : List Bytes) (fa : Option Nat) (content : Bytes) (hoff : off = (fs.data k).length) (hfa : fa ≠ some 1) :
    step x ⟨fs, flag, [⟨bg, some k, off, c :: rest, fa, content⟩], log⟩ (.step 0) =
      ⟨fs.set k (fs.data k ++ c), flag, [⟨bg, some k, off + c.length, rest, fa.map (· - 1), content⟩], log⟩ := by
  rw [step_holder, stepProc_write hfa, hoff]
  show Sys.mk (fs.set k (writeAt (fs.data k) (fs.data k).length c)) _ _ _ = _
  rw [writeAt_end]
  rfl

theorem solo_ok (x : Bool) (flag bg : Bool) (content : Bytes) (log : List Outcome) (k : Nat) :
    ∀ (cs : List Bytes) (fs : FS) (off : Nat), fs.tmp = some k → off = (fs.data k).length →
    run x ⟨fs, flag, [⟨bg, some k, off, cs, none, content⟩], log⟩ (List.replicate (cs.length + 1) (.step 0)) =
      ⟨{ fs.set k (fs.data k ++ cs.flatten) with dump := some k, tmp := none },
        if bg then false else flag, [], .saved :: log⟩ := by
  intro cs
  induction cs with
  | nil =>
    intro fs off htmp _
    rw [List.flatten_nil, List.append_nil, set_self, List.length_nil, List.replicate_succ, run_cons, step_holder,
      stepProc_rename htmp]
    rfl
  | cons c rest ih =>
    intro fs off htmp hoff
    rw [List.length_cons, List.replicate_succ, run_cons, step_write x flag log bg c rest none content hoff nofun,
      Option.map_none, ih (fs.set k (fs.data k ++ c)) (off + c.length) htmp (by rw [set_data_same, List.length_append, hoff]),
      set_data_same, set_set, List.flatten_cons, List.append_assoc]

theorem solo_fail (x : Bool) (flag bg : Bool) (content : Bytes) (log : List Outcome) (k : Nat) :
    ∀ (cs : List Bytes) (i : Nat) (fs : FS) (off : Nat), off = (fs.data k).length → i < cs.length →
    run x ⟨fs, flag, [⟨bg, some k, off, cs, some (i + 1), content⟩], log⟩ (List.replicate (cs.length + 1) (.step 0)) =
      ⟨fs.set k (fs.data k ++ (cs.take i).flatten), if bg then false else flag, [], .failed :: log⟩ := by
  intro cs
  induction cs with
  | nil => intro i _ _ _ h; cases h
  | cons c rest ih =>
    intro i fs off hoff hi
    rw [List.length_cons, List.replicate_succ, run_cons]
    cases i with
    | zero =>
      rw [List.take_zero, List.flatten_nil, List.append_nil, set_self]
      exact run_idle x _ _ rfl
    | succ i =>
      rw [step_write x flag log bg c rest (some (i + 1 + 1)) content hoff (by simp)]
      exact (ih i (fs.set k (fs.data k ++ c)) _ (by rw [set_data_same, List.length_append, hoff])
        (Nat.lt_of_succ_lt_succ hi)).trans (by rw [set_data_same, set_set, List.take_succ_cons, List.flatten_cons, List.append_assoc])

def startEv (bg : Bool) (j : Job) : Ev := if bg then .startBgsave j else .startSave j

theorem start_open (x : Bool) (s : Sys) (bg : Bool) (j : Job) (hidle : s.procs = []) (hflag : s.flag = false) :
    run x s [startEv bg j, .step 0] =
      ⟨(opened s.fs).1, bg, [⟨bg, some (opened s.fs).2, 0, j.chunks, j.failAt, j.chunks.flatten⟩], s.log⟩ := by
  obtain ⟨fs, flag, procs, log⟩ := s
  subst hidle hflag
  have h : step x ⟨fs, false, [], log⟩ (startEv bg j) = ⟨fs, bg, [mkProc bg j], log⟩ := by
    cases bg <;> simp [startEv, step]
  rw [run_cons, h]
  exact stepProc_open ⟨fs, bg, [mkProc bg j], log⟩ 0 bg 0 j.chunks j.failAt j.chunks.flatten

theorem run_split (x : Bool) (s : Sys) (e : Ev) (n : Nat) :
    run x s (e :: soloEvents n) = run x (run x s [e, .step 0]) (List.replicate (n + 1) (.step 0)) := by
  simp [soloEvents, List.replicate_succ, run]

theorem saveRun_fail (x bg : Bool) (s : Sys) (hidle : s.procs = []) (hflag : s.flag = false)
    (chunks : List Bytes) (n : Nat) (h1 : 1 ≤ n) (h2 : n ≤ chunks.length) :
    run x s (startEv bg ⟨chunks, some n⟩ :: soloEvents chunks.length) =
      ⟨(opened s.fs).1.set (opened s.fs).2 (chunks.take (n - 1)).flatten, false, [], .failed :: s.log⟩ := by
  obtain ⟨i, rfl⟩ : ∃ i, n = i + 1 := ⟨n - 1, (Nat.sub_add_cancel h1).symm⟩
  rw [run_split, start_open x s bg _ hidle hflag,
    solo_fail x bg bg _ _ _ chunks i _ 0 (by rw [opened_data]; rfl) h2, opened_data]
  cases bg <;> rfl

theorem saveRun_ok (x bg : Bool) (s : Sys) (hidle : s.procs = []) (hflag : s.flag = false) (chunks : List Bytes) :
    run x s (startEv bg ⟨chunks, none⟩ :: soloEvents chunks.length) =
      ⟨{ (opened s.fs).1.set (opened s.fs).2 chunks.flatten with dump := some (opened s.fs).2, tmp := none },
        false, [], .saved :: s.log⟩ := by
  rw [run_split, start_open x s bg _ hidle hflag,
    solo_ok x bg bg _ _ _ chunks _ 0 (opened_tmp _) (by rw [opened_data]; rfl), opened_data]
  cases bg <;> rfl

end Ferrous.RdbSave
