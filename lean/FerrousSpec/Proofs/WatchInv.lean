/-
  The invariant of the WATCH machine —
    counters ≤ global counter per tracker; on every (database, shard) the watcher count is at least the
    number of watch entries registered there (so `mark_modified` is not a no-op while someone holds a
    baseline); baselines ≤ global counter; (code variant) every entry was registered in the database
    its connection has selected.
  It is preserved by every step of a `Safe` history: no registration wraps the usize counter, and — unless
  entries remember their database — no connection SELECTs another database while it holds entries.
  Then the two directions of the property on histories: `no_abort_of_untouched` (needs no invariant) and
  `sound_core` (a `Marked` watched key makes the watcher's EXEC return nil).
-/
import FerrousSpec.Proofs.WatchStep
namespace Ferrous.Watch

/-- number of entries of a watch list registered on (database `d`, shard `sh`) -/
def wcount (d sh : Nat) (ws : List W) : Nat :=
  ws.countP (fun w => decide (w.regDb = d) && decide (shardOf w.key = sh))

/-- number of watch entries of all connections registered on (d, sh) -/
def regCount (s : State) (d sh : Nat) : Nat := (s.conns.map (fun p => wcount d sh p.2.watched)).sum

structure Inv (q : Q) (s : State) : Prop where
  tok : TOk s
  reg : ∀ d sh, regCount s d sh ≤ s.active d sh
  bound : ∀ d sh, s.active d sh < two64
  base : ∀ c w, w ∈ (s.conn c).watched → w.base ≤ (s.tracker w.regDb (shardOf w.key)).global
  here : q.perDb = false → ∀ c w, w ∈ (s.conn c).watched → w.regDb = (s.conn c).db

theorem inv_init (q : Q) : Inv q State.init := by
  refine ⟨tok_init, fun d sh => ?_, fun d sh => ?_, fun c w h => ?_, fun _ c w h => ?_⟩
  · simp [regCount, State.init]
  · have : State.init.active d sh = 0 := by simp [State.active, State.init, State.tracker, aget]
    rw [this]; unfold two64; omega
  · simp [State.init, State.conn, aget] at h
  · simp [State.init, State.conn, aget] at h

theorem wcount_nil (d sh : Nat) : wcount d sh [] = 0 := rfl

theorem wcount_cons (d sh : Nat) (w : W) (ws : List W) :
    wcount d sh (w :: ws) = (if w.regDb = d ∧ shardOf w.key = sh then 1 else 0) + wcount d sh ws := by
  unfold wcount
  rw [List.countP_cons]
  by_cases h1 : w.regDb = d <;> by_cases h2 : shardOf w.key = sh <;> simp [h1, h2] <;> omega

theorem wcount_filter_le (d sh : Nat) (ws : List W) (p : W → Bool) : wcount d sh (ws.filter p) ≤ wcount d sh ws := by
  unfold wcount
  rw [List.countP_filter]
  apply List.countP_mono_left
  intro w _ h
  simp only [Bool.and_eq_true] at h ⊢
  exact h.1

theorem wcount_pos_of_mem (d sh : Nat) (ws : List W) (w : W) (h : w ∈ ws) (h1 : w.regDb = d) (h2 : shardOf w.key = sh) :
    0 < wcount d sh ws := by
  unfold wcount
  rw [List.countP_pos_iff]
  exact ⟨w, h, by simp [h1, h2]⟩

theorem regCount_setConn (s : State) (c : Nat) (cn : Conn) (d sh : Nat) :
    regCount (s.setConn c cn) d sh + wcount d sh (s.conn c).watched = regCount s d sh + wcount d sh cn.watched := by
  unfold regCount State.setConn State.conn
  simp only []
  generalize s.conns = m
  induction m with
  | nil => simp [aset, aget, wcount_nil]
  | cons p r ih =>
    obtain ⟨a, v⟩ := p
    unfold aset aget
    by_cases e : a = c
    · subst e
      simp only [if_true, List.map_cons, List.sum_cons]
      omega
    · simp only [e, if_false, List.map_cons, List.sum_cons]
      omega

theorem wcount_le_regCount (s : State) (c : Nat) (d sh : Nat) :
    wcount d sh (s.conn c).watched ≤ regCount s d sh := by
  have := regCount_setConn s c {} d sh
  rw [show wcount d sh ({} : Conn).watched = 0 from rfl] at this
  omega

theorem regCount_conns_eq {s s' : State} (h : s'.conns = s.conns) (d sh : Nat) : regCount s' d sh = regCount s d sh := by
  unfold regCount; rw [h]

theorem inv_of_grows (q : Q) (s s' : State) (hi : Inv q s) (hg : Grows s s') (hc : s'.conns = s.conns)
    (ha : ∀ d sh, s'.active d sh = s.active d sh) : Inv q s' := by
  refine ⟨hg.tok hi.tok, fun d sh => ?_, fun d sh => ?_, fun c w h => ?_, fun hp c w h => ?_⟩
  · rw [regCount_conns_eq hc, ha]; exact hi.reg d sh
  · rw [ha]; exact hi.bound d sh
  · rw [conn_conns_eq hc] at h
    exact Nat.le_trans (hi.base c w h) (hg.global _ _)
  · rw [conn_conns_eq hc] at h ⊢
    exact hi.here hp c w h

/-- The record of connection `c` is rewritten on top of a change `s → s1` that leaves the connections alone: the
    invariant is kept when watcher counts and registrations stay balanced and the entries of the new record are covered. -/
theorem inv_update (q : Q) {s s1 s' : State} {c : Nat} {cn : Conn} (hi : Inv q s) (hs' : s' = s1.setConn c cn)
    (hc : s1.conns = s.conns) (hg : Grows s s')
    (hcount : ∀ d sh, regCount s d sh + wcount d sh cn.watched ≤ s'.active d sh + wcount d sh (s.conn c).watched)
    (hb : ∀ d sh, s'.active d sh < two64)
    (hbase : ∀ w ∈ cn.watched, w.base ≤ (s'.tracker w.regDb (shardOf w.key)).global)
    (hhere : q.perDb = false → ∀ w ∈ cn.watched, w.regDb = cn.db) : Inv q s' := by
  refine ⟨hg.tok hi.tok, fun d sh => ?_, hb, fun c' w h => ?_, fun hp c' w h => ?_⟩
  · have h1 := regCount_setConn s1 c cn d sh
    rw [conn_conns_eq hc, regCount_conns_eq hc, ← hs'] at h1
    have h2 := hcount d sh
    omega
  · rw [hs', conn_setConn] at h
    split at h
    · exact hbase w h
    · rw [conn_conns_eq hc] at h
      exact Nat.le_trans (hi.base c' w h) (hg.global _ _)
  · rw [hs', conn_setConn] at h ⊢
    split at h
    · next e => rw [if_pos e]; exact hhere hp w h
    · next e =>
      rw [if_neg e]
      rw [conn_conns_eq hc] at h ⊢
      exact hi.here hp c' w h

theorem inv_setConn (q : Q) (s : State) (c : Nat) (cn : Conn) (hi : Inv q s)
    (hw : ∀ w ∈ cn.watched, w ∈ (s.conn c).watched)
    (hcount : ∀ d sh, wcount d sh cn.watched ≤ wcount d sh (s.conn c).watched)
    (hdb : q.perDb = false → cn.watched ≠ [] → cn.db = (s.conn c).db) : Inv q (s.setConn c cn) :=
  inv_update q hi rfl rfl (grows_setConn s c cn)
    (fun d sh => by have := hi.reg d sh; have := hcount d sh; rw [active_setConn]; omega) hi.bound
    (fun w h => hi.base c w (hw w h))
    (fun hp w h => by rw [hdb hp (List.ne_nil_of_mem h)]; exact hi.here hp c w (hw w h))

theorem inv_setConn_same (q : Q) (s : State) (c : Nat) (cn : Conn) (hi : Inv q s)
    (hw : cn.watched = (s.conn c).watched) (hdb : cn.db = (s.conn c).db) : Inv q (s.setConn c cn) :=
  inv_setConn q s c cn hi (fun _ h => hw ▸ h) (fun _ _ => Nat.le_of_eq (by rw [hw])) (fun _ _ => hdb)

theorem inv_watchKeyNew (q : Q) (c : Nat) (s : State) (k : Key) (hi : Inv q s)
    (hs : s.active (s.conn c).db (shardOf k) + 1 < two64) : Inv q (watchKeyNew q c s k) := by
  have hact : ∀ d sh, (watchKeyNew q c s k).active d sh =
      if ((s.conn c).db, shardOf k) = (d, sh) then s.active d sh + 1 else s.active d sh := by
    intro d sh
    rw [active_watchKeyNew]
    split
    · next e => cases e; rw [Nat.mod_eq_of_lt hs]
    · rfl
  have hwl : ∀ b, (watchConn q (s.conn c) k b).watched = ⟨k, b, (s.conn c).db⟩ ::
      (s.conn c).watched.filter (fun w => !(decide (w.key = k) && (!q.perDb || decide (w.regDb = (s.conn c).db)))) :=
    fun _ => rfl
  refine inv_update q hi (s1 := s.setTracker _ _ _) rfl rfl (grows_watchKeyNew q c s k) (fun d sh => ?_) (fun d sh => ?_)
    (fun w h => ?_) (fun hp w h => ?_)
  · rw [hwl, wcount_cons, hact]
    have := hi.reg d sh
    have := wcount_filter_le d sh (s.conn c).watched
      (fun w => !(decide (w.key = k) && (!q.perDb || decide (w.regDb = (s.conn c).db))))
    by_cases e : (s.conn c).db = d ∧ shardOf k = sh
    · rw [if_pos e, if_pos (by rw [e.1, e.2])]; omega
    · rw [if_neg e, if_neg fun x => e (Prod.mk.inj x)]; omega
  · rw [hact]
    split
    · next e => cases e; exact hs
    · exact hi.bound d sh
  · rw [global_watchKeyNew]
    rw [hwl] at h
    rcases List.mem_cons.mp h with rfl | m
    · exact hi.tok (s.conn c).db (shardOf k) k
    · exact hi.base c w (List.mem_filter.mp m).1
  · rw [hwl] at h
    rcases List.mem_cons.mp h with rfl | m
    · rfl
    · exact hi.here hp c w (List.mem_filter.mp m).1

theorem inv_watchKey (q : Q) (c : Nat) (now : Nat) (s : State) (k : Key) (hi : Inv q s)
    (hs : s.active (s.conn c).db (shardOf k) + 1 < two64) : Inv q (watchKey q c now s k) := by
  rcases watchKey_cases q c now s k with e | e
  · rw [e]; exact hi
  · rw [e]
    apply inv_watchKeyNew q c _ k (inv_of_grows q _ _ hi (grows_purge q s _ k now) (conns_purge q s _ k now)
      (active_purge q s _ k now))
    rw [conn_purge, active_purge]; exact hs

theorem inv_watchAll (q : Q) (c : Nat) (now : Nat) (s : State) (keys : List Key) (hi : Inv q s)
    (hs : safeWatch q c now s keys = true) : Inv q (watchAll q c now s keys) := by
  induction keys generalizing s with
  | nil => exact hi
  | cons k r ih =>
    simp only [safeWatch, Bool.and_eq_true, decide_eq_true_eq] at hs
    simp only [watchAll, List.foldl_cons] at ih ⊢
    exact ih _ (inv_watchKey q c now s k hi hs.1) hs.2

theorem active_unregisterW (q : Q) (cn : Conn) (s : State) (w : W) (d sh : Nat) :
    (unregisterW q cn s w).active d sh =
      if effDb q cn w = d ∧ shardOf w.key = sh then (s.active d sh + (two64 - 1)) % two64 else s.active d sh := by
  unfold unregisterW
  simp only []
  rw [active_setTracker]
  simp only [Prod.mk.injEq]
  split
  · next e => rw [unregister_active, ← e.1, ← e.2]; rfl
  · rfl

/-- unregistering entries in the databases where they were registered takes exactly their number off
    each watcher count (no wrap-around while the count covers them) -/
theorem active_unregAll (q : Q) (cn : Conn) (s : State) (ws : List W)
    (heff : ∀ w ∈ ws, effDb q cn w = w.regDb)
    (hcov : ∀ d sh, wcount d sh ws ≤ s.active d sh) (hb : ∀ d sh, s.active d sh < two64) :
    ∀ d sh, (unregAll q cn s ws).active d sh + wcount d sh ws = s.active d sh := by
  induction ws generalizing s with
  | nil => intro d sh; simp [unregAll, wcount_nil]
  | cons w r ih =>
    simp only [unregAll, List.foldl_cons] at ih ⊢
    -- the first entry takes one off its own count, which covers it
    have hact : ∀ d sh, (unregisterW q cn s w).active d sh + (if w.regDb = d ∧ shardOf w.key = sh then 1 else 0) = s.active d sh := by
      intro d sh
      rw [active_unregisterW, heff w List.mem_cons_self]
      have h1 := hcov d sh
      have h2 := hb d sh
      rw [wcount_cons] at h1
      unfold two64 at h2 ⊢
      by_cases e : w.regDb = d ∧ shardOf w.key = sh
      · simp only [e, and_self, if_true] at h1 ⊢; omega
      · simp only [e, if_false] at h1 ⊢; omega
    have hcov' : ∀ d sh, wcount d sh r ≤ (unregisterW q cn s w).active d sh ∧ (unregisterW q cn s w).active d sh < two64 := by
      intro d sh
      have h1 := hcov d sh
      rw [wcount_cons] at h1
      have := hact d sh
      have := hb d sh
      omega
    intro d sh
    have := ih (unregisterW q cn s w) (fun w' m => heff w' (List.mem_cons_of_mem _ m)) (fun d sh => (hcov' d sh).1)
      (fun d sh => (hcov' d sh).2) d sh
    rw [wcount_cons]
    have := hact d sh
    omega

theorem inv_unwatch (q : Q) (s : State) (now c : Nat) (hi : Inv q s) : Inv q (step q s now (.unwatch c)).1 := by
  rw [step_unwatch]
  split
  · exact inv_setConn_same q s c { (s.conn c) with queued := (s.conn c).queued + 1 } hi rfl rfl
  rename_i hnq
  have heff : ∀ w ∈ (s.conn c).watched, effDb q (s.conn c) w = w.regDb := by
    intro w m
    unfold effDb
    cases hp : q.perDb
    · simp only [Bool.false_eq_true, if_false]; exact (hi.here hp c w m).symm
    · rfl
  have hcov : ∀ d sh, wcount d sh (s.conn c).watched ≤ s.active d sh :=
    fun d sh => Nat.le_trans (wcount_le_regCount s c d sh) (hi.reg d sh)
  have hact := active_unregAll q (s.conn c) s (s.conn c).watched heff hcov hi.bound
  refine inv_update q hi rfl (conns_unregAll q (s.conn c) s (s.conn c).watched)
    ((grows_unregAll q (s.conn c) s (s.conn c).watched).trans (grows_setConn _ _ _)) (fun d sh => ?_) (fun d sh => ?_)
    (fun w h => nomatch h) (fun _ w h => nomatch h)
  · have := hact d sh
    have := hi.reg d sh
    rw [active_setConn, show wcount d sh ([] : List W) = 0 from rfl]
    omega
  · have := hact d sh
    have := hi.bound d sh
    rw [active_setConn]
    omega

/-- the event is safe in state `s`: no registration wraps the usize watcher count, and a connection that
    holds watch entries does not SELECT another database unless entries remember theirs -/
def stepSafe (q : Q) (s : State) (now : Nat) : Ev → Bool
  | .watch c keys => safeWatch q c now s keys
  | .select c d => q.perDb || (s.conn c).inTx || (s.conn c).watched.isEmpty || decide (d = (s.conn c).db)
  | _ => true

def Safe (q : Q) : State → List (Nat × Ev) → Bool
  | _, [] => true
  | s, (now, ev) :: r => stepSafe q s now ev && Safe q (step q s now ev).1 r

theorem inv_cleared (q : Q) (s : State) (c : Nat) (hi : Inv q s) : Inv q (s.setConn c (s.conn c).cleared) := by
  apply inv_setConn q s c _ hi
  · intro w h; simp [Conn.cleared] at h
  · intro d sh; simp [Conn.cleared, wcount_nil]
  · intro _ h; simp [Conn.cleared] at h

theorem inv_step (q : Q) (s : State) (now : Nat) (ev : Ev) (hi : Inv q s) (hs : stepSafe q s now ev = true) :
    Inv q (step q s now ev).1 := by
  cases ev with
  | watch c keys =>
    rw [step_watch]
    split
    · exact hi
    · exact inv_watchAll q c now s keys hi hs
  | unwatch c => exact inv_unwatch q s now c hi
  | multi c =>
    rw [step_multi]
    split
    · exact hi
    · exact inv_setConn_same q s c { (s.conn c) with inTx := true, queued := 0 } hi rfl rfl
  | exec c ops =>
    rw [step_exec]
    split
    · exact hi
    · split
      · exact inv_cleared q s c hi
      · exact inv_of_grows q _ _ (inv_cleared q s c hi) (grows_applyOps _ _ _) (conns_applyOps _ _ _)
          (fun d sh => active_applyOps _ _ _ d sh)
  | discard c =>
    rw [step_discard]
    split
    · exact hi
    · exact inv_cleared q s c hi
  | select c d =>
    rw [step_select]
    split
    · exact inv_setConn_same q s c { (s.conn c) with queued := (s.conn c).queued + 1 } hi rfl rfl
    · rename_i hin
      split
      · exact hi
      · apply inv_setConn q s c { (s.conn c) with db := d } hi (fun w h => h) (fun d sh => Nat.le_refl _)
        intro hp hne
        simp only [stepSafe, hp, Bool.false_or, Bool.or_eq_true, List.isEmpty_iff, decide_eq_true_eq] at hs
        rcases hs with (h1 | h1) | h1
        · exact absurd h1 hin
        · exact absurd h1 hne
        · exact h1
  | cmd c ops =>
    rw [step_cmd]
    split
    · exact inv_setConn_same q s c { (s.conn c) with queued := (s.conn c).queued + 1 } hi rfl rfl
    · exact inv_of_grows q _ _ hi (grows_applyOps _ _ _) (conns_applyOps _ _ _) (fun d sh => active_applyOps _ _ _ d sh)
  | refused c => exact hi
  | sweep d k m =>
    rw [step_sweep]
    exact inv_of_grows q _ _ hi (grows_sweepKey _ _ _ _ _) (conns_sweepKey _ _ _ _ _) (fun d' sh' => active_sweepKey _ _ _ _ _ d' sh')

theorem inv_run (q : Q) (s : State) (evs : List (Nat × Ev)) (hi : Inv q s) (hs : Safe q s evs = true) :
    Inv q (run q s evs) := by
  induction evs generalizing s with
  | nil => exact hi
  | cons e r ih =>
    obtain ⟨now, ev⟩ := e
    simp only [Safe, Bool.and_eq_true] at hs
    simp only [run]
    exact ih _ (inv_step q s now ev hi hs.1) hs.2

theorem safe_append (q : Q) (s : State) (a b : List (Nat × Ev)) (h : Safe q s (a ++ b) = true) :
    Safe q s a = true ∧ Safe q (run q s a) b = true := by
  induction a generalizing s with
  | nil => exact ⟨rfl, h⟩
  | cons e r ih =>
    obtain ⟨now, ev⟩ := e
    simp only [List.cons_append, Safe, Bool.and_eq_true] at h ⊢
    simp only [run]
    have := ih _ h.2
    exact ⟨⟨h.1, this.1⟩, this.2⟩

theorem active_pos_of_watched (q : Q) (s : State) (hi : Inv q s) (c : Nat) (w : W) (h : w ∈ (s.conn c).watched) :
    s.active w.regDb (shardOf w.key) ≠ 0 := by
  have h1 := wcount_pos_of_mem w.regDb (shardOf w.key) (s.conn c).watched w h rfl rfl
  have h2 := wcount_le_regCount s c w.regDb (shardOf w.key)
  have h3 := hi.reg w.regDb (shardOf w.key)
  omega

theorem exec_reply (q : Q) (s : State) (now c : Nat) (ops : List Op) :
    (step q s now (.exec c ops)).2 =
      if (s.conn c).inTx = false then .err
      else if execAborts q s (s.conn c) now = true then .nil else .array (s.conn c).queued := by
  simp only [step]
  cases (s.conn c).inTx
  · rfl
  · simp only [Bool.not_true, Bool.false_eq_true, if_false]
    split <;> rfl

theorem exec_nil_iff (q : Q) (s : State) (now c : Nat) (ops : List Op) :
    (step q s now (.exec c ops)).2 = .nil ↔ ((s.conn c).inTx = true ∧ execAborts q s (s.conn c) now = true) := by
  rw [exec_reply]
  cases (s.conn c).inTx <;> cases execAborts q s (s.conn c) now <;> simp

theorem not_modified_of_clean (s : State) (d : Nat) (k : Key) (base now : Nat)
    (hc : s.counter d k ≤ base) (he : ∀ e, s.entry d k = some e → e.deadline = none) :
    wasModifiedSince s d k base now = false := by
  unfold wasModifiedSince
  have h1 : decide (base < s.counter d k) = false := by simp; omega
  rw [h1, Bool.false_or]
  cases h : s.entry d k with
  | none => rfl
  | some e => simp [Entry.expired, he e h]

theorem no_abort_of_untouched (q : Q) (s : State) (evs : List (Nat × Ev)) (c now : Nat)
    (hquiet : ∀ e ∈ evs, quiet q c e.2 = true)
    (hclean : ∀ w ∈ (s.conn c).watched,
      s.counter (effDb q (s.conn c) w) w.key ≤ w.base ∧
      (∀ e, s.entry (effDb q (s.conn c) w) w.key = some e → e.deadline = none) ∧
      untouched q (effDb q (s.conn c) w) w.key s evs = true) :
    execAborts q (run q s evs) ((run q s evs).conn c) now = false := by
  have hq := quiet_run q s evs c hquiet
  unfold execAborts
  rw [List.any_eq_false]
  intro w hw
  rw [hq.1] at hw
  have hd := effDb_quiet q (s.conn c) ((run q s evs).conn c) w hq.2
  rw [hd]
  obtain ⟨h1, h2, h3⟩ := hclean w hw
  have hu := run_untouched q s evs _ _ h3
  have := not_modified_of_clean (run q s evs) (effDb q (s.conn c) w) w.key w.base now
    (by rw [hu.1]; exact h1) (by rw [hu.2]; exact h2)
  simp [this]

/-- The core of soundness: if in a `Safe` history the counter of a watched key is pushed beyond the shard's
    global counter of that moment, the watcher's later EXEC (it stayed quiet, it is inside MULTI) returns nil. -/
theorem sound_core (q : Q) (s : State) (pre post : List (Nat × Ev)) (now : Nat) (ev : Ev) (c : Nat) (w : W)
    (nowE : Nat) (ops : List Op)
    (hi : Inv q s) (hsafe : Safe q s pre = true)
    (hquiet : ∀ e ∈ pre ++ (now, ev) :: post, quiet q c e.2 = true)
    (hw : w ∈ (s.conn c).watched)
    (hbump : Marked w.regDb w.key (run q s pre) (step q (run q s pre) now ev).1)
    (hin : ((run q s (pre ++ (now, ev) :: post)).conn c).inTx = true) :
    (step q (run q s (pre ++ (now, ev) :: post)) nowE (.exec c ops)).2 = .nil := by
  rw [exec_nil_iff]
  refine ⟨hin, ?_⟩
  have hi1 : Inv q (run q s pre) := inv_run q s pre hi hsafe
  have hq1 := quiet_run q s pre c (fun e m => hquiet e (List.mem_append_left _ m))
  have hw1 : w ∈ ((run q s pre).conn c).watched := by rw [hq1.1]; exact hw
  have hbase := hi1.base c w hw1
  -- the counter stays beyond the baseline until EXEC
  have hrun : run q s (pre ++ (now, ev) :: post) = run q (step q (run q s pre) now ev).1 post := by
    rw [run_append]; rfl
  have htok2 : TOk (step q (run q s pre) now ev).1 := (grows_step q _ now ev).tok hi1.tok
  have hmono := (grows_run q (step q (run q s pre) now ev).1 post).counter htok2 w.regDb w.key
  have hgt : w.base < (run q s (pre ++ (now, ev) :: post)).counter w.regDb w.key := by
    have hbump : _ < _ := hbump
    rw [hrun]; omega
  -- the watcher still holds the entry and looks at the database it was registered in
  have hqa := quiet_run q s (pre ++ (now, ev) :: post) c hquiet
  have hwa : w ∈ ((run q s (pre ++ (now, ev) :: post)).conn c).watched := by rw [hqa.1]; exact hw
  have hd : effDb q ((run q s (pre ++ (now, ev) :: post)).conn c) w = w.regDb := by
    rw [effDb_quiet q (s.conn c) _ w hqa.2]
    unfold effDb
    cases hp : q.perDb
    · simp only [Bool.false_eq_true, if_false]; exact (hi.here hp c w hw).symm
    · rfl
  unfold execAborts
  rw [List.any_eq_true]
  refine ⟨w, hwa, ?_⟩
  rw [hd]
  unfold wasModifiedSince
  simp [hgt]

theorem watched_run (q : Q) (s : State) (pre : List (Nat × Ev)) (c : Nat) (w : W) (hi : Inv q s)
    (hsafe : Safe q s pre = true) (hquiet : ∀ e ∈ pre, quiet q c e.2 = true) (hw : w ∈ (s.conn c).watched) :
    Inv q (run q s pre) ∧ (run q s pre).active w.regDb (shardOf w.key) ≠ 0 := by
  have hi1 := inv_run q s pre hi hsafe
  exact ⟨hi1, active_pos_of_watched q _ hi1 c w (by rw [(quiet_run q s pre c hquiet).1]; exact hw)⟩

/-- `c` issues no WATCH in this event -/
def noWatchBy (c : Nat) : Ev → Bool
  | .watch c' _ => decide (c' ≠ c)
  | _ => true

theorem empty_watch_step (q : Q) (s : State) (now : Nat) (ev : Ev) (c : Nat) (h : noWatchBy c ev = true)
    (he : (s.conn c).watched = []) : ((step q s now ev).1.conn c).watched = [] := by
  by_cases hi : issuer ev = some c
  · -- an event of `c` other than WATCH keeps or clears its list
    rcases step_cases q s now ev with
      ⟨_, e | ⟨c', cn, hi', e, hw⟩ | ⟨c', keys, rfl, _, _⟩ | ⟨c', cn, hi', e, hw⟩ | ⟨d, k, m, rfl, _⟩⟩ | ⟨c', ops, s0, hi', _, hs0, e⟩
    · rw [e]; exact he
    · cases Option.some.inj (hi.symm.trans hi')
      rw [e, conn_setConn, if_pos rfl]
      exact hw.elim (fun x => x.trans he) id
    · exact absurd (Option.some.inj hi) (by simpa [noWatchBy] using h)
    · cases Option.some.inj (hi.symm.trans hi')
      rw [e, conn_setConn, if_pos rfl]
      exact hw
    · exact absurd hi (by simp [issuer])
    · cases Option.some.inj (hi.symm.trans hi')
      rw [e, conn_applyOps]
      rcases hs0 with rfl | rfl
      · exact he
      · rw [conn_setConn, if_pos rfl]; rfl
  · rw [conn_step_other q s now ev c hi]; exact he

theorem empty_watch_run (q : Q) (s : State) (evs : List (Nat × Ev)) (c : Nat)
    (h : ∀ e ∈ evs, noWatchBy c e.2 = true) (he : (s.conn c).watched = []) :
    ((run q s evs).conn c).watched = [] := by
  induction evs generalizing s with
  | nil => exact he
  | cons e r ih =>
    obtain ⟨now, ev⟩ := e
    simp only [run]
    exact ih _ (fun e m => h e (List.mem_cons_of_mem _ m))
      (empty_watch_step q s now ev c (h (now, ev) List.mem_cons_self) he)

end Ferrous.Watch
