/-
  C05: the write path of a connection (Model/WriteBuf.lean).  `Inv`: the offset never passes the end of
  the buffer.  Every step keeps it, and under it no byte is lost, repeated or reordered, for every
  history of sends and partial writes: wire ++ pending after = pending before ++ sent (`run_conserves`).
-/
import FerrousSpec.Model.WriteBuf
namespace Ferrous.WBuf

def Inv (w : W) : Prop := w.off ≤ w.buf.length

theorem step_write_eq (w : W) (n : Nat) :
    step true w (.write n) =
      (if w.off + min n (pending w).length ≥ w.buf.length then { buf := [], off := 0 }
       else { w with off := w.off + min n (pending w).length }, (pending w).take (min n (pending w).length)) :=
  rfl

theorem pending_step_write (w : W) (n : Nat) :
    pending (step true w (.write n)).1 = (pending w).drop (min n (pending w).length) := by
  rw [step_write_eq]
  split
  · exact (List.drop_of_length_le (by simp only [pending, List.length_drop]; omega)).symm
  · exact (List.drop_drop ..).symm

theorem step_inv (w : W) (e : Ev) (h : Inv w) : Inv (step true w e).1 := by
  unfold Inv at *
  cases e with
  | send bs => simp only [step, List.length_append]; omega
  | write n =>
    rw [step_write_eq]
    split
    · exact Nat.le_refl 0
    · simp only; omega

theorem step_conserves (w : W) (e : Ev) (h : Inv w) :
    (step true w e).2 ++ pending (step true w e).1 = pending w ++ sent [e] := by
  cases e with
  | send bs => exact (List.drop_append_of_le_length h).trans (congrArg _ (List.append_nil bs).symm)
  | write n => rw [pending_step_write, step_write_eq, List.take_append_drop]; exact (List.append_nil _).symm

theorem sent_cons (e : Ev) (r : List Ev) : sent (e :: r) = sent [e] ++ sent r := by
  cases e <;> simp only [sent, List.append_nil, List.nil_append]

theorem run_conserves (evs : List Ev) : ∀ (w : W), Inv w →
    (run true w evs).2 ++ pending (run true w evs).1 = pending w ++ sent evs ∧ Inv (run true w evs).1 := by
  induction evs with
  | nil => intro w h; exact ⟨(List.append_nil _).symm, h⟩
  | cons e r ih =>
    intro w h
    obtain ⟨h2, h3⟩ := ih (step true w e).1 (step_inv w e h)
    refine ⟨?_, h3⟩
    simp only [run]
    rw [sent_cons, List.append_assoc, h2, ← List.append_assoc, step_conserves w e h, List.append_assoc]

end Ferrous.WBuf
