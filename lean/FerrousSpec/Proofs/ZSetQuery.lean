/-
  Laws of the Spec queries, and refinement of the Code queries (`get_score`, `get_rank`,
  `range_by_score`, engine `zrange`) to them on well-formed lists.
-/
import FerrousSpec.Proofs.ZSetInv
import FerrousSpec.Proofs.ZSetIndex
namespace Ferrous.ZSet
open Ferrous Code

abbrev SSorted (z : Spec.ZSet) : Prop := z.Pairwise (fun a b => entLt a b = true)

theorem insSorted_perm {α : Type} (lt : α → α → Bool) (x : α) (l : List α) :
    (insSorted lt x l).Perm (x :: l) := by
  induction l with
  | nil => exact List.Perm.refl _
  | cons y ys ih =>
    unfold insSorted
    split
    · exact (ih.cons y).trans (List.Perm.swap x y ys)
    · exact List.Perm.refl _

namespace Spec

theorem mem_zrem {m : Bytes} {z : ZSet} {e : Entry} : e ∈ zrem m z ↔ e ∈ z ∧ e.2 ≠ m := by
  simp [zrem]

theorem mem_zadd {m : Bytes} {s : Score} {z : ZSet} {e : Entry} :
    e ∈ zadd m s z ↔ e = (s, m) ∨ (e ∈ z ∧ e.2 ≠ m) := by
  simp [zadd, mem_insSorted, mem_zrem]

theorem wf_unique {z : ZSet} (h : WF z) {m : Bytes} {a b : Score}
    (ha : (a, m) ∈ z) (hb : (b, m) ∈ z) : a = b := by
  have hp : z.Pairwise (fun x y => x.2 ≠ y.2) := List.pairwise_map.mp h.2
  have := eq_of_pairwise_key (key := Prod.snd) hp (fun _ _ hxy => hxy) ha hb rfl
  exact (Prod.mk.inj this).1

theorem wf_zrem {z : ZSet} (h : WF z) (m : Bytes) : WF (zrem m z) :=
  ⟨h.1.filter _, h.2.sublist (List.filter_sublist.map _)⟩

theorem wf_zadd {z : ZSet} (h : WF z) (m : Bytes) (s : Score) : WF (zadd m s z) := by
  have hr := wf_zrem h m
  constructor
  · apply pairwise_insSorted entLt_strictTotal.trans hr.1
    intro y hy hlt
    have hne : y ≠ (s, m) := fun e => (mem_zrem.mp hy).2 (by rw [e])
    cases h2 : entLt (s, m) y
    · exact absurd (entLt_strictTotal.total _ _ hlt h2) hne
    · rfl
  · have hp : ((zadd m s z).map Prod.snd).Perm (m :: (zrem m z).map Prod.snd) :=
      (insSorted_perm entLt (s, m) (zrem m z)).map Prod.snd
    rw [hp.nodup_iff, List.nodup_cons]
    refine ⟨?_, hr.2⟩
    intro hm
    rcases List.mem_map.mp hm with ⟨e, he, hem⟩
    exact (mem_zrem.mp he).2 hem

theorem zscore_some_mem {z : ZSet} {m : Bytes} {s : Score} (h : zscore m z = some s) : (s, m) ∈ z := by
  obtain ⟨p, hp, rfl, rfl⟩ := lookup_eq_some h
  exact hp

theorem zscore_eq_none {z : ZSet} {m : Bytes} : zscore m z = none ↔ ∀ s, (s, m) ∉ z :=
  lookup_eq_none.trans ⟨fun h s hm => h _ hm rfl, fun h p hp e => h p.1 (by rw [← e]; exact hp)⟩

theorem zscore_eq_some {z : ZSet} (h : WF z) {m : Bytes} {s : Score} :
    zscore m z = some s ↔ (s, m) ∈ z := by
  constructor
  · exact zscore_some_mem
  · intro hmem
    cases hg : zscore m z with
    | none => exact absurd hmem (zscore_eq_none.mp hg s)
    | some s' => rw [wf_unique h (zscore_some_mem hg) hmem]

theorem count_of_decomp {l1 l2 : ZSet} {q : Entry} (h : SSorted (l1 ++ q :: l2)) :
    (l1 ++ q :: l2).countP (fun e => entLt e q) = l1.length ∧
    (l1 ++ q :: l2).countP (fun e => entLt q e) = l2.length := by
  have hp := List.pairwise_append.mp h
  have hq := List.pairwise_cons.mp hp.2.1
  have st := entLt_strictTotal
  constructor
  · rw [List.countP_append, List.countP_eq_length.mpr, List.countP_eq_zero.mpr]
    · simp
    · intro a ha
      rcases List.mem_cons.mp ha with rfl | ha
      · simp [st.irrefl]
      · simp [st.asymm (hq.1 a ha)]
    · intro a ha
      exact hp.2.2 a ha q List.mem_cons_self
  · rw [List.countP_append, List.countP_eq_zero.mpr, List.countP_cons_of_neg, List.countP_eq_length.mpr]
    · simp
    · intro a ha
      exact hq.1 a ha
    · simp [st.irrefl]
    · intro a ha
      simp [st.asymm (hp.2.2 a ha q List.mem_cons_self)]

theorem zrank_decomp {z : ZSet} (h : WF z) {m : Bytes} {s : Score} (hm : (s, m) ∈ z) :
    ∃ l1 l2, z = l1 ++ (s, m) :: l2 ∧ zrank m z = some l1.length ∧ zrevrank m z = some l2.length := by
  obtain ⟨l1, l2, rfl⟩ := List.append_of_mem hm
  have hs := (zscore_eq_some h).mpr hm
  have hc := count_of_decomp h.1
  refine ⟨l1, l2, rfl, ?_, ?_⟩
  · rw [zrank, hs, Option.map_some, hc.1]
  · rw [zrevrank, hs, Option.map_some, hc.2]

theorem zscore_zadd_self {z : ZSet} (h : WF z) (m : Bytes) (s : Score) : zscore m (zadd m s z) = some s :=
  (zscore_eq_some (wf_zadd h m s)).mpr (mem_zadd.mpr (Or.inl rfl))

theorem zscore_zadd_of_ne {z : ZSet} (h : WF z) {m m' : Bytes} (hne : m' ≠ m) (s : Score) :
    zscore m' (zadd m s z) = zscore m' z := by
  cases hz : zscore m' z with
  | none =>
    apply zscore_eq_none.mpr
    intro s' hs'
    rcases mem_zadd.mp hs' with e | ⟨hm, _⟩
    · exact hne (Prod.mk.inj e).2
    · exact zscore_eq_none.mp hz s' hm
  | some s' => exact (zscore_eq_some (wf_zadd h m s)).mpr (mem_zadd.mpr (Or.inr ⟨zscore_some_mem hz, hne⟩))

theorem zscore_zrem_self (m : Bytes) (z : ZSet) : zscore m (zrem m z) = none :=
  zscore_eq_none.mpr fun _ hs' => (mem_zrem.mp hs').2 rfl

theorem zrevrank_eq {z : ZSet} (h : WF z) (m : Bytes) :
    zrevrank m z = (zrank m z).map fun r => z.length - 1 - r := by
  cases hs : zscore m z with
  | none => rw [zrevrank, zrank, hs]; rfl
  | some s =>
    obtain ⟨l1, l2, hz, h1, h2⟩ := zrank_decomp h (zscore_some_mem hs)
    rw [h1, h2, hz]
    simp

theorem getElem?_zrank {z : ZSet} (h : WF z) {m : Bytes} {r : Nat} (hr : zrank m z = some r) :
    ∃ s, z[r]? = some (s, m) ∧ zscore m z = some s := by
  cases hs : zscore m z with
  | none => simp [zrank, hs] at hr
  | some s =>
    obtain ⟨l1, l2, hz, h1, _⟩ := zrank_decomp h (zscore_some_mem hs)
    rw [hr] at h1
    refine ⟨s, ?_, rfl⟩
    rw [hz, Option.some.inj h1]
    simp

theorem zrank_of_getElem? {z : ZSet} (h : WF z) {m : Bytes} {s : Score} {r : Nat}
    (hi : z[r]? = some (s, m)) : zrank m z = some r := by
  obtain ⟨l1, l2, hz, h1, _⟩ := zrank_decomp h (List.mem_of_getElem? hi)
  rw [h1]
  congr 1
  -- the entry occurs once: its position is unique
  have hnd : z.Nodup := entLt_strictTotal.nodup h.1
  have h2 : z[l1.length]? = some (s, m) := by rw [hz]; simp
  have hlt1 : l1.length < z.length := by rw [hz]; simp
  exact (List.getElem?_inj hlt1 hnd).mp (h2.trans hi.symm)

theorem rangeIdx_zero_neg_one (len : Nat) (h : 0 < len) : rangeIdx len 0 (-1) = some (0, len - 1) := by
  exact rangeIdx_eq_some.mpr (by rw [normIdx_zero, normIdx_neg_one]; omega)

theorem zrange_all (z : ZSet) : zrange z 0 (-1) = z := by
  unfold zrange
  cases z with
  | nil => simp [rangeIdx]
  | cons e r =>
    rw [rangeIdx_zero_neg_one _ (by simp)]
    exact slice_full _ (by simp)

theorem zcount_eq (z : ZSet) (lo hi : Score) : zcount z lo hi = (zrangebyscore z lo hi).length := by
  simp [zcount, zrangebyscore, List.countP_eq_length_filter]

theorem zrevrange_eq (z : ZSet) (start stop : Int) :
    zrevrange z start stop =
      match rangeIdx z.length start stop with
      | none => []
      | some (a, b) => (slice z (z.length - 1 - b) (z.length - 1 - a)).reverse := by
  unfold zrevrange
  cases hr : rangeIdx z.length start stop with
  | none => rfl
  | some p => exact slice_reverse z (rangeIdx_wf hr).1 (rangeIdx_wf hr).2

theorem zrevrange_all (z : ZSet) : zrevrange z 0 (-1) = z.reverse := by
  rw [← zrange_all z.reverse]
  simp only [zrevrange, zrange, List.length_reverse]

end Spec

theorem abs_wf {sl : SkipList} (h : Inv sl) : Spec.WF (abs sl) := by
  have hl := level0_eq_lift_abs h
  have hs : SSorted (abs sl) := by
    have := h.sorted0
    rw [hl, CSorted, List.pairwise_map] at this
    simpa using this
  refine ⟨hs, ?_⟩
  rw [List.Nodup, List.pairwise_map]
  apply hs.imp_of_mem
  intro a b ha hb hlt e
  have ha' : (CScore.num a.1, a.2) ∈ level0 sl := by
    rw [hl]; exact List.mem_map.mpr ⟨a, ha, rfl⟩
  have hb' : (CScore.num b.1, a.2) ∈ level0 sl := by
    rw [hl, e]; exact List.mem_map.mpr ⟨b, hb, rfl⟩
  have := h.member_unique ha' hb'
  have hab : a = b := Prod.ext (CScore.num.inj this) e
  rw [hab, entLt_strictTotal.irrefl] at hlt
  exact Bool.noConfusion hlt

theorem mem_level0_iff {sl : SkipList} (h : Inv sl) {s : Score} {m : Bytes} :
    (CScore.num s, m) ∈ level0 sl ↔ (s, m) ∈ abs sl := by
  rw [level0_eq_lift_abs h, List.mem_map]
  constructor
  · rintro ⟨e, he, hl⟩
    exact lift_injective (b := (s, m)) hl ▸ he
  · intro hm
    exact ⟨(s, m), hm, rfl⟩

theorem getScore_refines {sl : SkipList} (h : Inv sl) (m : Bytes) :
    getScore m sl = (Spec.zscore m (abs sl)).map CScore.num := by
  unfold getScore
  cases hz : Spec.zscore m (abs sl) with
  | none =>
    simp only [Option.map_none]
    apply idxGet_eq_none.mpr
    intro sc hsc
    have hl := (h.idxMap m sc).mp hsc
    cases sc with
    | nan => exact h.noNaN _ hl rfl
    | num s => exact Spec.zscore_eq_none.mp hz s ((mem_level0_iff h).mp hl)
  | some s =>
    simp only [Option.map_some]
    apply (idxGet_eq_some h.idxSorted).mpr
    apply (h.idxMap m _).mpr
    exact (mem_level0_iff h).mpr (Spec.zscore_some_mem hz)

theorem rankWalk_eq {q : CEntry} : ∀ {l : List CEntry} (r : Nat), CSorted l → q ∈ l →
    rankWalk centLt (fun a b => decide (a = b)) q l r = some (r + l.countP (fun e => centLt e q))
  | [], _, _, h => by simp at h
  | y :: ys, r, hs, h => by
    have hp := List.pairwise_cons.mp hs
    unfold rankWalk
    split
    · rename_i hlt
      have hq : q ∈ ys := by
        rcases List.mem_cons.mp h with e | h
        · exact absurd e.symm (centLt_strictTotal.ne hlt)
        · exact h
      rw [rankWalk_eq (r + 1) hp.2 hq, List.countP_cons_of_pos (p := fun e => centLt e q) hlt]
      congr 1
      omega
    · rename_i hnlt
      have hyq : y = q := by
        rcases List.mem_cons.mp h with e | h
        · exact e.symm
        · exact absurd (hp.1 q h) hnlt
      subst hyq
      have : ys.countP (fun e => centLt e y) = 0 := by
        apply List.countP_eq_zero.mpr
        intro a ha
        simp [centLt_strictTotal.asymm (hp.1 a ha)]
      rw [List.countP_cons_of_neg (p := fun e => centLt e y) (by simpa using hnlt), this]
      simp

theorem rankWalk_congr {lt lt' eq eq' : CEntry → CEntry → Bool} {q : CEntry} : ∀ {l : List CEntry} (r : Nat),
    (∀ y ∈ l, lt y q = lt' y q ∧ eq y q = eq' y q) → rankWalk lt eq q l r = rankWalk lt' eq' q l r
  | [], _, _ => rfl
  | y :: ys, r, h => by
    simp only [rankWalk, (h y List.mem_cons_self).1, (h y List.mem_cons_self).2,
      rankWalk_congr (r + 1) (fun z hz => h z (List.mem_cons_of_mem _ hz))]

theorem getRank_refines {sl : SkipList} (h : Inv sl) (m : Bytes) :
    getRank m sl = Spec.zrank m (abs sl) := by
  have hg := getScore_refines h m
  unfold getScore at hg
  unfold getRank Spec.zrank
  rw [hg]
  cases hz : Spec.zscore m (abs sl) with
  | none => rfl
  | some s =>
    simp only [Option.map_some]
    have hm : (CScore.num s, m) ∈ level0 sl := (mem_level0_iff h).mpr (Spec.zscore_some_mem hz)
    rw [rankWalk_congr (lt' := centLt) (eq' := fun a b => decide (a = b)) 0
        (fun y hy => ⟨ccmp_eq_cent (h.only_member hm y hy), ccmpEq_eq (h.only_member hm y hy)⟩),
      rankWalk_eq 0 h.sorted0 hm, level0_eq_lift_abs h, List.countP_map]
    simp only [Nat.zero_add, Option.some.injEq]
    apply List.countP_congr
    intro e _
    show centLt (lift e) (lift (s, m)) = true ↔ entLt e (s, m) = true
    rw [centLt_lift]

/-! `range_by_score` on a list sorted by score is the filter -/

theorem takeWhile_le_eq_filter (hi : Score) : ∀ {z : Spec.ZSet}, z.Pairwise (fun a b => a.1.le b.1 = true) →
    z.takeWhile (fun e => e.1.le hi) = z.filter (fun e => e.1.le hi)
  | [], _ => rfl
  | e :: r, hs => by
    have hp := List.pairwise_cons.mp hs
    by_cases he : e.1.le hi = true
    · rw [List.takeWhile_cons_of_pos (p := fun e : Entry => e.1.le hi) he, List.filter_cons_of_pos (p := fun e : Entry => e.1.le hi) he, takeWhile_le_eq_filter hi hp.2]
    · rw [List.takeWhile_cons_of_neg (p := fun e : Entry => e.1.le hi) he, List.filter_cons_of_neg (p := fun e : Entry => e.1.le hi) he]
      symm
      apply List.filter_eq_nil_iff.mpr
      intro a ha hah
      exact he (Score.le_trans (hp.1 a ha) hah)

theorem dropTake_eq_filter (lo hi : Score) : ∀ {z : Spec.ZSet}, z.Pairwise (fun a b => a.1.le b.1 = true) →
    (z.dropWhile (fun e => e.1.lt lo)).takeWhile (fun e => e.1.le hi) =
      z.filter (fun e => lo.le e.1 && e.1.le hi)
  | [], _ => rfl
  | e :: r, hs => by
    have hp := List.pairwise_cons.mp hs
    by_cases he : e.1.lt lo = true
    · have hne : (lo.le e.1 && e.1.le hi) = false := by simp [Score.le, he]
      rw [List.dropWhile_cons_of_pos (p := fun e : Entry => e.1.lt lo) he, List.filter_cons_of_neg (p := fun e : Entry => lo.le e.1 && e.1.le hi) (by simp [hne]), dropTake_eq_filter lo hi hp.2]
    · rw [List.dropWhile_cons_of_neg (p := fun e : Entry => e.1.lt lo) he, takeWhile_le_eq_filter hi hs]
      apply List.filter_congr
      intro a ha
      have hlo : lo.le e.1 = true := by simpa [Score.le] using he
      have : lo.le a.1 = true := by
        rcases List.mem_cons.mp ha with rfl | ha
        · exact hlo
        · exact Score.le_trans hlo (hp.1 a ha)
      simp [this]

theorem ssorted_scores {z : Spec.ZSet} (h : SSorted z) : z.Pairwise (fun a b => a.1.le b.1 = true) := by
  apply h.imp
  intro a b hlt
  simp only [entLt, Bool.or_eq_true, Bool.and_eq_true] at hlt
  rcases hlt with hlt | ⟨e, _⟩
  · exact Score.le_of_lt hlt
  · exact Score.le_of_eqv e

theorem rangeByScore_refines {sl : SkipList} (h : Inv sl) (lo hi : Score) :
    rangeByScore (.num lo) (.num hi) sl = (Spec.zrangebyscore (abs sl) lo hi).map lift := by
  unfold rangeByScore Spec.zrangebyscore
  rw [level0_eq_lift_abs h, ← dropTake_eq_filter lo hi (ssorted_scores (abs_wf h).1),
    List.dropWhile_map, List.takeWhile_map]
  rfl

/-- What is stored under a key is a well-formed, non-empty skip list. -/
def KeyInv (k : ZKey) : Prop := ∀ sl, k = some sl → Inv sl ∧ level0 sl ≠ []

def absKey : ZKey → Spec.ZSet
  | none => []
  | some sl => abs sl

theorem slice_map {α β : Type} (f : α → β) (l : List α) (a b : Nat) :
    slice (l.map f) a b = (slice l a b).map f := by
  simp [slice, List.map_take, List.map_drop]

theorem abs_length {sl : SkipList} (h : Inv sl) : (abs sl).length = sl.length := by
  rw [h.len, level0_eq_lift_abs h, List.length_map]

theorem spec_zrange_nil (start stop : Int) : Spec.zrange [] start stop = [] ∧ Spec.zrevrange [] start stop = [] := by
  have : Spec.rangeIdx 0 start stop = none := by
    cases hr : Spec.rangeIdx 0 start stop with
    | none => rfl
    | some p => have := rangeIdx_wf (a := p.1) (b := p.2) hr; omega
  simp [Spec.zrange, Spec.zrevrange, this]

theorem zrange_refines_of {sl : SkipList} (h : Inv sl) (fixed rev : Bool) (start stop : Int)
    (hidx : 0 < sl.length → normIv sl.length (zrangeIdx fixed rev sl.length start stop) =
      if rev then (Spec.rangeIdx sl.length start stop).map (flipIv sl.length) else Spec.rangeIdx sl.length start stop) :
    Code.zrange fixed start stop rev (some sl) =
      ((if rev then Spec.zrevrange (abs sl) start stop else Spec.zrange (abs sl) start stop)).map lift := by
  have hlen := abs_length h
  unfold Code.zrange
  by_cases h0 : sl.length = 0
  · have hz : abs sl = [] := List.eq_nil_of_length_eq_zero (hlen.trans h0)
    simp [h0, hz, spec_zrange_nil]
  · have hpos : 0 < sl.length := Nat.pos_of_ne_zero h0
    have hidx := hidx hpos
    simp only [beq_iff_eq, h0, if_false]
    have key : (match zrangeIdx fixed rev sl.length start stop with
        | none => ([] : List CEntry)
        | some (a, b) => if rev = true then (rangeByRank a b sl).reverse else rangeByRank a b sl) =
        (match normIv sl.length (zrangeIdx fixed rev sl.length start stop) with
        | none => ([] : List CEntry)
        | some (a, b) => if rev = true then (slice (level0 sl) a b).reverse else slice (level0 sl) a b) := by
      cases hz : zrangeIdx fixed rev sl.length start stop with
      | none => simp [normIv]
      | some p =>
        obtain ⟨a, b⟩ := p
        simp only
        rw [rangeByRank_norm sl h.len a b]
        cases hn : normIv sl.length (some (a, b)) with
        | none => simp
        | some p' => rfl
    refine key.trans ?_
    rw [hidx, level0_eq_lift_abs h]
    cases rev with
    | false =>
      simp only [Bool.false_eq_true, if_false, Spec.zrange, hlen]
      cases hr : Spec.rangeIdx sl.length start stop with
      | none => rfl
      | some p => obtain ⟨a, b⟩ := p; simp only [slice_map]
    | true =>
      simp only [if_true, Spec.zrevrange_eq, hlen]
      cases hr : Spec.rangeIdx sl.length start stop with
      | none => rfl
      | some p => obtain ⟨a, b⟩ := p; simp only [Option.map_some, flipIv, slice_map, List.map_reverse]

end Ferrous.ZSet
