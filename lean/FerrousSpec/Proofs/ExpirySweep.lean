/-
  What a storage call leaves alone (frame); the sweeper's delete phase as one of three cases per key; runs of the
  machine that interleaves client calls with sweeper phases refine the instant-expiry store.
-/
import FerrousSpec.Proofs.ExpiryRefine
namespace Ferrous.Exp
open Ferrous

theorem site_touches {o : Op} {fn : String} {k : Key} (h : o.site = some (fn, k)) : touches o k = true := by
  cases o <;> cases h <;> simp [touches]

theorem step_frame (c : Cfg) (o : Op) (now : Nat) (s : Shard) (x : Key) (h : touches o x = false) :
    lookup (step c o now s).1.data x = lookup s.data x := by
  have hx : ∀ y, touches o y = true → x ≠ y := fun y hy e => by rw [← e, h] at hy; cases hy
  cases hs : o.site with
  | some p =>
    rw [step_of_site c hs, lookup_applyWrites_other _ _ x fun w hw => hx _ (dataWrites_spec o now _ w hw).1]
    exact (enter_frame c p.1 now s p.2 x (hx _ (site_touches hs))).1
  | none =>
    rcases step_of_no_site c hs now s with h' | rfl
    · rw [h']
    · cases h

/-- The delete phase for one key leaves the shard unchanged (without the re-check, when `data` has no entry), or brings the index entry of
    `k` in step with the stored deadline (with the re-check, when the entry is not removed), or removes `k` from both
    maps — with the re-check only an entry whose stored deadline has passed. -/
theorem sweepDeleteKey_cases (c : Cfg) (now : Nat) (s : Shard) (k : Key) :
    sweepDeleteKey c now s k = s ∨
    sweepDeleteKey c now s k = ⟨s.data, applyWrites s.expiring [(k, (lookup s.data k).bind (·.deadline))]⟩ ∨
    (sweepDeleteKey c now s k = ⟨erase s.data k, erase s.expiring k⟩ ∧
      (c.sweeperRechecks = true → ∃ e, lookup s.data k = some e ∧ expired now e = true)) := by
  unfold sweepDeleteKey
  cases hl : lookup s.data k with
  | none =>
    cases c.sweeperRechecks
    · exact .inl rfl
    · exact .inr (.inl rfl)
  | some e =>
    simp only []
    cases hr : c.sweeperRechecks with
    | false => exact .inr (.inr ⟨rfl, nofun⟩)
    | true =>
      cases he : expired now e with
      | true => exact .inr (.inr ⟨rfl, fun _ => ⟨e, rfl, he⟩⟩)
      | false =>
        refine .inr (.inl ?_)
        show _ = (⟨s.data, applyWrites s.expiring [(k, e.deadline)]⟩ : Shard)
        cases e.deadline <;> rfl

theorem sweepDeleteKey_other (c : Cfg) (now : Nat) (s : Shard) (k x : Key) (h : x ≠ k) :
    lookup (sweepDeleteKey c now s k).data x = lookup s.data x := by
  rcases sweepDeleteKey_cases c now s k with h' | h' | ⟨h', -⟩ <;> rw [h']
  exact lookup_erase_other _ _ _ h

theorem sweepDeleteKey_keeps_live (c : Cfg) (hr : c.sweeperRechecks = true) (now : Nat) (s : Shard) (k x : Key) (e : Stored)
    (hl : lookup s.data x = some e) (he : expired now e = false) :
    lookup (sweepDeleteKey c now s k).data x = some e := by
  rcases sweepDeleteKey_cases c now s k with h' | h' | ⟨h', hd⟩ <;> rw [h']
  · exact hl
  · exact hl
  · by_cases hx : x = k
    · obtain ⟨e', hl', he'⟩ := hd hr
      rw [hx, hl'] at hl; cases hl; rw [he] at he'; cases he'
    · rw [lookup_erase_other _ _ _ hx]; exact hl

theorem sweepDelete_keeps_live (c : Cfg) (hr : c.sweeperRechecks = true) (now : Nat) (ks : List Key) (s : Shard) (x : Key) (e : Stored)
    (hl : lookup s.data x = some e) (he : expired now e = false) :
    lookup (sweepDelete c now ks s).data x = some e := by
  induction ks generalizing s with
  | nil => exact hl
  | cons k r ih =>
    simp only [sweepDelete, List.foldl_cons]
    exact ih _ (sweepDeleteKey_keeps_live c hr now s k x e hl he)

theorem sweepDelete_other (c : Cfg) (now : Nat) (ks : List Key) (s : Shard) (x : Key) (h : x ∉ ks) :
    lookup (sweepDelete c now ks s).data x = lookup s.data x := by
  induction ks generalizing s with
  | nil => rfl
  | cons k r ih =>
    simp only [List.mem_cons, not_or] at h
    simp only [sweepDelete, List.foldl_cons]
    rw [← sweepDeleteKey_other c now s k x h.1]
    exact ih _ h.2

theorem sweepDeleteKey_nodup (c : Cfg) (now : Nat) (s : Shard) (k : Key) (hn : NodupKeys s.data) :
    NodupKeys (sweepDeleteKey c now s k).data := by
  rcases sweepDeleteKey_cases c now s k with h' | h' | ⟨h', -⟩ <;> rw [h']
  · exact hn
  · exact hn
  · exact nodup_erase _ _ hn

theorem sweepDelete_nodup (c : Cfg) (now : Nat) (ks : List Key) (s : Shard) (hn : NodupKeys s.data) :
    NodupKeys (sweepDelete c now ks s).data := by
  induction ks generalizing s with
  | nil => exact hn
  | cons k r ih => exact ih _ (sweepDeleteKey_nodup c now s k hn)

/-- with the re-check, a delete phase is invisible: what is visible at any later time is unchanged -/
theorem sweepDeleteKey_view (c : Cfg) (hr : c.sweeperRechecks = true) (now t : Nat) (ht : now ≤ t) (s : Shard) (k : Key)
    (hn : NodupKeys s.data) : Spec.purge t (sweepDeleteKey c now s k).data = Spec.purge t s.data := by
  rcases sweepDeleteKey_cases c now s k with h' | h' | ⟨h', hd⟩ <;> rw [h']
  obtain ⟨e, hl, he⟩ := hd hr
  exact purge_of_lookup_dead t s.data k e hn hl (expired_mono now t e ht he)

theorem sweepDelete_view (c : Cfg) (hr : c.sweeperRechecks = true) (now t : Nat) (ht : now ≤ t) (ks : List Key) (s : Shard)
    (hn : NodupKeys s.data) : Spec.purge t (sweepDelete c now ks s).data = Spec.purge t s.data := by
  induction ks generalizing s with
  | nil => rfl
  | cons k r ih =>
    simp only [sweepDelete, List.foldl_cons]
    have := ih (sweepDeleteKey c now s k) (sweepDeleteKey_nodup c now s k hn)
    simp only [sweepDelete] at this
    rw [this, sweepDeleteKey_view c hr now t ht s k hn]

/-- NO SPURIOUS DELETE along a run: at every sweeper step, every stored entry whose STORED deadline is absent or
    has not passed at that moment is still stored, unchanged, after the step. -/
def SweepSafe (c : Cfg) : M → List Step → Prop
  | _, [] => True
  | m, st :: r =>
    (st.isSweeper = true → ∀ k e, lookup m.shard.data k = some e → expired st.time e = false →
        lookup (next c m st).1.shard.data k = some e) ∧ SweepSafe c (next c m st).1 r

theorem sweepSafe_of_recheck (c : Cfg) (hr : c.sweeperRechecks = true) (steps : List Step) (m : M) : SweepSafe c m steps := by
  induction steps generalizing m with
  | nil => trivial
  | cons st r ih =>
    refine ⟨?_, ih _⟩
    intro hs k e hl he
    cases st with
    | op o now => simp [Step.isSweeper] at hs
    | collect now => exact hl
    | delete now => exact sweepDelete_keeps_live c hr now m.pending m.shard k e hl he

/-- a step of the machine that is not a client call about `k` -/
def Step.avoids (k : Key) : Step → Bool
  | .op o _ => !touches o k
  | _ => true

/-- VISIBLE UNTIL THE DEADLINE / NEVER DELETED WITHOUT ONE: with the re-check, an entry survives, unchanged, every
    run of sweeper phases and client calls about other keys, as long as its stored deadline has not passed. -/
theorem entry_survives (c : Cfg) (hr : c.sweeperRechecks = true) (k : Key) (e : Stored) (steps : List Step) (m : M)
    (hl : lookup m.shard.data k = some e)
    (hq : ∀ st ∈ steps, st.avoids k = true)
    (ht : ∀ st ∈ steps, expired st.time e = false) :
    lookup (runM c m steps).shard.data k = some e := by
  induction steps generalizing m with
  | nil => exact hl
  | cons st r ih =>
    simp only [runM, List.foldl_cons]
    apply ih
    · cases st with
      | op o now =>
        have := hq (.op o now) (by simp)
        simp only [Step.avoids, Bool.not_eq_true'] at this
        simp only [next]
        rw [step_frame c o now m.shard k this]; exact hl
      | collect now => exact hl
      | delete now =>
        exact sweepDelete_keeps_live c hr now m.pending m.shard k e hl (ht (.delete now) (by simp))
    · intro st hst; exact hq st (List.mem_cons_of_mem _ hst)
    · intro st hst; exact ht st (List.mem_cons_of_mem _ hst)

theorem purge_eq_mono (t0 t : Nat) (a b : Db) (h : t0 ≤ t) (hab : Spec.purge t0 a = Spec.purge t0 b) :
    Spec.purge t a = Spec.purge t b := by
  rw [← purge_purge_le t0 t a h, ← purge_purge_le t0 t b h, hab]

theorem Spec.step_congr (o : Op) (now : Nat) (d1 d2 : Db) (h : Spec.purge now d1 = Spec.purge now d2) :
    Spec.step o now d1 = Spec.step o now d2 := by
  simp only [Spec.step, h]

/-- every client call of the run satisfies `p` -/
def allOps (p : Op → Bool) : List Step → Bool
  | [] => true
  | .op o _ :: r => p o && allOps p r
  | _ :: r => allOps p r

theorem allOps_mono {p q : Op → Bool} (h : ∀ o, p o = true → q o = true) (steps : List Step)
    (hp : allOps p steps = true) : allOps q steps = true := by
  induction steps with
  | nil => rfl
  | cons st r ih =>
    cases st with
    | op o t =>
      simp only [allOps, Bool.and_eq_true] at hp ⊢
      exact ⟨h o hp.1, ih hp.2⟩
    | _ => exact ih hp

theorem allOps_of_all {p : Op → Bool} (h : ∀ o, p o = true) (steps : List Step) : allOps p steps = true := by
  induction steps with
  | nil => rfl
  | cons st r ih => cases st <;> simp [allOps, h, ih]

theorem allOps_iff {p : Op → Bool} {steps : List Step} :
    allOps p steps = true ↔ ∀ st ∈ steps, match st with | .op o _ => p o = true | _ => True := by
  induction steps with
  | nil => simp [allOps]
  | cons st r ih => cases st <;> simp [allOps, ih]

/-- REFINEMENT OVER ALL INTERLEAVINGS: when every storage call of the run has a lazy test and the sweeper re-checks, the
    run — client calls interleaved in any way with sweeper phases — returns exactly what the instant-expiry store returns. -/
theorem run_refines_of (c : Cfg) (hr : c.sweeperRechecks = true) (steps : List Step) (m : M) (db : Db) (t0 : Nat)
    (hl : allOps (lazyOp c) steps = true)
    (hn : NodupKeys m.shard.data) (hv : Spec.purge t0 m.shard.data = Spec.purge t0 db) (hm : monotoneFrom t0 steps = true) :
    trace c m steps = Spec.trace db steps := by
  induction steps generalizing m db t0 with
  | nil => rfl
  | cons st r ih =>
    simp only [monotoneFrom, Bool.and_eq_true, decide_eq_true_eq] at hm
    cases st with
    | op o now =>
      simp only [Step.time] at hm
      simp only [allOps, Bool.and_eq_true] at hl
      have hv' := purge_eq_mono t0 now _ _ hm.1 hv
      have href := step_refines c o now m.shard hn (Or.inl hl.1)
      have hcg := Spec.step_congr o now _ _ hv'
      simp only [trace, next, Spec.trace]
      rw [href.2, hcg]
      congr 1
      apply ih _ _ now hl.2 (step_nodup c o now m.shard hn) _ hm.2
      simp only []
      rw [href.1, hcg, ← hcg, ← href.1, purge_idem]
    | collect now =>
      simp only [Step.time] at hm
      simp only [allOps] at hl
      simp only [trace, next, Spec.trace]
      exact ih _ _ now hl hn (purge_eq_mono t0 now _ _ hm.1 hv) hm.2
    | delete now =>
      simp only [Step.time] at hm
      simp only [allOps] at hl
      simp only [trace, next, Spec.trace]
      apply ih _ _ now hl (sweepDelete_nodup c now m.pending m.shard hn) _ hm.2
      simp only []
      rw [sweepDelete_view c hr now now (Nat.le_refl _) m.pending m.shard hn]
      exact purge_eq_mono t0 now _ _ hm.1 hv

end Ferrous.Exp
