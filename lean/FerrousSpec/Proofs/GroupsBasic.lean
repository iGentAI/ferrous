/-
  C16: the id order, association lists, the sorted pending list.
-/
import FerrousSpec.Model.Groups
namespace Ferrous.Grp

theorem idLt_iff {a b : Id} : idLt a b = true ↔ a.1 < b.1 ∨ (a.1 = b.1 ∧ a.2 < b.2) := by
  simp [idLt]

theorem idLt_irrefl (a : Id) : idLt a a = false := by
  cases h : idLt a a with
  | false => rfl
  | true => rw [idLt_iff] at h; omega

theorem idLt_trans {a b c : Id} (h₁ : idLt a b = true) (h₂ : idLt b c = true) : idLt a c = true := by
  rw [idLt_iff] at *; omega

theorem idLt_asymm {a b : Id} (h : idLt a b = true) : idLt b a = false := by
  cases h' : idLt b a with
  | false => rfl
  | true => rw [idLt_iff] at *; omega

theorem idLt_ne {a b : Id} (h : idLt a b = true) : a ≠ b := by
  intro e; subst e; rw [idLt_irrefl] at h; cases h

theorem idLt_total (a b : Id) : idLt a b = true ∨ a = b ∨ idLt b a = true := by
  rcases a with ⟨a1, a2⟩; rcases b with ⟨b1, b2⟩
  simp only [idLt_iff, Prod.mk.injEq]; omega

theorem idLe_iff {a b : Id} : idLe a b = true ↔ idLt a b = true ∨ a = b := by
  unfold idLe
  rcases idLt_total a b with h | h | h
  · simp [h, idLt_asymm h]
  · subst h; simp [idLt_irrefl]
  · simp only [h, Bool.not_true, Bool.false_eq_true, false_iff, not_or]
    exact ⟨by simp [idLt_asymm h], fun e => idLt_ne h e.symm⟩

theorem not_idLt_iff {a b : Id} : idLt a b = false ↔ idLe b a = true := by
  unfold idLe; cases idLt a b <;> simp

theorem idLt_le_false {a b : Id} (h₁ : idLt a b = true) (h₂ : idLe b a = true) : False := by
  rw [idLe, h₁] at h₂; cases h₂

theorem idLt_of_not_idLe {a b : Id} (h : ¬ idLe a b = true) : idLt b a = true := by
  unfold idLe at h
  cases hx : idLt b a with
  | false => rw [hx] at h; exact absurd rfl h
  | true => rfl

theorem idLt_of_lt_of_le {a b c : Id} (h₁ : idLt a b = true) (h₂ : idLe b c = true) : idLt a c = true := by
  rcases idLe_iff.mp h₂ with h | h
  · exact idLt_trans h₁ h
  · subst h; exact h₁

theorem idLt_of_le_of_lt {a b c : Id} (h₁ : idLe a b = true) (h₂ : idLt b c = true) : idLt a c = true := by
  rcases idLe_iff.mp h₁ with h | h
  · exact idLt_trans h h₂
  · subst h; exact h₂

theorem idLe_refl (a : Id) : idLe a a = true := idLe_iff.mpr (Or.inr rfl)

theorem idLe_trans {a b c : Id} (h₁ : idLe a b = true) (h₂ : idLe b c = true) : idLe a c = true := by
  rcases idLe_iff.mp h₁ with h | h
  · exact idLe_iff.mpr (Or.inl (idLt_of_lt_of_le h h₂))
  · subst h; exact h₂

theorem idLe_of_lt {a b : Id} (h : idLt a b = true) : idLe a b = true := idLe_iff.mpr (Or.inl h)

theorem nodup_concat {α : Type} {l : List α} {a : α} : (l ++ [a]).Nodup ↔ l.Nodup ∧ a ∉ l := by
  rw [List.nodup_append]
  constructor
  · rintro ⟨h, _, hd⟩; exact ⟨h, fun ha => hd a ha a List.mem_cons_self rfl⟩
  · rintro ⟨h, ha⟩
    refine ⟨h, List.pairwise_singleton _ _, ?_⟩
    intro x hx b hb e
    rw [List.mem_singleton] at hb
    exact ha (hb ▸ e ▸ hx)

theorem idLe_zero (x : Id) : idLe (0, 0) x = true := by
  rw [idLe_iff, idLt_iff]
  rcases x with ⟨a, b⟩
  simp only [Prod.mk.injEq]; omega

section AL
variable {β : Type}

theorem alGet_eq_none_iff {k : Name} {l : List (Name × β)} : alGet k l = none ↔ k ∉ keys l := by
  induction l with
  | nil => simp [alGet, keys]
  | cons p t ih =>
    simp only [alGet, keys, List.map_cons, List.mem_cons, not_or]
    by_cases h : p.1 = k
    · simp [h]
    · simp only [h, if_false]
      rw [ih]; simp only [keys]
      exact ⟨fun h' => ⟨fun e => h e.symm, h'⟩, fun h' => h'.2⟩

theorem mem_of_alGet {k : Name} {v : β} {l : List (Name × β)} (h : alGet k l = some v) : (k, v) ∈ l := by
  induction l with
  | nil => simp [alGet] at h
  | cons p t ih =>
    simp only [alGet] at h
    by_cases hk : p.1 = k
    · simp only [hk, if_true, Option.some.injEq] at h
      rcases p with ⟨a, b⟩
      simp only at hk h; subst hk; subst h; exact List.mem_cons_self
    · simp only [hk, if_false] at h
      exact List.mem_cons_of_mem _ (ih h)

theorem alGet_of_mem {k : Name} {v : β} {l : List (Name × β)} (hn : (keys l).Nodup) (h : (k, v) ∈ l) :
    alGet k l = some v := by
  induction l with
  | nil => cases h
  | cons p t ih =>
    simp only [keys, List.map_cons, List.nodup_cons] at hn
    simp only [alGet]
    rcases List.mem_cons.mp h with h | h
    · subst h; simp
    · have : p.1 ≠ k := by
        intro e; apply hn.1; rw [e]
        exact List.mem_map.mpr ⟨(k, v), h, rfl⟩
      simp only [this, if_false]
      exact ih hn.2 h

theorem alGet_eq_some_iff {k : Name} {v : β} {l : List (Name × β)} (hn : (keys l).Nodup) :
    alGet k l = some v ↔ (k, v) ∈ l := ⟨mem_of_alGet, alGet_of_mem hn⟩

theorem alGet_alSet (j k : Name) (v : β) (l : List (Name × β)) :
    alGet j (alSet k v l) = if k = j then some v else alGet j l := by
  induction l with
  | nil => simp [alSet, alGet]
  | cons p t ih =>
    simp only [alSet]
    by_cases h : p.1 = k
    · simp only [h, if_true, alGet]
      by_cases hj : k = j <;> simp [hj]
    · simp only [h, if_false, alGet, ih]
      by_cases hj : k = j
      · subst hj; simp [h]
      · simp [hj]

theorem keys_alSet (k : Name) (v : β) (l : List (Name × β)) :
    keys (alSet k v l) = if k ∈ keys l then keys l else keys l ++ [k] := by
  induction l with
  | nil => simp [alSet, keys]
  | cons p t ih =>
    simp only [alSet]
    by_cases h : p.1 = k
    · simp [h, keys]
    · have h' : ¬ k = p.1 := fun e => h e.symm
      simp only [h, if_false, keys, List.map_cons, List.mem_cons, h', false_or] at ih ⊢
      rw [ih]
      by_cases hm : k ∈ List.map (fun x => x.fst) t <;> simp [hm]

theorem nodup_keys_alSet {k : Name} {v : β} {l : List (Name × β)} (hn : (keys l).Nodup) :
    (keys (alSet k v l)).Nodup := by
  rw [keys_alSet]
  split
  · exact hn
  · rename_i h
    rw [List.nodup_append]
    refine ⟨hn, by simp, ?_⟩
    intro a ha b hb
    simp only [List.mem_singleton] at hb; subst hb
    intro e; subst e; exact h ha

theorem mem_alSet {k : Name} {v : β} {l : List (Name × β)} (hn : (keys l).Nodup) (p : Name × β) :
    p ∈ alSet k v l ↔ (p.1 ≠ k ∧ p ∈ l) ∨ p = (k, v) := by
  rw [← alGet_eq_some_iff (nodup_keys_alSet hn) (k := p.1) (v := p.2), alGet_alSet,
    ← alGet_eq_some_iff hn (k := p.1) (v := p.2)]
  split
  · rename_i hk
    refine ⟨fun hv => Or.inr (Prod.ext hk.symm (Option.some.inj hv).symm), fun hp => ?_⟩
    rcases hp with ⟨hne, _⟩ | rfl
    · exact absurd hk.symm hne
    · rfl
  · rename_i hk
    refine ⟨fun hv => Or.inl ⟨fun e => hk e.symm, hv⟩, fun hp => ?_⟩
    rcases hp with ⟨_, hv⟩ | rfl
    · exact hv
    · exact absurd rfl hk

theorem mem_alErase {k : Name} {l : List (Name × β)} (p : Name × β) :
    p ∈ alErase k l ↔ p.1 ≠ k ∧ p ∈ l := by
  simp [alErase, and_comm]

theorem alGet_alErase (j k : Name) (l : List (Name × β)) :
    alGet j (alErase k l) = if k = j then none else alGet j l := by
  induction l with
  | nil => simp [alErase, alGet]
  | cons p t ih =>
    simp only [alErase, List.filter_cons] at ih ⊢
    by_cases h : p.1 = k
    · simp only [h, bne_self_eq_false, Bool.false_eq_true, if_false, ih, alGet]
      by_cases hj : k = j <;> simp [hj]
    · have : (p.1 != k) = true := by simp [h]
      simp only [this, if_true, alGet, ih]
      by_cases hj : k = j
      · subst hj; simp [h]
      · simp [hj]

theorem keys_alErase (k : Name) (l : List (Name × β)) :
    keys (alErase k l) = (keys l).filter (fun x => x != k) := by
  simp only [keys, alErase, List.filter_map]
  rfl

theorem nodup_keys_alErase {k : Name} {l : List (Name × β)} (hn : (keys l).Nodup) :
    (keys (alErase k l)).Nodup := by
  rw [keys_alErase]; exact hn.filter _

theorem getD_alGet_of_mem {l : List (Name × β)} (hn : (keys l).Nodup) {p : Name × β} (hp : p ∈ l) (d : β) :
    (alGet p.1 l).getD d = p.2 := by
  rw [alGet_of_mem hn (show (p.1, p.2) ∈ l from hp)]; rfl

theorem mem_of_getD_alGet_ne {l : List (Name × β)} {k : Name} {d : β} (h : (alGet k l).getD d ≠ d) :
    (k, (alGet k l).getD d) ∈ l := by
  cases hg : alGet k l with
  | none => rw [hg] at h; exact absurd rfl h
  | some v => exact mem_of_alGet hg

theorem alSet_same {k : Name} {v : β} {l : List (Name × β)} (h : alGet k l = some v) : alSet k v l = l := by
  induction l with
  | nil => simp [alGet] at h
  | cons p t ih =>
    simp only [alGet] at h
    simp only [alSet]
    by_cases hk : p.1 = k
    · simp only [hk, if_true, Option.some.injEq] at h ⊢
      rcases p with ⟨a, b⟩; simp only at hk h; subst hk; subst h; rfl
    · simp only [hk, if_false] at h ⊢
      rw [ih h]

theorem alSet_alSet (k : Name) (v w : β) (l : List (Name × β)) : alSet k w (alSet k v l) = alSet k w l := by
  induction l with
  | nil => simp [alSet]
  | cons p t ih =>
    simp only [alSet]
    by_cases hk : p.1 = k
    · simp [hk, alSet]
    · simp [hk, alSet, ih]

end AL

abbrev Sorted (l : List PEntry) : Prop := l.Pairwise (fun a b => idLt a.id b.id = true)

theorem sorted_unique {l : List PEntry} (hs : Sorted l) {a b : PEntry} (ha : a ∈ l) (hb : b ∈ l)
    (h : a.id = b.id) : a = b := by
  induction l with
  | nil => cases ha
  | cons x t ih =>
    rw [Sorted, List.pairwise_cons] at hs
    rcases List.mem_cons.mp ha with ha | ha <;> rcases List.mem_cons.mp hb with hb | hb
    · rw [ha, hb]
    · rw [ha] at h; exact absurd h (idLt_ne (hs.1 b hb))
    · rw [hb] at h; exact absurd h.symm (idLt_ne (hs.1 a ha))
    · exact ih hs.2 ha hb

theorem pelFind_some {id : Id} {l : List PEntry} {e : PEntry} (h : pelFind id l = some e) :
    e ∈ l ∧ e.id = id := by
  unfold pelFind at h
  exact ⟨List.mem_of_find?_eq_some h, by simpa using List.find?_some h⟩

theorem pelFind_of_mem {l : List PEntry} (hs : Sorted l) {e : PEntry} (he : e ∈ l) :
    pelFind e.id l = some e := by
  cases h : pelFind e.id l with
  | none =>
    unfold pelFind at h
    rw [List.find?_eq_none] at h
    have := h e he; simp at this
  | some e' =>
    have := pelFind_some h
    rw [sorted_unique hs this.1 he this.2]

theorem pelFind_none {id : Id} {l : List PEntry} : pelFind id l = none ↔ ∀ e ∈ l, e.id ≠ id := by
  unfold pelFind
  rw [List.find?_eq_none]
  simp

theorem mem_pelRemove {id : Id} {l : List PEntry} {e : PEntry} : e ∈ pelRemove id l ↔ e ∈ l ∧ e.id ≠ id := by
  simp [pelRemove]

theorem sorted_pelRemove {id : Id} {l : List PEntry} (hs : Sorted l) : Sorted (pelRemove id l) :=
  hs.filter _

theorem length_pelRemove {l : List PEntry} (hs : Sorted l) {e : PEntry} (he : e ∈ l) :
    (pelRemove e.id l).length + 1 = l.length := by
  induction l with
  | nil => cases he
  | cons x t ih =>
    rw [Sorted, List.pairwise_cons] at hs
    simp only [pelRemove, List.filter_cons]
    rcases List.mem_cons.mp he with h | h
    · subst h
      have : t.filter (fun x => x.id != e.id) = t := by
        rw [List.filter_eq_self]
        intro a ha
        have := idLt_ne (hs.1 a ha)
        simp [Ne.symm this]
      simp [this]
    · have hx : x.id ≠ e.id := idLt_ne (hs.1 e h)
      have := ih hs.2 h
      simp only [pelRemove] at this
      simp [hx, this]

theorem pelRemove_of_not_mem {id : Id} {l : List PEntry} (h : ∀ e ∈ l, e.id ≠ id) : pelRemove id l = l := by
  unfold pelRemove
  rw [List.filter_eq_self]
  intro a ha; simp [h a ha]

theorem mem_pelInsert_sub {e x : PEntry} {l : List PEntry} (h : x ∈ pelInsert e l) : x = e ∨ x ∈ l := by
  induction l with
  | nil => simpa [pelInsert] using h
  | cons y t ih =>
    simp only [pelInsert] at h
    split at h
    · rcases List.mem_cons.mp h with h | h
      · exact Or.inl h
      · exact Or.inr h
    · split at h
      · rcases List.mem_cons.mp h with h | h
        · exact Or.inl h
        · exact Or.inr (List.mem_cons_of_mem _ h)
      · rcases List.mem_cons.mp h with h | h
        · exact Or.inr (h ▸ List.mem_cons_self)
        · rcases ih h with h | h
          · exact Or.inl h
          · exact Or.inr (List.mem_cons_of_mem _ h)

/-- only a row with the id of `e` makes way for it -/
theorem mem_pelInsert_of {e x : PEntry} {l : List PEntry} (h : x = e ∨ (x ∈ l ∧ x.id ≠ e.id)) :
    x ∈ pelInsert e l := by
  induction l with
  | nil =>
    rcases h with rfl | ⟨hx, _⟩
    · exact List.mem_cons_self
    · cases hx
  | cons y t ih =>
    simp only [pelInsert]
    split
    · exact h.elim (· ▸ List.mem_cons_self) fun h => List.mem_cons_of_mem _ h.1
    · rcases h with rfl | ⟨hx, hne⟩
      · split
        · exact List.mem_cons_self
        · exact List.mem_cons_of_mem _ (ih (Or.inl rfl))
      · split
        · rename_i heq
          rcases List.mem_cons.mp hx with rfl | hx
          · exact absurd heq.symm hne
          · exact List.mem_cons_of_mem _ hx
        · rcases List.mem_cons.mp hx with rfl | hx
          · exact List.mem_cons_self
          · exact List.mem_cons_of_mem _ (ih (Or.inr ⟨hx, hne⟩))

theorem sorted_pelInsert {e : PEntry} {l : List PEntry} (hs : Sorted l) : Sorted (pelInsert e l) := by
  induction l with
  | nil => simp [pelInsert, Sorted]
  | cons y t ih =>
    have hs' := hs
    rw [Sorted, List.pairwise_cons] at hs
    simp only [pelInsert]
    split
    · rename_i hlt
      rw [Sorted, List.pairwise_cons]
      refine ⟨?_, hs'⟩
      intro a ha
      rcases List.mem_cons.mp ha with h | h
      · subst h; exact hlt
      · exact idLt_trans hlt (hs.1 a h)
    · split
      · rename_i heq
        rw [Sorted, List.pairwise_cons]
        exact ⟨fun a ha => by rw [heq]; exact hs.1 a ha, hs.2⟩
      · rename_i hnlt hne
        rw [Sorted, List.pairwise_cons]
        refine ⟨?_, ih hs.2⟩
        intro a ha
        rcases mem_pelInsert_sub ha with h | h
        · subst h
          rcases idLt_total a.id y.id with h | h | h
          · exact absurd h hnlt
          · exact absurd h hne
          · exact h
        · exact hs.1 a h

theorem mem_pelInsert {e : PEntry} {l : List PEntry} (hs : Sorted l) (x : PEntry) :
    x ∈ pelInsert e l ↔ x = e ∨ (x ∈ l ∧ x.id ≠ e.id) := by
  constructor
  · intro hx
    by_cases hid : x.id = e.id
    · exact Or.inl (sorted_unique (sorted_pelInsert hs) hx (mem_pelInsert_of (Or.inl rfl)) hid)
    · exact Or.inr ⟨(mem_pelInsert_sub hx).resolve_left fun h => hid (h ▸ rfl), hid⟩
  · exact mem_pelInsert_of

theorem length_pelInsert_fresh {e : PEntry} {l : List PEntry} (h : ∀ x ∈ l, x.id ≠ e.id) :
    (pelInsert e l).length = l.length + 1 := by
  induction l with
  | nil => simp [pelInsert]
  | cons y t ih =>
    simp only [pelInsert]
    split
    · simp
    · split
      · rename_i heq; exact absurd heq.symm (h y List.mem_cons_self)
      · simp [ih (fun x hx => h x (List.mem_cons_of_mem _ hx))]

theorem length_pelInsert_present {e : PEntry} {l : List PEntry} (hs : Sorted l) (h : ∃ x ∈ l, x.id = e.id) :
    (pelInsert e l).length = l.length := by
  induction l with
  | nil => obtain ⟨x, hx, _⟩ := h; cases hx
  | cons y t ih =>
    rw [Sorted, List.pairwise_cons] at hs
    simp only [pelInsert]
    obtain ⟨x, hx, hxe⟩ := h
    split
    · rename_i hlt
      rcases List.mem_cons.mp hx with h' | h'
      · subst h'; rw [hxe] at hlt; rw [idLt_irrefl] at hlt; cases hlt
      · have := idLt_trans hlt (hs.1 x h'); rw [hxe, idLt_irrefl] at this; cases this
    · split
      · simp
      · rename_i hne
        rcases List.mem_cons.mp hx with h' | h'
        · subst h'; exact absurd hxe.symm hne
        · simp [ih hs.2 ⟨x, h', hxe⟩]

theorem mem_pelSetOwner {id : Id} {c : Name} {l : List PEntry} {x : PEntry} :
    x ∈ pelSetOwner id c l ↔
      ∃ e ∈ l, x = (if e.id = id then { e with owner := c, count := e.count + 1 } else e) := by
  simp only [pelSetOwner, List.mem_map]
  constructor
  · rintro ⟨e, he, h⟩; exact ⟨e, he, h.symm⟩
  · rintro ⟨e, he, h⟩; exact ⟨e, he, h.symm⟩

theorem pelIds_pelSetOwner (id : Id) (c : Name) (l : List PEntry) :
    (pelSetOwner id c l).map (·.id) = l.map (·.id) := by
  simp only [pelSetOwner, List.map_map]
  apply List.map_congr_left
  intro e _
  simp only [Function.comp]
  split <;> rfl

theorem sorted_iff_ids {l : List PEntry} : Sorted l ↔ (l.map (·.id)).Pairwise (fun a b => idLt a b = true) := by
  rw [Sorted, List.pairwise_map]

theorem sorted_pelSetOwner {id : Id} {c : Name} {l : List PEntry} (hs : Sorted l) :
    Sorted (pelSetOwner id c l) := by
  rw [sorted_iff_ids, pelIds_pelSetOwner, ← sorted_iff_ids]; exact hs

theorem head?_pelSetOwner (id : Id) (c : Name) (l : List PEntry) :
    (pelSetOwner id c l).head?.map (·.id) = l.head?.map (·.id) := by
  have := congrArg List.head? (pelIds_pelSetOwner id c l)
  simpa [List.head?_map] using this

theorem getLast?_pelSetOwner (id : Id) (c : Name) (l : List PEntry) :
    (pelSetOwner id c l).getLast?.map (·.id) = l.getLast?.map (·.id) := by
  have := congrArg List.getLast? (pelIds_pelSetOwner id c l)
  simpa [List.getLast?_map] using this

theorem pelSetOwner_of_not_mem {id : Id} {c : Name} {l : List PEntry} (h : ∀ e ∈ l, e.id ≠ id) :
    pelSetOwner id c l = l := by
  unfold pelSetOwner
  conv => rhs; rw [← List.map_id l]
  apply List.map_congr_left
  intro e he
  simp [h e he]

theorem pelFind_pelSetOwner_isSome (i id : Id) (c : Name) (l : List PEntry) :
    (pelFind i (pelSetOwner id c l)).isSome = (pelFind i l).isSome := by
  unfold pelFind pelSetOwner
  rw [List.find?_map, Option.isSome_map]
  congr 2
  funext e
  simp only [Function.comp]
  split <;> rfl

theorem length_filter_ne {l : List Id} (hn : l.Nodup) {id : Id} (h : id ∈ l) :
    (l.filter (fun x => x != id)).length + 1 = l.length := by
  induction l with
  | nil => cases h
  | cons x t ih =>
    rw [List.nodup_cons] at hn
    simp only [List.filter_cons]
    rcases List.mem_cons.mp h with h | h
    · subst h
      have : t.filter (fun x => x != id) = t := by
        rw [List.filter_eq_self]
        intro a ha
        have : a ≠ id := fun e => hn.1 (e ▸ ha)
        simp [this]
      simp [this]
    · have hx : x ≠ id := fun e => hn.1 (e ▸ h)
      simp [hx, ih hn.2 h]

end Ferrous.Grp
