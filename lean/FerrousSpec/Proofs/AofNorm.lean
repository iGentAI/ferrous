/-
  C11: the view of a database the property compares.  `normDb` forgets when a deadline falls and keeps whether there
  is one; every command of the key-space machine commutes with it (`stepDb_norm`), so the same command on two
  databases with the same view, at any two instants, leaves the same view (`stepDb_sim`).
-/
import FerrousSpec.Model.Aof
import FerrousSpec.Proofs.KsInvCmds
set_option linter.unusedSimpArgs false
namespace Ferrous.Aof
open Ferrous Ferrous.KS

/-! ## Read-only commands never change the database they run on

This is what makes the hand-written list `Spec.writeNames` trustworthy from below: every command of the key-space
machine that is NOT in the list returns the database it was given, for all databases, arguments, instants and
random draws.  (From above: `Spec.mutWitness` shows that every name in the list does change some database.) -/

theorem stepDb_readonly (q : Quirks) (db : Db) (now : Nat) (name : String) (args : List Bytes) (obs : Option (List Bytes))
    (h : ¬ name ∈ Spec.writeNames) : (stepDb q db now name args obs).1 = db := by
  fun_cases stepDb q db now name args obs
  -- the handler is read-only, or the name stands in the list (shown by its position: no two strings are compared)
  all_goals first
    | (simp only [cmdGet_fst, cmdMget_fst, cmdStrlen_fst, cmdGetrange_fst, cmdExists_fst, cmdType_fst, cmdKeys_fst,
        cmdDbsize_fst, cmdRandomkey_fst, cmdTtl_fst, cmdLlen_fst, cmdLrange_fst, cmdLindex_fst, cmdSmembers_fst, cmdSismember_fst,
        cmdScard_fst, cmdSetAlgebra_fst, cmdSrandmember_fst, cmdHget_fst, cmdHmget_fst, cmdHall_fst, cmdHlen_fst, cmdHexists_fst]
       done)
    | exact absurd (by repeat constructor) h

/-! ## Values and TTL presence: the view of a dataset the property compares

`normDb` forgets *when* a deadline falls and keeps *whether* there is one.  Every command of the key-space machine
commutes with it (`stepDb_norm`): the new values, the keys, their order and the presence of a deadline depend on the
old values and on the presence of deadlines only — never on the instants.  Hence a log replayed at other instants
rebuilds the same view, as long as no deadline passes on either side. -/

def normE (e : Entry) : Entry := { e with deadline := e.deadline.map fun _ => 0 }
def normDb (db : Db) : Db := db.map fun p => (p.1, normE p.2)

@[simp] theorem normE_val (e : Entry) : (normE e).val = e.val := rfl
@[simp] theorem normE_deadline (e : Entry) : (normE e).deadline = e.deadline.map fun _ => 0 := rfl
@[simp] theorem normE_idem (e : Entry) : normE (normE e) = normE e := by
  cases e with | mk v d => cases d <;> rfl
@[simp] theorem normE_mk_none (v : Val) : normE ⟨v, none⟩ = ⟨v, none⟩ := rfl
@[simp] theorem normE_mk_some (v : Val) (d : Nat) : normE ⟨v, some d⟩ = ⟨v, some 0⟩ := rfl
@[simp] theorem normE_mkStr (b : Bytes) : normE (mkStr b) = mkStr b := rfl
theorem normE_mk (v : Val) (d : Option Nat) : normE ⟨v, d⟩ = ⟨v, d.map fun _ => 0⟩ := rfl

@[simp] theorem normDb_nil : normDb [] = [] := rfl
@[simp] theorem normDb_cons (k : Bytes) (e : Entry) (t : Db) : normDb ((k, e) :: t) = (k, normE e) :: normDb t := rfl

@[simp] theorem normDb_idem (db : Db) : normDb (normDb db) = normDb db := by
  induction db with
  | nil => rfl
  | cons p t ih => obtain ⟨k, e⟩ := p; simp [ih]

@[simp] theorem lookup_norm (db : Db) (k : Bytes) : lookup (normDb db) k = (lookup db k).map normE := by
  induction db with
  | nil => rfl
  | cons p t ih =>
    obtain ⟨k', e⟩ := p
    simp only [normDb_cons, lookup]
    split <;> simp [ih]

@[simp] theorem normDb_insert (db : Db) (k : Bytes) (e : Entry) : normDb (insert db k e) = insert (normDb db) k (normE e) := by
  induction db with
  | nil => rfl
  | cons p t ih =>
    obtain ⟨k', e'⟩ := p
    simp only [normDb_cons, KS.insert]
    split <;> simp [ih]

@[simp] theorem normDb_erase (db : Db) (k : Bytes) : normDb (erase db k) = erase (normDb db) k := by
  induction db with
  | nil => rfl
  | cons p t ih =>
    obtain ⟨k', e'⟩ := p
    simp only [normDb_cons, erase]
    split <;> simp [ih]

@[simp] theorem normDb_length (db : Db) : (normDb db).length = db.length := by simp [normDb]

@[simp] theorem normDb_putColl (db : Db) (k : Bytes) (old : Entry) (v : Val) :
    normDb (putColl db k old v) = putColl (normDb db) k (normE old) v := by
  unfold putColl
  split <;> simp [normE]

theorem normDb_msetPairs (db : Db) (l : List Bytes) : normDb (msetPairs db l) = msetPairs (normDb db) l := by
  induction db, l using msetPairs.induct with
  | case1 db k v r ih => simp [msetPairs, ih]
  | case2 db l h =>
    rw [msetPairs.eq_def, msetPairs.eq_def]
    split
    · rename_i k v r; exact absurd rfl (h k v r)
    · rfl

theorem delKeys_norm (db : Db) (l : List Bytes) (n : Nat) :
    delKeys (normDb db) l n = (normDb (delKeys db l n).1, (delKeys db l n).2) := by
  induction l generalizing db n with
  | nil => simp [delKeys]
  | cons k r ih =>
    simp only [delKeys, lookup_norm, Option.isSome_map]
    split
    · rw [← normDb_erase, ih]
    · rw [ih]

@[simp] theorem map_const_map (o : Option Nat) (f : Nat → Nat) : Option.map (fun _ => 0) (Option.map f o) = Option.map (fun _ => 0) o := by
  cases o <;> rfl

/-! ## Every handler that writes commutes with the view

Each proof follows the case structure of the handler on `db` (`fun_cases`: the shape of the arguments, what
`lookup db k` holds, every test made) and lets the run on `normDb db` take the same branch: it looks up
`(lookup db k).map normE`, which has the same value, and no test depends on a deadline. -/

/-- The run on `normDb db` rewritten along the branch that the facts in scope select — the tests kept as the handler
    writes them, so that those facts apply — and the two results compared. -/
macro "norm_branch " f:ident : tactic =>
  `(tactic| simp +zetaDelta only [$f:ident, *, lookup_norm, Option.map_some, Option.map_none, Option.isSome_map,
    Option.isSome_some, Option.isSome_none, normE_mk, normE_mkStr, normE_val, normE_idem, normE_deadline, normDb_insert,
    normDb_erase, normDb_putColl, normDb_idem, map_const_map, if_true, if_false, Bool.false_eq_true, Bool.true_eq_false,
    and_self])

/-- The branch in which `lookup db k = some e` holds a value of another type than the handler works on (`hne`): for
    each of the other five types both runs refuse. -/
macro "wrong_type " e:ident hne:ident f:ident : tactic =>
  `(tactic| (obtain ⟨_ | _ | _ | _ | _ | _, _⟩ := $e:ident
             all_goals first | exact ($hne:ident _ _ rfl).elim | norm_branch $f))

theorem cmdSet_norm (db : Db) (now now' : Nat) (args : List Bytes) :
    normDb (cmdSet db now args).1 = normDb (cmdSet (normDb db) now' args).1 := by
  fun_cases cmdSet db now args
  all_goals norm_branch cmdSet

theorem cmdGetset_norm (db : Db) (args : List Bytes) :
    normDb (cmdGetset db args).1 = normDb (cmdGetset (normDb db) args).1 := by
  fun_cases cmdGetset db args
  case case3 e hne _ => wrong_type e hne cmdGetset
  all_goals norm_branch cmdGetset

theorem cmdSetnx_norm (db : Db) (args : List Bytes) :
    normDb (cmdSetnx db args).1 = normDb (cmdSetnx (normDb db) args).1 := by
  fun_cases cmdSetnx db args
  all_goals norm_branch cmdSetnx

theorem cmdSetex_norm (db : Db) (now now' u : Nat) (args : List Bytes) :
    normDb (cmdSetex db now u args).1 = normDb (cmdSetex (normDb db) now' u args).1 := by
  fun_cases cmdSetex db now u args
  all_goals norm_branch cmdSetex

theorem cmdAppend_norm (db : Db) (args : List Bytes) :
    normDb (cmdAppend db args).1 = normDb (cmdAppend (normDb db) args).1 := by
  fun_cases cmdAppend db args
  case case4 e hne _ => wrong_type e hne cmdAppend
  all_goals norm_branch cmdAppend

theorem cmdSetrange_norm (db : Db) (args : List Bytes) :
    normDb (cmdSetrange db args).1 = normDb (cmdSetrange (normDb db) args).1 := by
  fun_cases cmdSetrange db args
  case case9 e hne _ => wrong_type e hne cmdSetrange
  all_goals norm_branch cmdSetrange

theorem incrBy_norm (db : Db) (k : Bytes) (delta : Int) :
    normDb (incrBy db k delta).1 = normDb (incrBy (normDb db) k delta).1 := by
  fun_cases incrBy db k delta
  case case6 e hne _ => wrong_type e hne incrBy
  all_goals norm_branch incrBy

theorem cmdMset_norm (db : Db) (args : List Bytes) :
    normDb (cmdMset db args).1 = normDb (cmdMset (normDb db) args).1 := by
  unfold cmdMset
  split <;> simp only [normDb_msetPairs, normDb_idem]

theorem cmdIncrDecr_norm (db : Db) (sg : Int) (args : List Bytes) :
    normDb (cmdIncrDecr db sg args).1 = normDb (cmdIncrDecr (normDb db) sg args).1 := by
  fun_cases cmdIncrDecr db sg args
  · exact incrBy_norm db _ sg
  · simp [cmdIncrDecr, *]

theorem cmdIncrbyDecrby_norm (db : Db) (sg : Int) (args : List Bytes) :
    normDb (cmdIncrbyDecrby db sg args).1 = normDb (cmdIncrbyDecrby (normDb db) sg args).1 := by
  fun_cases cmdIncrbyDecrby db sg args
  case case3 => simp only [cmdIncrbyDecrby, *, if_false]; exact incrBy_norm db _ _
  all_goals simp [cmdIncrbyDecrby, *]

theorem cmdDel_norm (db : Db) (args : List Bytes) :
    normDb (cmdDel db args).1 = normDb (cmdDel (normDb db) args).1 := by
  fun_cases cmdDel db args <;> simp [cmdDel, delKeys_norm, *]

theorem cmdRename_norm (db : Db) (nx : Bool) (args : List Bytes) :
    normDb (cmdRename db nx args).1 = normDb (cmdRename (normDb db) nx args).1 := by
  fun_cases cmdRename db nx args
  all_goals norm_branch cmdRename

theorem cmdExpire_norm (db : Db) (now now' u : Nat) (args : List Bytes) :
    normDb (cmdExpire db now u args).1 = normDb (cmdExpire (normDb db) now' u args).1 := by
  fun_cases cmdExpire db now u args
  all_goals norm_branch cmdExpire

theorem cmdPersist_norm (db : Db) (args : List Bytes) :
    normDb (cmdPersist db args).1 = normDb (cmdPersist (normDb db) args).1 := by
  fun_cases cmdPersist db args
  all_goals norm_branch cmdPersist

theorem cmdPush_norm (db : Db) (l : Bool) (args : List Bytes) :
    normDb (cmdPush db l args).1 = normDb (cmdPush (normDb db) l args).1 := by
  fun_cases cmdPush db l args
  case case3 e hne _ => wrong_type e hne cmdPush
  all_goals norm_branch cmdPush

theorem cmdPop_norm (db : Db) (l : Bool) (args : List Bytes) :
    normDb (cmdPop db l args).1 = normDb (cmdPop (normDb db) l args).1 := by
  fun_cases cmdPop db l args
  case case6 e hne _ => wrong_type e hne cmdPop
  all_goals norm_branch cmdPop

theorem cmdLset_norm (db : Db) (args : List Bytes) :
    normDb (cmdLset db args).1 = normDb (cmdLset (normDb db) args).1 := by
  fun_cases cmdLset db args
  case case5 e hne _ => wrong_type e hne cmdLset
  all_goals norm_branch cmdLset

theorem cmdLtrim_norm (db : Db) (args : List Bytes) :
    normDb (cmdLtrim db args).1 = normDb (cmdLtrim (normDb db) args).1 := by
  fun_cases cmdLtrim db args
  case case3 e hne _ => wrong_type e hne cmdLtrim
  all_goals norm_branch cmdLtrim

theorem cmdLrem_norm (db : Db) (args : List Bytes) :
    normDb (cmdLrem db args).1 = normDb (cmdLrem (normDb db) args).1 := by
  fun_cases cmdLrem db args
  case case4 e hne _ => wrong_type e hne cmdLrem
  all_goals norm_branch cmdLrem

theorem cmdSadd_norm (db : Db) (args : List Bytes) :
    normDb (cmdSadd db args).1 = normDb (cmdSadd (normDb db) args).1 := by
  fun_cases cmdSadd db args
  case case3 e hne _ => wrong_type e hne cmdSadd
  all_goals norm_branch cmdSadd

theorem cmdSrem_norm (db : Db) (args : List Bytes) :
    normDb (cmdSrem db args).1 = normDb (cmdSrem (normDb db) args).1 := by
  fun_cases cmdSrem db args
  case case3 e hne _ => wrong_type e hne cmdSrem
  all_goals norm_branch cmdSrem

theorem cmdSpop_norm (db : Db) (args : List Bytes) (o : Option (List Bytes)) :
    normDb (cmdSpop db args o).1 = normDb (cmdSpop (normDb db) args o).1 := by
  fun_cases cmdSpop db args o
  case case6 e hne _ => wrong_type e hne cmdSpop
  case case13 e hne _ => wrong_type e hne cmdSpop
  all_goals norm_branch cmdSpop

theorem cmdHset_norm (db : Db) (m : Bool) (args : List Bytes) :
    normDb (cmdHset db m args).1 = normDb (cmdHset (normDb db) m args).1 := by
  fun_cases cmdHset db m args
  case case4 e hne _ => wrong_type e hne cmdHset
  all_goals norm_branch cmdHset

theorem cmdHdel_norm (db : Db) (args : List Bytes) :
    normDb (cmdHdel db args).1 = normDb (cmdHdel (normDb db) args).1 := by
  fun_cases cmdHdel db args
  case case3 e hne _ => wrong_type e hne cmdHdel
  all_goals norm_branch cmdHdel

theorem cmdHincrby_norm (db : Db) (args : List Bytes) :
    normDb (cmdHincrby db args).1 = normDb (cmdHincrby (normDb db) args).1 := by
  fun_cases cmdHincrby db args
  case case4 e hne _ => wrong_type e hne cmdHincrby
  all_goals norm_branch cmdHincrby
  all_goals (repeat' split) <;> simp only [normDb_insert, normE_mk, normDb_idem, map_const_map, Option.map_none]

theorem cmdZaddSetup_norm (db : Db) (args : List Bytes) :
    normDb (cmdZaddSetup db args).1 = normDb (cmdZaddSetup (normDb db) args).1 := by
  fun_cases cmdZaddSetup db args
  case case4 e hne _ => wrong_type e hne cmdZaddSetup
  all_goals norm_branch cmdZaddSetup

theorem cmdXaddSetup_norm (db : Db) (args : List Bytes) :
    normDb (cmdXaddSetup db args).1 = normDb (cmdXaddSetup (normDb db) args).1 := by
  fun_cases cmdXaddSetup db args
  case case3 e hne _ => wrong_type e hne cmdXaddSetup
  all_goals norm_branch cmdXaddSetup

/-- Every command commutes with the view: the view after the command is a function of the view before it, of the
    arguments and — for SPOP alone — of the draw; not of the instants. -/
theorem stepDb_norm (q : Quirks) (db : Db) (now now' : Nat) (name : String) (args : List Bytes) (o o' : Option (List Bytes))
    (hdet : name ≠ "SPOP" ∨ o = o') :
    normDb (stepDb q db now name args o).1 = normDb (stepDb q (normDb db) now' name args o').1 := by
  unfold stepDb
  split
  -- each lemma rewrites the run on `db` (the run on `normDb db` is not an instance of its left side)
  any_goals simp only [cmdSet_norm db now now', cmdMset_norm db, cmdGetset_norm db, cmdSetnx_norm db, cmdSetex_norm db now now',
    cmdAppend_norm db, cmdSetrange_norm db, cmdIncrDecr_norm db, cmdIncrbyDecrby_norm db, cmdDel_norm db, cmdRename_norm db,
    cmdExpire_norm db now now', cmdPersist_norm db, cmdPush_norm db, cmdPop_norm db, cmdLset_norm db, cmdLtrim_norm db,
    cmdLrem_norm db, cmdSadd_norm db, cmdSrem_norm db, cmdHset_norm db, cmdHdel_norm db, cmdHincrby_norm db,
    cmdZaddSetup_norm db, cmdXaddSetup_norm db,
    cmdGet_fst, cmdMget_fst, cmdStrlen_fst, cmdGetrange_fst, cmdExists_fst, cmdType_fst, cmdKeys_fst, cmdDbsize_fst, cmdRandomkey_fst,
    cmdTtl_fst, cmdLlen_fst, cmdLrange_fst, cmdLindex_fst, cmdSmembers_fst, cmdSismember_fst, cmdScard_fst, cmdSetAlgebra_fst,
    cmdSrandmember_fst, cmdHget_fst, cmdHmget_fst, cmdHall_fst, cmdHlen_fst, cmdHexists_fst, normDb_idem]
  · split <;> simp only [normDb_idem, normDb_nil]
  · rw [← hdet.resolve_left (fun h => h rfl)]
    exact cmdSpop_norm db args o

/-- Two databases with the same view have the same view after the same command, run at any two instants (and, unless
    the command is SPOP, with any two draws). -/
theorem stepDb_sim (q : Quirks) (db1 db2 : Db) (h : normDb db1 = normDb db2) (now1 now2 : Nat) (name : String)
    (args : List Bytes) (o1 o2 : Option (List Bytes)) (hdet : name ≠ "SPOP" ∨ o1 = o2) :
    normDb (stepDb q db1 now1 name args o1).1 = normDb (stepDb q db2 now2 name args o2).1 := by
  rw [stepDb_norm q db1 now1 0 name args o1 o1 (.inr rfl), stepDb_norm q db2 now2 0 name args o2 o1 (hdet.imp id Eq.symm), h]

end Ferrous.Aof
