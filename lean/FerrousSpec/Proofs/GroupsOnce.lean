/-
  C16: exactly-once delivery under `>`: an invariant of `Spec.run` over arbitrary histories, and a simulation showing
  that `Code.run` delivers what `Spec.run` delivers on every history that avoids the deviations of the tree.
-/
import FerrousSpec.Proofs.GroupsAgree
namespace Ferrous.Grp

abbrev IdSorted (l : List Id) : Prop := l.Pairwise (fun a b => idLt a b = true)

theorem IdSorted.le_getLast {l : List Id} (hs : IdSorted l) {m : Id} (hm : l.getLast? = some m) :
    ∀ x ∈ l, idLe x m = true := by
  obtain ⟨ys, rfl⟩ := List.getLast?_eq_some_iff.mp hm
  intro x hx
  rcases List.mem_append.mp hx with hx | hx
  · exact idLe_of_lt ((List.pairwise_append.mp hs).2.2 x hx m List.mem_cons_self)
  · rw [List.mem_singleton.mp hx]; exact idLe_refl m

theorem IdSorted.le_getLast_getD {l : List Id} (hs : IdSorted l) (a : Id) {x : Id} (hx : x ∈ l) :
    idLe x (l.getLast?.getD a) = true := by
  cases hl : l.getLast? with
  | none => rw [List.getLast?_eq_none_iff.mp hl] at hx; cases hx
  | some m => exact hs.le_getLast hl x hx

theorem IdSorted.take_closed {l : List Id} (hs : IdSorted l) (n : Nat) {x y : Id} (hx : x ∈ l) (hy : y ∈ l.take n)
    (hxy : idLe x y = true) : x ∈ l.take n := by
  have hs' : IdSorted (l.take n ++ l.drop n) := by rw [List.take_append_drop]; exact hs
  have hx' : x ∈ l.take n ++ l.drop n := by rw [List.take_append_drop]; exact hx
  rcases List.mem_append.mp hx' with h | h
  · exact h
  · exact (idLt_le_false ((List.pairwise_append.mp hs').2.2 y hy x h) hxy).elim

theorem rangeAfter_eq_take (s : List Id) (a : Id) (count : Option Nat) :
    ∃ k, rangeAfter s a count = (s.filter (fun x => idLt a x)).take k := by
  cases count with
  | none => exact ⟨(s.filter (fun x => idLt a x)).length, by simp [rangeAfter]⟩
  | some n => exact ⟨n, rfl⟩

theorem mem_rangeAfter {s : List Id} {a : Id} {count : Option Nat} {x : Id} (h : x ∈ rangeAfter s a count) :
    x ∈ s ∧ idLt a x = true := by
  obtain ⟨k, hk⟩ := rangeAfter_eq_take s a count
  rw [hk] at h
  have := List.mem_of_mem_take h
  simpa using this

theorem sorted_rangeAfter {s : List Id} (hs : IdSorted s) (a : Id) (count : Option Nat) :
    IdSorted (rangeAfter s a count) := by
  obtain ⟨k, hk⟩ := rangeAfter_eq_take s a count
  rw [hk]
  exact (hs.filter _).sublist (List.take_sublist _ _)

theorem rangeAfter_closed {s : List Id} (hs : IdSorted s) (a : Id) (count : Option Nat) {x y : Id}
    (hx : x ∈ s) (hax : idLt a x = true) (hy : y ∈ rangeAfter s a count) (hxy : idLe x y = true) :
    x ∈ rangeAfter s a count := by
  obtain ⟨k, hk⟩ := rangeAfter_eq_take s a count
  rw [hk] at hy ⊢
  exact IdSorted.take_closed (hs.filter _) k (by simp [hx, hax]) hy hxy

theorem le_cursor_rangeAfter (s : List Id) (a : Id) (count : Option Nat) :
    idLe a ((rangeAfter s a count).getLast?.getD a) = true := by
  cases hl : (rangeAfter s a count).getLast? with
  | none => exact idLe_refl a
  | some m => exact idLe_of_lt (mem_rangeAfter (List.mem_of_getLast? hl)).2

/-- the stream stays strictly sorted and below its last id along any history -/
structure StreamOk (stream : List Id) (lastId : Id) : Prop where
  sorted : IdSorted stream
  below : ∀ x ∈ stream, idLe x lastId = true

theorem StreamOk.add {s : List Id} {last id : Id} (hs : StreamOk s last) (hlt : idLt last id = true) :
    StreamOk (s ++ [id]) id := by
  refine ⟨List.pairwise_append.mpr ⟨hs.sorted, List.pairwise_singleton _ _, ?_⟩, ?_⟩
  · intro a ha b hb
    rw [List.mem_singleton.mp hb]
    exact idLt_of_le_of_lt (hs.below a ha) hlt
  · intro x hx
    rcases List.mem_append.mp hx with hx | hx
    · exact idLe_of_lt (idLt_of_le_of_lt (hs.below x hx) hlt)
    · rw [List.mem_singleton.mp hx]; exact idLe_refl _

theorem StreamOk.del {s : List Id} {last : Id} (hs : StreamOk s last) (p : Id → Bool) : StreamOk (s.filter p) last :=
  ⟨hs.sorted.filter _, fun x hx => hs.below x (List.mem_filter.mp hx).1⟩

structure OnceInv (start : Id) (σ : Spec.Sys) : Prop where
  sorted : IdSorted σ.stream
  below : ∀ x ∈ σ.stream, idLe x σ.lastId = true
  logSorted : IdSorted (σ.log.map (·.1))
  logAfter : ∀ d ∈ σ.log, idLt start d.1 = true
  logBelowCur : ∀ d ∈ σ.log, idLe d.1 σ.grp.cursor = true
  logBelowLast : ∀ d ∈ σ.log, idLe d.1 σ.lastId = true
  curOrigin : σ.grp.cursor = start ∨ ∃ d ∈ σ.log, d.1 = σ.grp.cursor
  noSkip : ∀ x ∈ σ.stream, idLt start x = true → idLe x σ.grp.cursor = true → x ∈ σ.log.map (·.1)

theorem OnceInv.start_le_cursor {start : Id} {σ : Spec.Sys} (h : OnceInv start σ) :
    idLe start σ.grp.cursor = true := by
  rcases h.curOrigin with hc | ⟨d, hd, hc⟩
  · rw [hc]; exact idLe_refl _
  · rw [← hc]; exact idLe_of_lt (h.logAfter d hd)

/-- histories for exactly-once: everything except XGROUP SETID (which re-positions the group) -/
def HOp.noSetId : HOp → Bool
  | .g (.setid _) => false
  | _ => true

theorem onceInv_init {s : List Id} {lastId : Id} (start : Id) (hs : IdSorted s)
    (hb : ∀ x ∈ s, idLe x lastId = true) : OnceInv start (Spec.init s lastId start) := by
  refine { sorted := hs, below := hb, logSorted := List.Pairwise.nil, logAfter := ?_, logBelowCur := ?_,
           logBelowLast := ?_, curOrigin := Or.inl rfl, noSkip := ?_ }
  · intro d hd; cases hd
  · intro d hd; cases hd
  · intro d hd; cases hd
  · intro x _ h1 h2; exact (idLt_le_false h1 h2).elim

theorem onceInv_sameCursor {start : Id} {σ : Spec.Sys} (h : OnceInv start σ) (g' : Spec.Group)
    (hc : g'.cursor = σ.grp.cursor) : OnceInv start { σ with grp := g', log := σ.log ++ [] } := by
  rw [List.append_nil]
  exact { sorted := h.sorted, below := h.below, logSorted := h.logSorted, logAfter := h.logAfter,
          logBelowCur := by intro d hd; show idLe d.1 g'.cursor = true; rw [hc]; exact h.logBelowCur d hd,
          logBelowLast := h.logBelowLast,
          curOrigin := by show g'.cursor = start ∨ ∃ d ∈ σ.log, d.1 = g'.cursor; rw [hc]; exact h.curOrigin,
          noSkip := by intro x hx h1 h2; exact h.noSkip x hx h1 (by rw [← hc]; exact h2) }

theorem onceInv_read {start : Id} {σ : Spec.Sys} (h : OnceInv start σ) (c : Name) (count : Option Nat)
    (g' : Spec.Group) (hg : g'.cursor = (rangeAfter σ.stream σ.grp.cursor count).getLast?.getD σ.grp.cursor) :
    OnceInv start
      { σ with grp := g', log := σ.log ++ (rangeAfter σ.stream σ.grp.cursor count).map (fun i => (i, c)) } := by
  cases hl : (rangeAfter σ.stream σ.grp.cursor count).getLast? with
  | none =>
    rw [hl] at hg
    rw [List.getLast?_eq_none_iff.mp hl]
    exact onceInv_sameCursor h g' hg
  | some m =>
    -- the cursor moves to `m`, the last id delivered
    have hm := List.mem_of_getLast? hl
    have hgm : g'.cursor = m := by rw [hg, hl]; rfl
    have hes : ∀ x ∈ rangeAfter σ.stream σ.grp.cursor count, x ∈ σ.stream ∧ idLt σ.grp.cursor x = true :=
      fun x hx => mem_rangeAfter hx
    have hsorted := sorted_rangeAfter h.sorted σ.grp.cursor count
    have hnew : ∀ d ∈ (rangeAfter σ.stream σ.grp.cursor count).map (fun i => (i, c)),
        d.1 ∈ rangeAfter σ.stream σ.grp.cursor count := by
      intro d hd; obtain ⟨i, hi, rfl⟩ := List.mem_map.mp hd; exact hi
    have hmap : ((rangeAfter σ.stream σ.grp.cursor count).map (fun i => (i, c))).map (·.1) =
        rangeAfter σ.stream σ.grp.cursor count := by
      rw [List.map_map]; exact List.map_id _
    refine { sorted := h.sorted, below := h.below, logSorted := ?_, logAfter := ?_, logBelowCur := ?_,
             logBelowLast := ?_, curOrigin := ?_, noSkip := ?_ }
    · show IdSorted ((σ.log ++ _).map (·.1))
      rw [List.map_append, hmap, IdSorted, List.pairwise_append]
      refine ⟨h.logSorted, hsorted, fun a ha b hb => ?_⟩
      obtain ⟨d, hd, rfl⟩ := List.mem_map.mp ha
      exact idLt_of_le_of_lt (h.logBelowCur d hd) (hes b hb).2
    · intro d hd
      rcases List.mem_append.mp hd with hd | hd
      · exact h.logAfter d hd
      · exact idLt_of_le_of_lt h.start_le_cursor (hes _ (hnew d hd)).2
    · intro d hd
      show idLe d.1 g'.cursor = true
      rw [hgm]
      rcases List.mem_append.mp hd with hd | hd
      · exact idLe_of_lt (idLt_of_le_of_lt (h.logBelowCur d hd) (hes m hm).2)
      · exact hsorted.le_getLast hl _ (hnew d hd)
    · intro d hd
      rcases List.mem_append.mp hd with hd | hd
      · exact h.logBelowLast d hd
      · exact h.below _ (hes _ (hnew d hd)).1
    · exact Or.inr ⟨(m, c), List.mem_append_right _ (List.mem_map_of_mem hm), hgm.symm⟩
    · intro x hx hsx hxc
      show x ∈ (σ.log ++ _).map (·.1)
      rw [List.map_append, hmap, List.mem_append]
      change idLe x g'.cursor = true at hxc
      rw [hgm] at hxc
      cases hlt : idLt σ.grp.cursor x with
      | false => exact Or.inl (h.noSkip x hx hsx (not_idLt_iff.mp hlt))
      | true => exact Or.inr (rangeAfter_closed h.sorted _ _ hx hlt hm hxc)

theorem Spec.gstep_quiet_cursor (stream : List Id) (g : Spec.Group) :
    ∀ {op : GOp}, op.quiet = true → (Spec.gstep stream g op).1.cursor = g.cursor
  | .createc _, _ | .delc _, _ | .ack _, _ | .autoclaim _ _ _ _, _ | .pending, _ | .prange _ _ _ _, _ => rfl
  | .claim c elig ids, _ => by simp only [Spec.gstep, Spec.claim]; split <;> rfl

theorem onceInv_hstep {start : Id} {σ : Spec.Sys} (h : OnceInv start σ) (op : HOp) (hop : op.noSetId = true) :
    OnceInv start (Spec.hstep σ op) := by
  cases op with
  | add id =>
    simp only [Spec.hstep]
    split
    · exact h
    · rename_i hle
      have hlt := idLt_of_not_idLe hle
      have hok := StreamOk.add ⟨h.sorted, h.below⟩ hlt
      refine { sorted := hok.sorted, below := hok.below, logSorted := h.logSorted, logAfter := h.logAfter,
               logBelowCur := h.logBelowCur, logBelowLast := ?_, curOrigin := h.curOrigin, noSkip := ?_ }
      · intro d hd
        show idLe d.1 id = true
        exact idLe_of_lt (idLt_of_le_of_lt (h.logBelowLast d hd) hlt)
      · intro x hx hsx hxc
        rcases List.mem_append.mp hx with hx | hx
        · exact h.noSkip x hx hsx hxc
        · simp only [List.mem_singleton] at hx; subst hx
          exfalso
          rcases h.curOrigin with hc | ⟨d, hd, hc⟩
          · rw [hc] at hxc; exact idLt_le_false hsx hxc
          · rw [← hc] at hxc; exact idLt_le_false hlt (idLe_trans hxc (h.logBelowLast d hd))
  | del ids =>
    exact { sorted := h.sorted.filter _, below := fun x hx => h.below x (List.mem_filter.mp hx).1,
            logSorted := h.logSorted, logAfter := h.logAfter, logBelowCur := h.logBelowCur,
            logBelowLast := h.logBelowLast, curOrigin := h.curOrigin,
            noSkip := fun x hx => h.noSkip x (List.mem_filter.mp hx).1 }
  | g op =>
    cases op with
    | setid id => cases hop
    | read c frm count noack =>
      cases frm with
      | none => exact onceInv_read h c count _ rfl
      | some a => exact onceInv_sameCursor h _ rfl
    | _ => exact onceInv_sameCursor h _ (Spec.gstep_quiet_cursor σ.stream σ.grp rfl)

theorem OnceInv.read_all {start : Id} {σ : Spec.Sys} (h : OnceInv start σ) (c : Name) {x : Id} (hx : x ∈ σ.stream)
    (hsx : idLt start x = true) : x ∈ (Spec.hstep σ (.g (.read c none none false))).log.map (·.1) := by
  refine (onceInv_read h c none (Spec.readNew σ.stream σ.grp c none false).1 rfl).noSkip x hx hsx ?_
  show idLe x ((rangeAfter σ.stream σ.grp.cursor none).getLast?.getD σ.grp.cursor) = true
  cases hlt : idLt σ.grp.cursor x with
  | false => exact idLe_trans (not_idLt_iff.mp hlt) (le_cursor_rangeAfter _ _ _)
  | true => exact (sorted_rangeAfter h.sorted _ _).le_getLast_getD _ (List.mem_filter.mpr ⟨hx, hlt⟩)

theorem onceInv_run {start : Id} (ops : List HOp) : ∀ {σ : Spec.Sys}, OnceInv start σ →
    (∀ op ∈ ops, op.noSetId = true) → OnceInv start (Spec.run σ ops) := by
  induction ops with
  | nil => intro σ h _; exact h
  | cons op ops ih =>
    intro σ h hops
    exact ih (onceInv_hstep h op (hops op List.mem_cons_self)) (fun o ho => hops o (List.mem_cons_of_mem _ ho))

/-- operations on which the code (with the given repairs) follows the prescribed cursor discipline -/
def HOp.plainFor (q : Quirks) : HOp → Bool
  | .g (.setid _) => false
  | .g (.read _ (some _) _ _) => q.histFix
  | .g (.read _ none _ true) => q.noackFix
  | _ => true

theorem cursorAfter_rangeAfter (stream : List Id) (a : Id) (count : Option Nat) :
    cursorAfter a (rangeAfter stream a count) = (rangeAfter stream a count).getLast?.getD a := by
  unfold cursorAfter
  cases hl : (rangeAfter stream a count).getLast? with
  | none => rfl
  | some l => simp only [(mem_rangeAfter (List.mem_of_getLast? hl)).2, if_true, Option.getD_some]

/-- `read_group` under `>`: a delivery, or (NOACK, nothing new) at most a move of the cursor -/
theorem readGroup_new_eq (q : Quirks) (stream : List Id) (g : Group) (c : Name) (count : Option Nat) (noack : Bool) :
    Code.readGroup q stream g c none count noack =
      (if !noack && !(rangeAfter stream g.lastDelivered count).isEmpty then
         Code.addPendingQ q g c (rangeAfter stream g.lastDelivered count)
       else if q.noackFix then
         { g with lastDelivered := cursorAfter g.lastDelivered (rangeAfter stream g.lastDelivered count) }
       else g, rangeAfter stream g.lastDelivered count) := by
  simp only [Code.readGroup]
  split
  · rfl
  · split
    · unfold cursorAfter
      cases (rangeAfter stream g.lastDelivered count).getLast? with
      | none => rfl
      | some l => dsimp only; cases idLt g.lastDelivered l <;> rfl
    · rfl

theorem readGroup_new (q : Quirks) (stream : List Id) (g : Group) (c : Name) (count : Option Nat) (noack : Bool)
    (hq : noack = true → q.noackFix = true) :
    (Code.readGroup q stream g c none count noack).2 = rangeAfter stream g.lastDelivered count ∧
    (Code.readGroup q stream g c none count noack).1.lastDelivered =
      ((rangeAfter stream g.lastDelivered count).getLast?).getD g.lastDelivered := by
  rw [readGroup_new_eq, ← cursorAfter_rangeAfter]
  refine ⟨rfl, ?_⟩
  dsimp only
  split
  · exact addPendingQ_last q g c _
  · rename_i hcond
    split
    · rfl
    · -- the pinned tree without NOACK: nothing was delivered because there was nothing
      rename_i hfix
      cases noack with
      | true => exact absurd (hq rfl) hfix
      | false =>
        have hemp : rangeAfter stream g.lastDelivered count = [] := by simpa using hcond
        rw [hemp]; rfl

structure Sim (σc : Code.Sys) (σs : Spec.Sys) : Prop where
  stream : σc.stream = σs.stream
  lastId : σc.lastId = σs.lastId
  cursor : σc.grp.lastDelivered = σs.grp.cursor
  log : σc.log = σs.log

theorem sim_hstep (q : Quirks) {σc : Code.Sys} {σs : Spec.Sys} (h : Sim σc σs) (op : HOp)
    (hop : op.plainFor q = true) : Sim (Code.hstep q σc op) (Spec.hstep σs op) := by
  obtain ⟨h1, h2, h3, h4⟩ := h
  cases op with
  | add id =>
    simp only [Code.hstep, Spec.hstep, h2]
    split
    · exact ⟨h1, h2, h3, h4⟩
    · exact ⟨congrArg (· ++ [id]) h1, rfl, h3, h4⟩
  | del ids => exact ⟨congrArg (List.filter _) h1, h2, h3, h4⟩
  | g op =>
    cases op with
    | setid id => cases hop
    | read c frm count noack =>
      cases frm with
      | some a =>
        have hq : q.histFix = true := hop
        refine ⟨h1, h2, ?_, congrArg (· ++ []) h4⟩
        simp only [Code.hstep, Code.gstep, Code.readGroup, hq, if_true]; exact h3
      | none =>
        have hq : noack = true → q.noackFix = true := by
          intro hn; subst hn; exact hop
        obtain ⟨hr, hc⟩ := readGroup_new q σc.stream σc.grp c count noack hq
        refine ⟨h1, h2, ?_, ?_⟩
        · show (Code.readGroup q σc.stream σc.grp c none count noack).1.lastDelivered =
            ((rangeAfter σs.stream σs.grp.cursor count).getLast?).getD σs.grp.cursor
          rw [hc, h1, h3]
        · show σc.log ++ (Code.readGroup q σc.stream σc.grp c none count noack).2.map (fun i => (i, c)) =
            σs.log ++ (rangeAfter σs.stream σs.grp.cursor count).map (fun i => (i, c))
          rw [hr, h1, h3, h4]
    | _ =>
      exact ⟨h1, h2, ((gstep_quiet q σc.stream σc.grp rfl).1.trans h3).trans
        (Spec.gstep_quiet_cursor σs.stream σs.grp rfl).symm, congrArg (· ++ []) h4⟩

theorem sim_run (q : Quirks) (ops : List HOp) : ∀ {σc : Code.Sys} {σs : Spec.Sys}, Sim σc σs →
    (∀ op ∈ ops, op.plainFor q = true) → Sim (Code.run q σc ops) (Spec.run σs ops) := by
  induction ops with
  | nil => intro _ _ h _; exact h
  | cons op ops ih =>
    intro σc σs h hops
    exact ih (sim_hstep q h op (hops op List.mem_cons_self)) (fun o ho => hops o (List.mem_cons_of_mem _ ho))

theorem plainFor_noSetId {q : Quirks} {op : HOp} (h : op.plainFor q = true) : op.noSetId = true := by
  cases op with
  | add _ => rfl
  | del _ => rfl
  | g op => cases op <;> first | rfl | cases h

theorem plainFor_fixed {op : HOp} (h : op.noSetId = true) : op.plainFor Quirks.fixed = true := by
  cases op with
  | add _ => rfl
  | del _ => rfl
  | g op =>
    cases op with
    | setid _ => cases h
    | read c frm count noack => cases frm <;> cases noack <;> rfl
    | _ => rfl

theorem sim_init (q : Quirks) (stream : List Id) (lastId start : Id) (hq : q.startFix = true ∨ start = (0, 0)) :
    Sim (Code.init q stream lastId start) (Spec.init stream lastId start) := by
  refine ⟨rfl, rfl, ?_, rfl⟩
  show (if q.startFix then start else (0, 0)) = start
  rcases hq with hq | hq
  · rw [hq]; rfl
  · subst hq; split <;> rfl

/-- Exactly-once for the code of the tree `q`: deliveries strictly increasing, after the start position, nothing
    skipped — on every history on which that tree follows the cursor discipline, for a group whose cursor starts
    where it should. -/
theorem once_code (q : Quirks) {stream : List Id} {lastId start : Id} {ops : List HOp}
    (hq : q.startFix = true ∨ start = (0, 0)) (hs : IdSorted stream) (hb : ∀ x ∈ stream, idLe x lastId = true)
    (hops : ∀ op ∈ ops, op.plainFor q = true) :
    IdSorted ((Code.run q (Code.init q stream lastId start) ops).log.map (·.1)) ∧
    (∀ d ∈ (Code.run q (Code.init q stream lastId start) ops).log, idLt start d.1 = true) ∧
    (∀ x ∈ (Code.run q (Code.init q stream lastId start) ops).stream, idLt start x = true →
      idLe x (Code.run q (Code.init q stream lastId start) ops).grp.lastDelivered = true →
      x ∈ (Code.run q (Code.init q stream lastId start) ops).log.map (·.1)) := by
  have hsim := sim_run q ops (sim_init q stream lastId start hq) hops
  have hinv : OnceInv start (Spec.run (Spec.init stream lastId start) ops) :=
    onceInv_run ops (onceInv_init start hs hb) (fun op hop => plainFor_noSetId (hops op hop))
  rw [hsim.log, hsim.stream, hsim.cursor]
  exact ⟨hinv.logSorted, hinv.logAfter, hinv.noSkip⟩

end Ferrous.Grp
