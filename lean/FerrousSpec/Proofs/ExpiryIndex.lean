/-
  The index-agreement invariant (I), the storage calls and sweeper phases that keep it, and what it gives for the
  sweeper of any configuration, the one without the re-check (the tree as first analysed) included.
-/
import FerrousSpec.Proofs.ExpirySweep
namespace Ferrous.Exp
open Ferrous

/-- INDEX AGREEMENT (I): every index entry `(k, t)` belongs to a stored entry whose stored deadline is `t`. -/
def IndexAgrees (s : Shard) : Prop :=
  ∀ k t, lookup s.expiring k = some t → ∃ e, lookup s.data k = some e ∧ e.deadline = some t

/-- the storage calls that keep (I) under configuration `c` -/
def keepsIndex (c : Cfg) : Op → Bool
  | .setValue _ _ _ ttl => ttl.isSome || c.setValueDropsStale
  | .setNx _ _ ttl => ttl.isSome || c.setNxDropsStale || !c.lazy (setNxFn ttl) || c.reaps (setNxFn ttl)
  | .update fn _ _ _ => !c.lazy fn || c.reaps fn
  | .shrink _ _ _ => c.emptiedDropsIndex
  | .rename _ _ => c.renameMovesIndex
  | _ => true

theorem indexAgrees_empty : IndexAgrees Shard.empty := by
  intro k t h; simp [Shard.empty, lookup_nil] at h

theorem ia_erase_both (s : Shard) (k : Key) (h : IndexAgrees s) : IndexAgrees ⟨erase s.data k, erase s.expiring k⟩ := by
  intro x t hx
  by_cases hk : x = k
  · subst hk; simp [lookup_erase_self] at hx
  · simp only [] at hx ⊢
    rw [lookup_erase_other _ _ _ hk] at hx ⊢
    exact h x t hx

theorem ia_put (s : Shard) (k : Key) (e : Stored) (idx : List (Key × Nat)) (h : IndexAgrees s)
    (hk : ∀ t, lookup idx k = some t → e.deadline = some t)
    (ho : ∀ x, x ≠ k → lookup idx x = lookup s.expiring x) : IndexAgrees ⟨insert s.data k e, idx⟩ := by
  intro x t hx
  by_cases hxk : x = k
  · subst hxk
    exact ⟨e, lookup_insert_self _ _ _, hk t hx⟩
  · simp only [] at hx ⊢
    rw [lookup_insert_other _ _ _ _ hxk]
    rw [ho x hxk] at hx
    exact h x t hx

theorem enter_ia (c : Cfg) (fn : String) (now : Nat) (s : Shard) (k : Key) (h : IndexAgrees s) :
    IndexAgrees (enter c fn now s k).1 := by
  rcases enter_fst c fn now s k with h' | ⟨h', -⟩ <;> rw [h']
  · exact h
  · exact ia_erase_both s k h

theorem ia_put_both (s : Shard) (k : Key) (e : Stored) (h : IndexAgrees s) :
    IndexAgrees ⟨insert s.data k e, applyWrites s.expiring [(k, e.deadline)]⟩ := by
  apply ia_put s k e _ h
  · intro t ht
    cases hd : e.deadline with
    | none => rw [hd] at ht; simp [applyWrites, lookup_erase_self] at ht
    | some d => rw [hd] at ht; simpa [applyWrites, lookup_insert_self] using ht
  · intro x hx
    cases e.deadline with
    | none => exact lookup_erase_other _ _ _ hx
    | some d => exact lookup_insert_other _ _ _ _ hx

/-- The index entry found under `k` after `enter` is the deadline of the entry that was handed over — unless nothing was
    handed over by a lazy test that does not remove what it finds expired. -/
theorem enter_index (c : Cfg) (fn : String) (now : Nat) (s : Shard) (k : Key) (h : IndexAgrees s)
    (hq : (enter c fn now s k).2 = none → c.lazy fn = false ∨ c.reaps fn = true) (t : Nat)
    (ht : lookup (enter c fn now s k).1.expiring k = some t) :
    ∃ e, (enter c fn now s k).2 = some e ∧ e.deadline = some t := by
  unfold enter at hq ht ⊢
  cases hl : lookup s.data k with
  | none =>
    obtain ⟨e, he, _⟩ := h k t (by simpa [hl] using ht)
    rw [hl] at he; cases he
  | some e =>
    simp only [hl] at hq ht ⊢
    split at ht
    · rename_i hcond
      simp only [Bool.and_eq_true] at hcond
      rcases hq (by simp [hcond.1, hcond.2]) with hq | hq
      · rw [hq] at hcond; cases hcond.1
      · simp [hq, lookup_erase_self] at ht
    · rename_i hcond
      obtain ⟨e', he', hd⟩ := h k t ht
      rw [hl] at he'; cases he'
      exact ⟨e, by simp [hcond], hd⟩

theorem applyWrites_cons {α : Type} (l : List (Key × α)) (k : Key) (w : Option α) (r : List (Key × Option α)) :
    applyWrites l ((k, w) :: r) = applyWrites (applyWrites l [(k, w)]) r := by
  cases w <;> rfl

/-- Writes to `data` mirrored in the index — the deadline of every entry written, nothing for a key removed — keep (I). -/
theorem ia_writes_both (ws : List (Key × Option Stored)) (s : Shard) (h : IndexAgrees s) :
    IndexAgrees ⟨applyWrites s.data ws, applyWrites s.expiring (ws.map fun w => (w.1, w.2.bind (·.deadline)))⟩ := by
  induction ws generalizing s with
  | nil => exact h
  | cons w r ih =>
    obtain ⟨k, _ | e⟩ := w
    · exact ih _ (ia_erase_both s k h)
    · rw [List.map_cons, applyWrites_cons s.expiring]
      exact ih _ (ia_put_both s k e h)

/-- What `keepsIndex` asks of a storage function: its index writes mirror its writes to `data`, or it leaves the index
    alone and puts under its key an entry with the deadline of the one it was handed (none on a fresh key, which then
    must not be a dead entry a lazy test left in place). -/
theorem indexWrites_cases (c : Cfg) {o : Op} {fn : String} {k : Key} (hs : o.site = some (fn, k))
    (hk : keepsIndex c o = true) (now : Nat) (cur : Option Stored) :
    indexWrites c o now cur = (dataWrites o now cur).map (fun w => (w.1, w.2.bind (·.deadline))) ∨
    (indexWrites c o now cur = [] ∧ ∃ e', dataWrites o now cur = [(k, some e')] ∧
      e'.deadline = cur.bind (·.deadline) ∧ (cur = none → c.lazy fn = false ∨ c.reaps fn = true)) := by
  cases o with
  | keys | scan | flush => cases hs
  | setValue k tag val ttl =>
    cases ttl with
    | some t => exact .inl rfl
    | none =>
      have hsw : c.setValueDropsStale = true := by simpa [keepsIndex] using hk
      exact .inl (by simp only [indexWrites, hsw]; rfl)
  | setNx k val ttl =>
    cases hs
    cases cur with
    | some e => cases ttl <;> exact .inl rfl
    | none =>
      cases ttl with
      | some t => exact .inl rfl
      | none =>
        cases hsw : c.setNxDropsStale with
        | true => exact .inl (by simp only [indexWrites, hsw]; rfl)
        | false =>
          exact .inr ⟨by simp only [indexWrites, hsw]; rfl, _, rfl, rfl, fun _ => by simpa [keepsIndex, hsw] using hk⟩
  | persist k =>
    cases cur with
    | none => exact .inl rfl
    | some e => cases hd : e.deadline.isSome <;> exact .inl (by simp only [dataWrites, indexWrites, hd]; rfl)
  | update fn k tag delta =>
    cases hs
    cases cur with
    | none => exact .inr ⟨rfl, _, rfl, rfl, fun _ => by simpa [keepsIndex] using hk⟩
    | some e =>
      by_cases ht : e.tag = tag
      · exact .inr ⟨rfl, { e with val := e.val + delta }, by simp only [dataWrites, if_pos ht], rfl, nofun⟩
      · exact .inl (by simp only [dataWrites, indexWrites, if_neg ht]; rfl)
  | shrink fn k tag =>
    cases hs
    have hsw : c.emptiedDropsIndex = true := hk
    cases cur with
    | none => exact .inl rfl
    | some e =>
      by_cases ht : e.tag = tag
      · by_cases hv : e.val ≤ 1
        · exact .inl (by simp only [dataWrites, indexWrites, if_pos ht, if_pos hv, hsw]; rfl)
        · exact .inr ⟨by simp only [indexWrites, if_pos ht, if_neg hv], { e with val := e.val - 1 },
            by simp only [dataWrites, if_pos ht, if_neg hv], rfl, nofun⟩
      · exact .inl (by simp only [dataWrites, indexWrites, if_neg ht]; rfl)
  | rename a b =>
    have hsw : c.renameMovesIndex = true := hk
    cases cur with
    | none => exact .inl rfl
    | some e => exact .inl (by simp only [dataWrites, indexWrites, hsw]; rfl)
  | _ => cases cur <;> exact .inl rfl

theorem step_ia (c : Cfg) (o : Op) (now : Nat) (s : Shard) (hk : keepsIndex c o = true) (h : IndexAgrees s) :
    IndexAgrees (step c o now s).1 := by
  cases hs : o.site with
  | none =>
    rcases step_of_no_site c hs now s with h' | rfl
    · rw [h']; exact h
    · exact indexAgrees_empty
  | some p =>
    obtain ⟨fn, k⟩ := p
    rw [step_of_site c hs]
    have h1 := enter_ia c fn now s k h
    have h2 := enter_index c fn now s k h
    generalize enter c fn now s k = r at h1 h2 ⊢
    obtain ⟨s1, cur⟩ := r
    rcases indexWrites_cases c hs hk now cur with hw | ⟨hw, e', hd, he', hq⟩
    · rw [hw]
      exact ia_writes_both _ s1 h1
    · rw [hw, hd]
      -- the index entry of `k`, if any, is the deadline of what was handed over, which the put keeps
      refine ia_put s1 k e' _ h1 (fun t ht => ?_) (fun _ _ => rfl)
      obtain ⟨e0, (he0 : cur = some e0), hd0⟩ := h2 hq t ht
      rw [he', he0]
      exact hd0

theorem ia_sync (s : Shard) (k : Key) (h : IndexAgrees s) :
    IndexAgrees ⟨s.data, applyWrites s.expiring [(k, (lookup s.data k).bind (·.deadline))]⟩ := by
  intro x t hx
  by_cases hxk : x = k
  · subst hxk
    cases hl : lookup s.data x with
    | none => simp [hl, applyWrites, lookup_erase_self] at hx
    | some e =>
      cases hd : e.deadline with
      | none => simp [hl, hd, applyWrites, lookup_erase_self] at hx
      | some d =>
        simp [hl, hd, applyWrites, lookup_insert_self] at hx
        exact ⟨e, rfl, by rw [hd, hx]⟩
  · apply h x t
    cases hw : (lookup s.data k).bind (·.deadline) with
    | none => simpa [hw, applyWrites, lookup_erase_other _ _ _ hxk] using hx
    | some d => simpa [hw, applyWrites, lookup_insert_other _ _ _ _ hxk] using hx

theorem sweepDeleteKey_ia (c : Cfg) (now : Nat) (s : Shard) (k : Key) (h : IndexAgrees s) :
    IndexAgrees (sweepDeleteKey c now s k) := by
  rcases sweepDeleteKey_cases c now s k with h' | h' | ⟨h', -⟩ <;> rw [h']
  · exact h
  · exact ia_sync s k h
  · exact ia_erase_both s k h

theorem sweepDelete_ia (c : Cfg) (now : Nat) (ks : List Key) (s : Shard) (h : IndexAgrees s) :
    IndexAgrees (sweepDelete c now ks s) := by
  induction ks generalizing s with
  | nil => exact h
  | cons k r ih => exact ih _ (sweepDeleteKey_ia c now s k h)

theorem runM_ia (c : Cfg) (steps : List Step) (m : M) (h : IndexAgrees m.shard)
    (hk : allOps (keepsIndex c) steps = true) : IndexAgrees (runM c m steps).shard := by
  induction steps generalizing m with
  | nil => exact h
  | cons st r ih =>
    cases st with
    | op o now =>
      simp only [allOps, Bool.and_eq_true] at hk
      exact ih _ (step_ia c o now m.shard hk.1 h) hk.2
    | collect now => exact ih _ h hk
    | delete now => exact ih _ (sweepDelete_ia c now m.pending m.shard h) hk

theorem collect_due (now : Nat) (s : Shard) (h : IndexAgrees s) (hn : NodupKeys s.expiring) (k : Key) (hk : k ∈ sweepCollect now s) :
    ∃ e d, lookup s.data k = some e ∧ e.deadline = some d ∧ d ≤ now := by
  simp only [sweepCollect, List.mem_map, List.mem_filter, decide_eq_true_eq] at hk
  obtain ⟨⟨k', t⟩, ⟨hmem, hle⟩, hk'⟩ := hk
  simp only [] at hk' hle
  subst hk'
  have := lookup_of_mem_nodup s.expiring k' t hn hmem
  obtain ⟨e, he, hd⟩ := h k' t this
  exact ⟨e, t, he, hd, hle⟩

/-- NO SPURIOUS DELETE, the part that holds for any configuration (the tree as first analysed included): under (I), an ATOMIC pass (collect immediately
    followed by delete, nothing in between) removes no entry whose stored deadline is absent or after `now`. -/
theorem atomic_sweep_safe (c : Cfg) (now : Nat) (s : Shard) (h : IndexAgrees s) (hn : NodupKeys s.expiring)
    (k : Key) (e : Stored) (hl : lookup s.data k = some e) (hd : ∀ d, e.deadline = some d → now < d) :
    lookup (sweepDelete c now (sweepCollect now s) s).data k = some e := by
  rw [sweepDelete_other c now _ s k]
  · exact hl
  · intro hk
    obtain ⟨e', d, he', hde, hle⟩ := collect_due now s h hn k hk
    rw [hl] at he'; injection he' with he'; subst he'
    have := hd d hde
    omega

/-- how the witnesses refute (I): an index entry whose key holds no such stored deadline -/
theorem not_ia (s : Shard) (k : Key) (t : Nat) (h1 : lookup s.expiring k = some t)
    (h2 : (lookup s.data k).bind (·.deadline) ≠ some t) : ¬ IndexAgrees s := by
  intro h
  obtain ⟨e, he, hd⟩ := h k t h1
  rw [he] at h2
  exact h2 hd

theorem enter_nodup_idx (c : Cfg) (fn : String) (now : Nat) (s : Shard) (k : Key) (hn : NodupKeys s.expiring) :
    NodupKeys (enter c fn now s k).1.expiring := by
  rcases enter_fst c fn now s k with h | ⟨h, -⟩ <;> rw [h]
  · exact hn
  · exact nodup_erase _ _ hn

theorem step_nodup_idx (c : Cfg) (o : Op) (now : Nat) (s : Shard) (hn : NodupKeys s.expiring) :
    NodupKeys (step c o now s).1.expiring := by
  cases hs : o.site with
  | some p =>
    rw [step_of_site c hs]
    exact nodup_applyWrites _ _ (enter_nodup_idx c p.1 now s p.2 hn)
  | none =>
    rcases step_of_no_site c hs now s with h | rfl
    · rw [h]; exact hn
    · exact nodup_nil

theorem sweepDeleteKey_nodup_idx (c : Cfg) (now : Nat) (s : Shard) (k : Key) (hn : NodupKeys s.expiring) :
    NodupKeys (sweepDeleteKey c now s k).expiring := by
  rcases sweepDeleteKey_cases c now s k with h' | h' | ⟨h', -⟩ <;> rw [h']
  · exact hn
  · exact nodup_applyWrites _ _ hn
  · exact nodup_erase _ _ hn

theorem sweepDelete_nodup_idx (c : Cfg) (now : Nat) (ks : List Key) (s : Shard) (hn : NodupKeys s.expiring) :
    NodupKeys (sweepDelete c now ks s).expiring := by
  induction ks generalizing s with
  | nil => exact hn
  | cons k r ih => exact ih _ (sweepDeleteKey_nodup_idx c now s k hn)

end Ferrous.Exp
