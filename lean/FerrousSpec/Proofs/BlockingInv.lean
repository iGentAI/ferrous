/-
  Blocking pops — the single-key invariant `Inv`, the counting clause it shares with the multi-key invariant
  (`Counts`, one lemma per micro-operation), what `wake_client` does when the client named by the head request is
  there and blocked on the key (`wakeOne_live`), and what one step of the deadline scan does to the registry.
-/
import FerrousSpec.Proofs.BlockingBasic
namespace Ferrous.Blk

/-- length of the list stored at `k` -/
def cntL (s : State) (k : Key) : Nat := s.store.countP (keyIs k)

/-- wake-up requests under way for `k` -/
def cntW (s : State) (k : Key) : Nat := s.wakeQ.countP fun w => w.key == k

/-- registered waiters of `k` -/
def cntR (s : State) (k : Key) : Nat := s.registry.countP (keyIs k)

/-- Every client named by the registry or by a queued wake-up request. -/
def line (s : State) : List Conn := s.registry.map (·.2.conn) ++ s.wakeQ.map (·.conn)

structure Inv (s : State) : Prop where
  /-- a registry entry names a connection blocked on exactly that key, with the entry's deadline and operation -/
  regOk : ∀ k w, (k, w) ∈ s.registry → (s.conns w.conn).blocked = some ⟨[k], w.deadline, w.op⟩
  /-- so does a queued wake-up request -/
  wakeOk : ∀ w, w ∈ s.wakeQ → ∃ dl, (s.conns w.conn).blocked = some ⟨[w.key], dl, w.op⟩
  /-- a blocked connection is in at most one of {registry, wake queue}, once -/
  nodup : (line s).Nodup
  /-- and in at least one -/
  cover : ∀ c, (s.conns c).blocked ≠ none → c ∈ line s
  /-- blocked connections exist and their peer is there -/
  alive : ∀ c, (s.conns c).blocked ≠ none → c ≠ 0 ∧ (s.conns c).gone = false ∧ (s.conns c).peerClosed = false
  /-- every queued wake-up has its element; a key with waiters holds nothing else -/
  counts : ∀ k, cntW s k ≤ cntL s k ∧ (0 < cntR s k → cntL s k = cntW s k)
  lost : s.lost = []

theorem mem_line_reg {s : State} {k : Key} {w : Waiter} (h : (k, w) ∈ s.registry) : w.conn ∈ line s := by
  unfold line
  exact List.mem_append_left _ (List.mem_map.mpr ⟨(k, w), h, rfl⟩)

theorem mem_line_wake {s : State} {w : Wake} (h : w ∈ s.wakeQ) : w.conn ∈ line s := by
  unfold line
  exact List.mem_append_right _ (List.mem_map.mpr ⟨w, h, rfl⟩)

theorem mem_line_iff {s : State} {c : Conn} :
    c ∈ line s ↔ (∃ k w, (k, w) ∈ s.registry ∧ w.conn = c) ∨ (∃ w, w ∈ s.wakeQ ∧ w.conn = c) := by
  unfold line
  simp only [List.mem_append, List.mem_map]
  constructor
  · rintro (⟨⟨k, w⟩, h, rfl⟩ | ⟨w, h, rfl⟩)
    · exact .inl ⟨k, w, h, rfl⟩
    · exact .inr ⟨w, h, rfl⟩
  · rintro (⟨k, w, h, rfl⟩ | ⟨w, h, rfl⟩)
    · exact .inl ⟨(k, w), h, rfl⟩
    · exact .inr ⟨w, h, rfl⟩

theorem mem_line_iff' {s : State} {c : Conn} :
    c ∈ line s ↔ (∃ k w, (k, w) ∈ s.registry ∧ w.conn = c) ∨ (∃ w, w ∈ s.wakeQ ∧ w.conn = c) := mem_line_iff

/-- A client `x` leaves the line and is unblocked; nothing else changes for the other clients. -/
theorem Inv.remove {s t : State} (x : Conn) (hI : Inv s)
    (hreg : t.registry.Sublist s.registry) (hwk : t.wakeQ.Sublist s.wakeQ)
    (hline : ∀ c, c ∈ line s → c ≠ x → c ∈ line t)
    (hx : x ∉ line t)
    (hconn : ∀ c, c ≠ x → t.conns c = s.conns c)
    (hxb : (t.conns x).blocked = none)
    (hcounts : ∀ k, cntW t k ≤ cntL t k ∧ (0 < cntR t k → cntL t k = cntW t k))
    (hlost : t.lost = []) : Inv t := by
  refine ⟨?_, ?_, ?_, ?_, ?_, hcounts, hlost⟩
  · intro k w h
    have hne : w.conn ≠ x := fun e => hx (e ▸ mem_line_reg h)
    rw [hconn _ hne]
    exact hI.regOk k w (hreg.subset h)
  · intro w h
    have hne : w.conn ≠ x := fun e => hx (e ▸ mem_line_wake h)
    rw [hconn _ hne]
    exact hI.wakeOk w (hwk.subset h)
  · exact (List.Sublist.append (hreg.map _) (hwk.map _)).nodup hI.nodup
  · intro c hc
    have hne : c ≠ x := fun e => hc (e ▸ hxb)
    rw [hconn _ hne] at hc
    exact hline c (hI.cover c hc) hne
  · intro c hc
    have hne : c ≠ x := fun e => hc (e ▸ hxb)
    rw [hconn _ hne] at hc ⊢
    exact hI.alive c hc

theorem countP_keyIs_remove {α : Type} (k' : Key) (a b : List (Key × α)) (e : Key × α) :
    (a ++ e :: b).countP (keyIs k') = (a ++ b).countP (keyIs k') + (if k' = e.1 then 1 else 0) := by
  simp only [List.countP_append, List.countP_cons, keyIs, beq_iff_eq, @eq_comm _ e.1]
  omega

theorem cntW_cons {s : State} {w : Wake} {rest : List Wake} (hw : s.wakeQ = w :: rest) (k' : Key) :
    cntW s k' = rest.countP (fun w' => w'.key == k') + (if k' = w.key then 1 else 0) := by
  simp only [cntW, hw, List.countP_cons, beq_iff_eq, @eq_comm _ w.key]

theorem cntL_zero_of_popElem_none {op : Op} {k : Key} {st : List (Key × Elem)} (h : popElem op k st = none) :
    st.countP (keyIs k) = 0 := by
  apply List.countP_eq_zero.mpr
  intro y hy
  simp [keyIs_false_iff.mpr (popElem_none h y hy)]

theorem cntW_zero_of_noWakeFor {s : State} {k : Key} (h : noWakeFor s k = true) : cntW s k = 0 := by
  unfold cntW
  apply List.countP_eq_zero.mpr
  intro w hw
  have := List.all_eq_true.mp h w hw
  simpa using this

theorem cntR_zero_of_popFirst_none {s : State} {k : Key} (h : popFirst (keyIs k) s.registry = none) : cntR s k = 0 := by
  unfold cntR
  apply List.countP_eq_zero.mpr
  intro y hy
  simp [popFirst_none h y hy]

theorem countP_pushElems (op : Op) (k : Key) (vs : List Elem) (st : List (Key × Elem)) (k' : Key) :
    (pushElems op k vs st).countP (keyIs k') = st.countP (keyIs k') + (if k' = k then vs.length else 0) := by
  have hmap : ∀ (l : List Elem), (l.map fun v => ((k, v) : Key × Elem)).countP (keyIs k') = if k' = k then l.length else 0 := by
    intro l
    induction l with
    | nil => simp
    | cons v r ih =>
      simp only [List.map_cons, List.countP_cons, ih, keyIs, List.length_cons]
      by_cases h : k' = k
      · subst h; simp
      · have : (k == k') = false := by simp; exact fun e => h e.symm
        simp [h, this]
  cases op with
  | left =>
    simp only [pushElems, List.countP_append, hmap, List.length_reverse]
    omega
  | right =>
    simp only [pushElems, List.countP_append, hmap]

/-- No push in progress. -/
def noSlack : Key → Nat := fun _ => 0
/-- `m` elements of `k` pushed and not yet notified. -/
def slackAt (k : Key) (m : Nat) : Key → Nat := fun k' => if k' = k then m else 0
/-- One element of `k` less is waiting for its notification. -/
def decAt (sl : Key → Nat) (k : Key) : Key → Nat := fun k' => if k' = k then sl k - 1 else sl k'

theorem slackAt_zero (k : Key) : slackAt k 0 = noSlack := by
  funext k'; simp [slackAt, noSlack]

theorem decAt_slackAt (k : Key) (m : Nat) : decAt (slackAt k (m + 1)) k = slackAt k m := by
  funext k'; simp only [decAt, slackAt]; split <;> simp

/-- The counting clause of both invariants: every queued wake-up, and each of the `sl k` elements of `k` that a running
    push has not yet announced, has its element; a key with waiters holds nothing else. -/
def Counts (sl : Key → Nat) (s : State) : Prop :=
  ∀ k, cntW s k + sl k ≤ cntL s k ∧ (0 < cntR s k → cntL s k = cntW s k + sl k)

/-- Waiters leave; lists and requests stay. -/
theorem Counts.shrink {sl : Key → Nat} {s t : State} (h : Counts sl s) (hs : t.store = s.store) (hw : t.wakeQ = s.wakeQ)
    (hr : t.registry.Sublist s.registry) : Counts sl t := by
  intro k
  have hc := h k
  have hR : cntR t k ≤ cntR s k := hr.countP_le
  simp only [cntW, cntL, hs, hw] at hc ⊢
  omega

/-- The request at the head of the queue is carried out: its element leaves the list. -/
theorem Counts.serve {sl : Key → Nat} {s t : State} {w : Wake} {rest : List Wake} {e : Key × Elem} {st' : List (Key × Elem)}
    (h : Counts sl s) (hw : s.wakeQ = w :: rest) (hpe : popElem w.op w.key s.store = some (e, st'))
    (htw : t.wakeQ = rest) (hts : t.store = st') (htr : t.registry.Sublist s.registry) : Counts sl t := by
  obtain ⟨a, b, h1, h2, hek⟩ := popElem_some hpe
  intro k
  have hc := h k
  have hR : cntR t k ≤ cntR s k := htr.countP_le
  have hW := cntW_cons hw k
  have hW' : cntW t k = rest.countP (fun w' => w'.key == k) := by unfold cntW; rw [htw]
  have hL : cntL s k = cntL t k + (if k = w.key then 1 else 0) := by
    unfold cntL; rw [hts, h1, h2, countP_keyIs_remove, hek]
  by_cases hk : k = w.key
  · subst hk; simp only [↓reduceIte] at hL hW; omega
  · simp only [hk, ↓reduceIte] at hL hW; omega

/-- A pop of a key without a wake-up under way: had the key waiters, its list would be empty. -/
theorem Counts.pop {s t : State} {op : Op} {k : Key} {e : Key × Elem} {st' : List (Key × Elem)}
    (h : Counts noSlack s) (hW0 : cntW s k = 0) (hp : popElem op k s.store = some (e, st'))
    (hts : t.store = st') (htw : t.wakeQ = s.wakeQ) (htr : t.registry = s.registry) : Counts noSlack t := by
  obtain ⟨a, b, h1, h2, hek⟩ := popElem_some hp
  intro k'
  have hc := h k'
  have hL : cntL s k' = cntL t k' + (if k' = k then 1 else 0) := by
    unfold cntL; rw [hts, h1, h2, countP_keyIs_remove, hek]
  simp only [cntW, cntR, htw, htr, noSlack] at hc hW0 ⊢
  by_cases hk : k' = k
  · subst hk; simp only [↓reduceIte] at hL; omega
  · simp only [hk, ↓reduceIte] at hL; omega

/-- `n` elements arrive at `k`, not yet announced. -/
theorem Counts.push {s t : State} {k : Key} {n : Nat} (h : Counts noSlack s) (hw : t.wakeQ = s.wakeQ)
    (hr : t.registry = s.registry) (hL : ∀ k', cntL t k' = cntL s k' + (if k' = k then n else 0)) :
    Counts (slackAt k n) t := by
  intro k'
  have hc := h k'
  simp only [cntW, cntR, hw, hr, hL k', noSlack, slackAt] at hc ⊢
  split <;> omega

/-- `notify_key_ready` for an element that has not been announced yet. -/
theorem Counts.notify {sl : Key → Nat} {s : State} (h : Counts sl s) (k : Key) (hpos : 0 < sl k) :
    Counts (decAt sl k) (notify k s) := by
  intro k'
  have hc := h k'
  rcases notify_cases k s with ⟨hp, hn⟩ | ⟨a, e, b, h1, hek, _, hn⟩ <;> rw [hn]
  · have hR0 := cntR_zero_of_popFirst_none hp
    unfold decAt
    split
    · next hk => subst hk; omega
    · exact hc
  · have hR : cntR s k' = (a ++ b).countP (keyIs k') + (if k' = k then 1 else 0) := by
      unfold cntR; rw [h1, countP_keyIs_remove, hek]
    simp only [cntW, cntL, cntR, decAt, List.countP_append, List.countP_cons, List.countP_nil, beq_iff_eq,
      @eq_comm _ k k'] at hc hR ⊢
    by_cases hk : k' = k
    · subst hk; simp only [↓reduceIte] at hc hR ⊢; omega
    · simp only [hk, ↓reduceIte] at hc hR ⊢; omega

/-- New waiters on keys whose lists are empty. -/
theorem Counts.register {s t : State} {new : List (Key × Waiter)} (h : Counts noSlack s) (hs : t.store = s.store)
    (hw : t.wakeQ = s.wakeQ) (hr : t.registry = s.registry ++ new) (hempty : ∀ x ∈ new, cntL s x.1 = 0) :
    Counts noSlack t := by
  intro k
  have hc := h k
  simp only [cntW, cntL, cntR, hs, hw, hr, List.countP_append, noSlack] at hc ⊢
  by_cases hk : ∃ x ∈ new, x.1 = k
  · obtain ⟨x, hx, rfl⟩ := hk
    have := hempty x hx
    simp only [cntL] at this
    omega
  · have : new.countP (keyIs k) = 0 := List.countP_eq_zero.mpr fun x hx hxk => hk ⟨x, hx, keyIs_iff.mp hxk⟩
    omega

theorem isBlockedLive_of {s : State} {c : Conn} (h0 : c ≠ 0) (hg : (s.conns c).gone = false)
    {b : Blocked} (hb : (s.conns c).blocked = some b) : isBlockedLive s c = true := by
  simp [isBlockedLive, h0, hg, hb]

/-- The state after the request `w` at the head of the queue has been served with `e`. -/
def served (q : Quirks) (s : State) (w : Wake) (rest : List Wake) (e : Key × Elem) (st' : List (Key × Elem)) : State :=
  { s with
    wakeQ := rest, store := st', out := s.out ++ [(w.conn, .pair e.1 e.2)], conns := (setBlocked s w.conn none).conns,
    registry := if q.unregisterAllOnServe = true then s.registry.filter fun x => x.2.conn != w.conn else s.registry }

/-- When the head request names a client that is in the table, blocked on the key, with its peer there, `wake_client`
    serves it — or finds the list empty and drops the request. -/
theorem wakeOne_live (q : Quirks) {s : State} {w : Wake} {rest : List Wake} (hw : s.wakeQ = w :: rest)
    {b : Blocked} (hb : (s.conns w.conn).blocked = some b) (hk : w.key ∈ b.keys)
    (h0 : w.conn ≠ 0) (hg : (s.conns w.conn).gone = false) (hp : (s.conns w.conn).peerClosed = false) :
    (popElem w.op w.key s.store = none ∧ wakeOne q s = { s with wakeQ := rest }) ∨
    ∃ e st', popElem w.op w.key s.store = some (e, st') ∧ wakeOne q s = served q s w rest e st' := by
  have htgt : wakeTargetOk { s with wakeQ := rest } w = true := by
    simp [wakeTargetOk, isBlockedLive_of (s := { s with wakeQ := rest }) h0 hg hb, hb, hk]
  have hps : probeSees q { s with wakeQ := rest } w.conn = false := by
    show ((s.conns w.conn).peerClosed && _) = false
    rw [hp]; rfl
  unfold wakeOne
  rw [hw]
  simp only [htgt, hps, Bool.true_eq_false, Bool.false_eq_true, and_false, if_false]
  cases hpe : popElem w.op w.key s.store with
  | none => exact .inl ⟨rfl, rfl⟩
  | some x =>
    obtain ⟨e, st'⟩ := x
    refine .inr ⟨e, st', rfl, ?_⟩
    simp only [isBlockedLive_of (s := { s with wakeQ := rest, store := st' }) h0 hg hb, if_true,
      emit_open (s := { s with wakeQ := rest, store := st' }) hp, served, setBlocked, if_neg h0]
    split <;> rfl

theorem Inv_pushed {s : State} (hI : Inv s) (o : List (Key × Elem)) : Inv { s with pushed := o } :=
  ⟨hI.regOk, hI.wakeOk, hI.nodup, hI.cover, hI.alive, hI.counts, hI.lost⟩

theorem allowedFrom_append (q : Quirks) (e₁ e₂ : List Event) :
    ∀ s, allowedFrom q s (e₁ ++ e₂) = true → allowedFrom q s e₁ = true ∧ allowedFrom q (runFrom q s e₁) e₂ = true := by
  induction e₁ with
  | nil => intro s h; exact ⟨rfl, h⟩
  | cons e r ih =>
    intro s h
    simp only [List.cons_append, allowedFrom, Bool.and_eq_true] at h
    obtain ⟨h1, h2⟩ := ih _ h.2
    exact ⟨by simp only [allowedFrom, Bool.and_eq_true]; exact ⟨h.1, h1⟩, h2⟩

theorem expireOne_registry (now : Nat) (s : State) :
    (popFirst (isExpired now) s.registry = none ∧ expireOne now s = s) ∨
    ∃ a e b, s.registry = a ++ e :: b ∧ isExpired now e = true ∧ (expireOne now s).registry = a ++ b := by
  unfold expireOne
  split
  · next hp => exact .inl ⟨hp, rfl⟩
  · next e reg' hp =>
    obtain ⟨a, b, h1, rfl, h3, _⟩ := popFirst_some hp
    refine .inr ⟨a, e, b, h1, h3, ?_⟩
    unfold timeoutConn; split <;> simp

theorem expireOne_sublist (now : Nat) (s : State) : (expireOne now s).registry.Sublist s.registry := by
  rcases expireOne_registry now s with ⟨_, h⟩ | ⟨a, e, b, h1, _, h⟩ <;> rw [h]
  · exact List.Sublist.refl _
  · rw [h1]; exact sublist_remove a b e

theorem expireOne_count (now : Nat) (s : State) :
    (expireOne now s).registry.countP (isExpired now) = s.registry.countP (isExpired now) - 1 := by
  rcases expireOne_registry now s with ⟨hp, h⟩ | ⟨a, e, b, h1, h3, h⟩ <;> rw [h]
  · have : s.registry.countP (isExpired now) = 0 :=
      List.countP_eq_zero.mpr fun y hy => by simp [popFirst_none hp y hy]
    omega
  · simp [h1, List.countP_append, h3]

theorem iter_expireOne_count (now : Nat) :
    ∀ n s, s.registry.countP (isExpired now) ≤ n → (iter (expireOne now) n s).registry.countP (isExpired now) = 0 := by
  intro n
  induction n with
  | zero => intro s h; simp only [iter]; omega
  | succ n ih =>
    intro s h
    simp only [iter]
    apply ih
    rw [expireOne_count]; omega

end Ferrous.Blk
