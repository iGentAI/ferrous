/-
  One `parse` call keeps an error or a frame when bytes are appended, up to the whitespace it skips
  (`parserParse_append`); so draining `x ++ X` is draining `x`, then what that left with `X` appended
  (`drainF_append`), and chunked feeding from a buffer at rest is one drain (`runChunks_eq_drainF`).
-/
import FerrousSpec.Proofs.RespParse
namespace Ferrous

theorem dropWhile_sub (p q : Nat → Bool) (hpq : ∀ a, q a = true → p a = true) (l : Bytes) :
    (l.dropWhile q).dropWhile p = l.dropWhile p := by
  induction l with
  | nil => rfl
  | cons a t ih =>
    by_cases h : q a
    · simp [h, hpq a h, ih]
    · simp [h]

theorem dropWhile_idem (p : Nat → Bool) (l : Bytes) : (l.dropWhile p).dropWhile p = l.dropWhile p :=
  dropWhile_sub p p (fun _ h => h) l

theorem dropWhile_append_norm (p : Nat → Bool) (x X : Bytes) :
    (x ++ X).dropWhile p = (x.dropWhile p ++ X).dropWhile p := by
  rw [List.dropWhile_append, List.dropWhile_append, dropWhile_idem]

theorem isNl_sub (a : Nat) (h : isNl a = true) : isWs a = true := by
  simp only [isNl, Bool.or_eq_true, beq_iff_eq] at h
  rcases h with rfl | rfl <;> rfl

theorem isSpNl_sub (a : Nat) (h : isSpNl a = true) : isWs a = true := by
  simp only [isSpNl, Bool.or_eq_true, beq_iff_eq] at h
  rcases h with (rfl | rfl) | rfl <;> rfl

theorem parserParse_ws (pf : Bool) (buf : Bytes) : parserParse pf buf = parserParse pf (buf.dropWhile isWs) := by
  unfold parserParse
  simp only [dropWhile_idem]

theorem parserParse_star (pf : Bool) (t : Bytes) :
    parserParse pf (42 :: t) = match parseBytes (42 :: t) with
      | .need => (.none, 42 :: t)
      | .err => (.err, 42 :: t)
      | .ok f r => (.frame f, r.dropWhile isNl) := by
  cases pf <;> rfl

theorem parserParse_congr (pf : Bool) (y y' : Bytes) (h : y.dropWhile isWs = y'.dropWhile isWs) :
    parserParse pf y = parserParse pf y' := by
  rw [parserParse_ws pf y, parserParse_ws pf y', h]

theorem stripPing_eq {b t : Bytes} (h : stripPing b = some t) : b = pingBytes ++ t := by
  unfold stripPing at h
  split at h
  next htake => cases h; rw [← htake, List.take_append_drop]
  next => cases h

theorem parserParse_frame_length (pf : Bool) (buf : Bytes) (f : Frame) (b2 : Bytes)
    (h : parserParse pf buf = (.frame f, b2)) : b2.length < buf.length := by
  unfold parserParse at h
  have hws := (List.dropWhile_sublist isWs (l := buf)).length_le
  generalize buf.dropWhile isWs = b at h hws
  dsimp only at h
  split at h
  · cases h
  split at h
  next t hsp =>
    cases h
    have := (List.dropWhile_sublist isSpNl (l := t)).length_le
    rw [stripPing_eq hsp, List.length_append] at hws
    exact Nat.lt_of_lt_of_le (Nat.lt_of_le_of_lt this (Nat.lt_add_of_pos_left (by decide))) hws
  split at h
  · cases h
  split at h <;> cases h
  next r hp =>
    have := parseFrame_shrinks _ _ _ _ hp
    have := (List.dropWhile_sublist isNl (l := r)).length_le
    omega

theorem parserParse_none {pf : Bool} {buf b2 : Bytes} (h : parserParse pf buf = (.none, b2)) :
    b2 = buf.dropWhile isWs := by
  unfold parserParse at h
  generalize buf.dropWhile isWs = b at h
  dsimp only at h
  split at h
  · cases h; rfl
  split at h
  · cases h
  split at h
  · cases h; rfl
  split at h <;> cases h
  rfl

theorem parserParse_none_again {pf : Bool} {buf b2 : Bytes} (h : parserParse pf buf = (.none, b2)) :
    parserParse pf b2 = (.none, b2) := by
  have hb := parserParse_none h
  rwa [parserParse_ws, ← hb] at h

theorem stripPing_append (b t X : Bytes) (h : stripPing b = some t) : stripPing (b ++ X) = some (t ++ X) := by
  rw [stripPing_eq h]
  rfl

theorem stripPing_none_append (b X : Bytes) (hne : b ≠ []) (h : stripPing b = none)
    (hpp : isPingProperPrefix b = false) :
    stripPing (b ++ X) = none ∧ isPingProperPrefix (b ++ X) = false := by
  unfold stripPing at h ⊢
  simp only [pingBytes] at h ⊢
  match b, hne with
  | [a], _ => simp_all [isPingProperPrefix]
  | [a, c], _ => simp_all [isPingProperPrefix]
  | [a, c, d], _ => simp_all [isPingProperPrefix]
  | a :: c :: d :: g :: t, _ => simp_all [isPingProperPrefix]

theorem parseBytes_append (b X : Bytes) (h : parseBytes b ≠ .need) :
    parseBytes (b ++ X) = (parseBytes b).ext X := by
  unfold parseBytes at h ⊢
  exact parseFrame_stable X (maxNesting + 1) b h

theorem ws_skip_norm (q : Nat → Bool) (hq : ∀ a, q a = true → isWs a = true) (t X : Bytes) :
    ((t ++ X).dropWhile q).dropWhile isWs = (t.dropWhile q ++ X).dropWhile isWs := by
  rw [dropWhile_sub isWs q hq, dropWhile_append_norm isWs t X,
      dropWhile_append_norm isWs (t.dropWhile q) X, dropWhile_sub isWs q hq]

theorem parserParse_append (x X : Bytes) :
    match parserParse true x with
    | (.none, _) => True
    | (.err, _) => (parserParse true (x ++ X)).1 = .err
    | (.frame f, b2) => ∃ b3, parserParse true (x ++ X) = (.frame f, b3) ∧
        b3.dropWhile isWs = (b2 ++ X).dropWhile isWs := by
  unfold parserParse
  by_cases hb : x.dropWhile isWs = []
  · simp [hb]
  rw [List.dropWhile_append, if_neg (by simpa using hb)]
  generalize x.dropWhile isWs = b at hb
  simp only [List.isEmpty_iff, hb, List.append_eq_nil_iff, false_and, if_false]
  cases hsp : stripPing b with
  | some t =>
    rw [stripPing_append b t X hsp]
    exact ⟨_, rfl, ws_skip_norm isSpNl isSpNl_sub t X⟩
  | none =>
    cases hpp : isPingProperPrefix b with
    | true => trivial
    | false =>
      obtain ⟨h1, h2⟩ := stripPing_none_append b X hb hsp hpp
      simp only [h1, h2, Bool.and_false, Bool.false_eq_true, if_false]
      cases hp : parseBytes b with
      | need => trivial
      | err => rw [parseBytes_append b X (by simp [hp]), hp]; rfl
      | ok f r =>
        rw [parseBytes_append b X (by simp [hp]), hp]
        exact ⟨_, rfl, ws_skip_norm isNl isNl_sub r X⟩

theorem drainF_none {pf : Bool} {n : Nat} {buf b : Bytes} (h : parserParse pf buf = (.none, b)) :
    drainF pf (n + 1) buf = ([], b, false) := by
  simp [drainF, h]
theorem drainF_err {pf : Bool} {n : Nat} {buf b : Bytes} (h : parserParse pf buf = (.err, b)) :
    drainF pf (n + 1) buf = ([.err], b, true) := by
  simp [drainF, h]
theorem drainF_frame {pf : Bool} {n : Nat} {buf b : Bytes} {f : Frame} (h : parserParse pf buf = (.frame f, b)) :
    drainF pf (n + 1) buf = (.frame f :: (drainF pf n b).1, (drainF pf n b).2.1, (drainF pf n b).2.2) := by
  simp [drainF, h]

theorem drainF_congr (n m : Nat) (y y' : Bytes) (h : y.dropWhile isWs = y'.dropWhile isWs)
    (hn : y.length < n) (hm : y'.length < m) : drainF true n y = drainF true m y' := by
  induction n generalizing m y y' with
  | zero => omega
  | succ n ih =>
    cases m with
    | zero => omega
    | succ m =>
      cases hp : parserParse true y with
      | mk res b =>
        have hp' := parserParse_congr true y y' h ▸ hp
        cases res with
        | none => rw [drainF_none hp, drainF_none hp']
        | err => rw [drainF_err hp, drainF_err hp']
        | frame f =>
          have h1 := parserParse_frame_length true y f b hp
          have h2 := parserParse_frame_length true y' f b hp'
          rw [drainF_frame hp, drainF_frame hp', ih m b b rfl (by omega) (by omega)]

theorem drainF_fuel (n m : Nat) (y : Bytes) (hn : y.length < n) (hm : y.length < m) :
    drainF true n y = drainF true m y :=
  drainF_congr n m y y rfl hn hm

theorem drainF_resting (n : Nat) (x : Bytes) (hn : x.length < n) (evs : List Ev) (b' : Bytes)
    (h : drainF true n x = (evs, b', false)) : parserParse true b' = (.none, b') := by
  fun_induction drainF true n x generalizing evs with
  | case1 => omega
  | case2 n buf b hp => cases h; exact parserParse_none_again hp
  | case3 n buf b hp => cases h
  | case4 n buf f b hp evs' b'' e hd ih =>
    cases h
    exact ih (by have := parserParse_frame_length true buf f b hp; omega) _ hd

theorem drainF_append (n : Nat) (x X : Bytes) (hn : x.length < n) :
    ∀ m, (x ++ X).length < m →
      ((drainF true n x).2.2 = true → (drainF true m (x ++ X)).1 = (drainF true n x).1) ∧
      ((drainF true n x).2.2 = false → ∀ k, ((drainF true n x).2.1 ++ X).length < k →
          (drainF true m (x ++ X)).1 = (drainF true n x).1 ++ (drainF true k ((drainF true n x).2.1 ++ X)).1) := by
  intro m hm
  obtain ⟨m, rfl⟩ : ∃ k, m = k + 1 := ⟨m - 1, by omega⟩
  have happ := parserParse_append x X
  fun_induction drainF true n x generalizing m with
  | case1 => omega
  | case2 n x b hp =>
    refine ⟨nofun, fun _ k hk => ?_⟩
    have hcong : (x ++ X).dropWhile isWs = (b ++ X).dropWhile isWs := by
      rw [parserParse_none hp]; exact dropWhile_append_norm isWs x X
    rw [drainF_congr (m + 1) k (x ++ X) (b ++ X) hcong hm hk]
    rfl
  | case3 n x b hp =>
    refine ⟨fun _ => ?_, nofun⟩
    rw [hp] at happ
    cases hq : parserParse true (x ++ X) with
    | mk res2 b2 =>
      rw [hq] at happ
      cases (happ : res2 = .err)
      rw [drainF_err hq]
  | case4 n x f b hp evs b'' e hd ih =>
    rw [hp] at happ
    obtain ⟨b3, hq, hws⟩ := happ
    have hl := parserParse_frame_length true x f b hp
    have hl3 := parserParse_frame_length true (x ++ X) f b3 hq
    have hcong := drainF_congr m ((b ++ X).length + 1) b3 (b ++ X) hws (by omega) (by omega)
    have ihb := ih (by omega) (b ++ X).length (by omega) (parserParse_append b X)
    rw [hd] at ihb
    rw [drainF_frame hq, hcong]
    exact ⟨fun he => by rw [ihb.1 he], fun he k hk => by rw [ihb.2 he k hk]; rfl⟩

theorem runChunks_eq_drainF : ∀ (cs : List Bytes) (buf : Bytes), parserParse true buf = (.none, buf) →
    ∀ m, (buf ++ cs.flatten).length < m → runChunks true buf cs = (drainF true m (buf ++ cs.flatten)).1
  | [], buf, hrest, m + 1, _ => by rw [List.flatten_nil, List.append_nil, drainF_none hrest]; rfl
  | c :: cs, buf, hrest, m, hm => by
    simp only [List.flatten_cons, ← List.append_assoc] at hm ⊢
    have happ := drainF_append ((buf ++ c).length + 1) (buf ++ c) cs.flatten (by omega) m hm
    unfold runChunks drain
    cases hd : drainF true ((buf ++ c).length + 1) (buf ++ c) with
    | mk evs rest =>
      obtain ⟨b', e⟩ := rest
      rw [hd] at happ
      dsimp only at happ ⊢
      cases e with
      | true => exact (happ.1 rfl).symm
      | false =>
        have hres := drainF_resting _ _ (by omega) evs b' hd
        simp only [Bool.false_eq_true, if_false]
        rw [runChunks_eq_drainF cs b' hres ((b' ++ cs.flatten).length + 1) (by omega)]
        exact (happ.2 rfl _ (by omega)).symm

end Ferrous
