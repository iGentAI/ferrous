/-
  KEYS of the key-space model: its sort is a permutation; the matcher `KS.glob` (Redis `stringmatchlen`)
  on patterns without special bytes and on `*`.
-/
import FerrousSpec.Model.Keyspace
namespace Ferrous.KS
open Ferrous

theorem insertSorted_perm (x : Bytes) (l : List Bytes) : (insertSorted x l).Perm (x :: l) := by
  induction l with
  | nil => exact .refl _
  | cons y t ih =>
    unfold insertSorted
    split
    · exact (ih.cons y).trans (.swap x y t)
    · exact .refl _

theorem sortBytes_perm (l : List Bytes) : (sortBytes l).Perm l := by
  induction l with
  | nil => exact .refl _
  | cons a t ih => exact (insertSorted_perm a _).trans (ih.cons a)

/-- a pattern byte that is none of `*` `?` `[` `\` -/
def plain (c : Nat) : Bool := c != 42 && c != 63 && c != 91 && c != 92

/-- on a plain pattern byte the matcher compares and moves on -/
theorem globF_plain (f c : Nat) (p s : Bytes) (hc : plain c = true) :
    globF (f + 1) (c :: p) s = match s with
      | [] => false
      | d :: t => if c = d then globF f p t else false := by
  simp only [plain, Bool.and_eq_true, bne_iff_ne, ne_eq] at hc
  obtain ⟨⟨⟨h1, h2⟩, h3⟩, h4⟩ := hc
  conv => lhs; unfold globF
  -- six cases contradict `hc`; the last leaves the two sides' `match`es, equal by unfolding
  split <;> simp_all <;> rfl

theorem globF_literal : ∀ (p : Bytes) (f : Nat) (s : Bytes), p.all plain = true → p.length < f →
    globF f p s = decide (p = s) := by
  intro p
  induction p with
  | nil =>
    intro f s _ hf
    cases f with
    | zero => omega
    | succ f => cases s <;> simp [globF]
  | cons c p ih =>
    intro f s hp hf
    simp only [List.all_cons, Bool.and_eq_true] at hp
    cases f with
    | zero => omega
    | succ f =>
      rw [globF_plain f c p s hp.1]
      cases s with
      | nil => simp
      | cons d t =>
        simp only [List.length_cons] at hf
        by_cases hcd : c = d
        · simp [hcd, ih f t hp.2 (by omega)]
        · simp [hcd]

theorem globF_star_all : ∀ (s : Bytes) (f : Nat), s.length + 2 ≤ f → globF f [42] s = true := by
  intro s
  induction s with
  | nil =>
    intro f hf
    match f, hf with
    | f + 2, _ => simp [globF]
  | cons a t ih =>
    intro f hf
    match f, hf with
    | f + 1, hf =>
      simp only [List.length_cons] at hf
      have := ih f (by omega)
      unfold globF
      simp [this]

end Ferrous.KS
