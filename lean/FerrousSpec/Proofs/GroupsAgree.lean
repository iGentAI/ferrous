/-
  C16: agreement of the pending-list representations is preserved by every operation of a group.

  `AgreeCore` is read functionally (`Rep`): per consumer name the vector `vec` and the counter `cnt` are total
  functions, every container update (`bcPush`, `bcRemoveId`, `consAdjust`, `consCreate`, `alErase`) is a rewriting
  rule for them, and `byId` enters only through `Owns`.  Two lemmas do the work: a row leaves (`Rep.remove`), a row
  arrives (`Rep.add`).  XACK is the first, a delivery the second, XCLAIM the first followed by the second.
-/
import FerrousSpec.Proofs.GroupsBasic
namespace Ferrous.Grp
open Code

theorem length_filter_add_not {α : Type} (p : α → Bool) (l : List α) :
    (l.filter p).length + (l.filter (fun x => !p x)).length = l.length := by
  induction l with
  | nil => rfl
  | cons x t ih =>
    rw [List.filter_cons, List.filter_cons]
    cases p x
    · exact congrArg (· + 1) ih
    · exact (Nat.add_right_comm _ 1 _).trans (congrArg (· + 1) ih)

/-- `c`'s vector of pending ids; empty when none is stored -/
def vec (bc : List (Name × List Id)) (c : Name) : List Id := (alGet c bc).getD []

/-- `c`'s `pending_count`; 0 when `c` is not a consumer -/
def cnt (cs : List (Name × Nat)) (c : Name) : Nat := (alGet c cs).getD 0

theorem alGet_bcPush (j c : Name) (id : Id) (bc : List (Name × List Id)) :
    alGet j (bcPush c id bc) = if c = j then some ((alGet c bc).getD [] ++ [id]) else alGet j bc := by
  unfold bcPush
  cases h : alGet c bc with
  | some l => simp only [alGet_alSet, Option.getD_some]
  | none => simp only [alGet_alSet, Option.getD_none, List.nil_append]

theorem vec_bcPush (j c : Name) (id : Id) (bc : List (Name × List Id)) :
    vec (bcPush c id bc) j = if c = j then vec bc c ++ [id] else vec bc j := by
  unfold vec; rw [alGet_bcPush]; split <;> rfl

theorem nodup_keys_bcPush {c : Name} {id : Id} {bc : List (Name × List Id)} (hn : (keys bc).Nodup) :
    (keys (bcPush c id bc)).Nodup := by
  unfold bcPush
  split <;> exact nodup_keys_alSet hn

theorem bcRemoveId_none {o : Name} {id : Id} {bc : List (Name × List Id)} (h : alGet o bc = none) :
    bcRemoveId o id bc = bc := by
  simp [bcRemoveId, h]

/-- the owner's vector loses `id` and is dropped when that empties it -/
theorem alGet_bcRemoveId (j o : Name) (id : Id) (bc : List (Name × List Id)) :
    alGet j (bcRemoveId o id bc) =
      if o = j then (if (vec bc o).filter (· != id) = [] then none else some ((vec bc o).filter (· != id)))
      else alGet j bc := by
  unfold bcRemoveId vec
  cases hl : alGet o bc with
  | none =>
    dsimp only
    split
    · rename_i hj; rw [← hj, hl]; rfl
    · rfl
  | some l =>
    simp only [Option.getD_some, List.isEmpty_iff]
    by_cases he : l.filter (· != id) = []
    · rw [if_pos he, if_pos he, alGet_alErase]
    · rw [if_neg he, if_neg he, alGet_alSet]

theorem vec_bcRemoveId (j o : Name) (id : Id) (bc : List (Name × List Id)) :
    vec (bcRemoveId o id bc) j = if o = j then (vec bc o).filter (· != id) else vec bc j := by
  rw [vec, alGet_bcRemoveId]
  split
  · split
    · rename_i he; rw [he]; rfl
    · rfl
  · rfl

theorem nodup_keys_bcRemoveId {o : Name} {id : Id} {bc : List (Name × List Id)} (hn : (keys bc).Nodup) :
    (keys (bcRemoveId o id bc)).Nodup := by
  unfold bcRemoveId
  split
  · split
    · exact nodup_keys_alErase hn
    · exact nodup_keys_alSet hn
  · exact hn

theorem vec_alErase (j c : Name) (bc : List (Name × List Id)) :
    vec (alErase c bc) j = if c = j then [] else vec bc j := by
  unfold vec; rw [alGet_alErase]; split <;> rfl

theorem consAdjust_none {c : Name} {f : Nat → Nat} {cs : List (Name × Nat)} (h : alGet c cs = none) :
    consAdjust c f cs = cs := by
  simp [consAdjust, h]

theorem alGet_consAdjust (j c : Name) (f : Nat → Nat) (cs : List (Name × Nat)) :
    alGet j (consAdjust c f cs) = if c = j then (alGet c cs).map f else alGet j cs := by
  unfold consAdjust
  cases h : alGet c cs with
  | some n => simp only [alGet_alSet, Option.map_some]
  | none =>
    dsimp only
    split
    · rename_i hj; rw [← hj, h]; rfl
    · rfl

/-- a missing consumer is not created by `consAdjust`, so its counter stays 0: harmless when `f 0 = 0` -/
theorem cnt_consAdjust {c : Name} {f : Nat → Nat} {cs : List (Name × Nat)} (h : alGet c cs = none → f 0 = 0)
    (j : Name) : cnt (consAdjust c f cs) j = if c = j then f (cnt cs c) else cnt cs j := by
  unfold cnt; rw [alGet_consAdjust]
  split
  · cases hc : alGet c cs with
    | none => exact (h hc).symm
    | some n => rfl
  · rfl

theorem nodup_keys_consAdjust {c : Name} {f : Nat → Nat} {cs : List (Name × Nat)} (hn : (keys cs).Nodup) :
    (keys (consAdjust c f cs)).Nodup := by
  unfold consAdjust
  split
  · exact nodup_keys_alSet hn
  · exact hn

theorem isSome_consAdjust {j c : Name} {f : Nat → Nat} {cs : List (Name × Nat)} (h : (alGet j cs).isSome) :
    (alGet j (consAdjust c f cs)).isSome := by
  rw [alGet_consAdjust]
  split
  · rename_i hj; rw [hj, Option.isSome_map]; exact h
  · exact h

theorem alGet_consCreate (j c : Name) (cs : List (Name × Nat)) :
    alGet j (consCreate c cs) = if c = j then some (cnt cs c) else alGet j cs := by
  unfold consCreate cnt
  cases h : alGet c cs with
  | none => exact alGet_alSet j c 0 cs
  | some n =>
    dsimp only
    split
    · rename_i hj; rw [← hj, h]; rfl
    · rfl

theorem cnt_consCreate (j c : Name) (cs : List (Name × Nat)) : cnt (consCreate c cs) j = cnt cs j := by
  rw [cnt, alGet_consCreate]
  split
  · rename_i hj; rw [← hj]; rfl
  · rfl

theorem alGet_consCreate_self (c : Name) (cs : List (Name × Nat)) : (alGet c (consCreate c cs)).isSome := by
  rw [alGet_consCreate, if_pos rfl]; rfl

theorem nodup_keys_consCreate {c : Name} {cs : List (Name × Nat)} (hn : (keys cs).Nodup) :
    (keys (consCreate c cs)).Nodup := by
  unfold consCreate
  split
  · exact hn
  · exact nodup_keys_alSet hn

theorem alGet_of_cnt {cs : List (Name × Nat)} {c : Name} {n : Nat} (h : cnt cs c = n) (hn : n ≠ 0) :
    alGet c cs = some n := by
  unfold cnt at h
  cases hc : alGet c cs with
  | none => rw [hc] at h; exact absurd h.symm hn
  | some m => rw [hc] at h; exact congrArg some h

theorem cnt_alErase (j c : Name) (cs : List (Name × Nat)) :
    cnt (alErase c cs) j = if c = j then 0 else cnt cs j := by
  unfold cnt; rw [alGet_alErase]; split <;> rfl

/-- `byId` has a row for `id`, owned by `c` -/
def Owns (l : List PEntry) (id : Id) (c : Name) : Prop := ∃ e ∈ l, e.id = id ∧ e.owner = c

theorem Owns.unique {l : List PEntry} (hs : Sorted l) {id : Id} {c c' : Name} (h : Owns l id c) (h' : Owns l id c') :
    c = c' := by
  obtain ⟨e, he, hi, rfl⟩ := h
  obtain ⟨e', he', hi', rfl⟩ := h'
  rw [sorted_unique hs he he' (hi.trans hi'.symm)]

theorem owns_pelRemove {l : List PEntry} {id i : Id} {o : Name} :
    Owns (pelRemove id l) i o ↔ Owns l i o ∧ i ≠ id := by
  simp only [Owns, mem_pelRemove]
  constructor
  · rintro ⟨e, ⟨he, hne⟩, rfl, ho⟩; exact ⟨⟨e, he, rfl, ho⟩, hne⟩
  · rintro ⟨⟨e, he, rfl, ho⟩, hne⟩; exact ⟨e, ⟨he, hne⟩, rfl, ho⟩

theorem owns_pelInsert {l : List PEntry} (hs : Sorted l) {e : PEntry} (hfresh : ∀ x ∈ l, x.id ≠ e.id) {i : Id}
    {o : Name} : Owns (pelInsert e l) i o ↔ (i = e.id ∧ o = e.owner) ∨ Owns l i o := by
  simp only [Owns, mem_pelInsert hs]
  constructor
  · rintro ⟨x, rfl | ⟨hx, _⟩, rfl, rfl⟩
    · exact Or.inl ⟨rfl, rfl⟩
    · exact Or.inr ⟨x, hx, rfl, rfl⟩
  · rintro (⟨rfl, rfl⟩ | ⟨x, hx, rfl, rfl⟩)
    · exact ⟨e, Or.inl rfl, rfl, rfl⟩
    · exact ⟨x, Or.inr ⟨hx, hfresh x hx⟩, rfl, rfl⟩

/-- as far as ownership goes, handing a row to `c` is removing it and inserting it for `c` -/
theorem owns_pelSetOwner {l : List PEntry} {e : PEntry} (he : e ∈ l) (c : Name) {i : Id} {o : Name} :
    Owns (pelSetOwner e.id c l) i o ↔ (i = e.id ∧ o = c) ∨ Owns (pelRemove e.id l) i o := by
  simp only [Owns, pelSetOwner, List.mem_map, mem_pelRemove]
  constructor
  · rintro ⟨_, ⟨y, hy, rfl⟩, hi, ho⟩
    by_cases hid : y.id = e.id
    · rw [if_pos hid] at hi ho; exact Or.inl ⟨hi.symm.trans hid, ho.symm⟩
    · rw [if_neg hid] at hi ho; exact Or.inr ⟨y, ⟨hy, hid⟩, hi, ho⟩
  · rintro (⟨rfl, rfl⟩ | ⟨y, ⟨hy, hid⟩, hi, ho⟩)
    · exact ⟨_, ⟨e, he, rfl⟩, by rw [if_pos rfl], by rw [if_pos rfl]⟩
    · exact ⟨_, ⟨y, hy, rfl⟩, by rw [if_neg hid]; exact hi, by rw [if_neg hid]; exact ho⟩

structure Rep (l : List PEntry) (bc : List (Name × List Id)) (cs : List (Name × Nat)) : Prop where
  sorted : Sorted l
  bcKeys : (keys bc).Nodup
  csKeys : (keys cs).Nodup
  stored : ∀ c, alGet c bc ≠ some []
  nodup : ∀ c, (vec bc c).Nodup
  mem : ∀ c id, id ∈ vec bc c ↔ Owns l id c
  count : ∀ c, cnt cs c = (vec bc c).length

theorem agreeCore_iff {g : Group} :
    AgreeCore g ↔ Rep g.byId g.byConsumer g.consumers ∧
      g.minPending = g.byId.head?.map (·.id) ∧ g.maxPending = g.byId.getLast?.map (·.id) := by
  constructor
  · intro h
    have hvec : ∀ {c v}, alGet c g.byConsumer = some v → vec g.byConsumer c = v := fun hv => by rw [vec, hv]; rfl
    refine ⟨⟨h.sorted, h.bcKeys, h.csKeys, ?_, ?_, ?_, ?_⟩, h.bmin, h.bmax⟩
    · intro c hc; exact (h.lists _ (mem_of_alGet hc)).1 rfl
    · intro c
      cases hv : alGet c g.byConsumer with
      | none => rw [vec, hv]; exact List.nodup_nil
      | some v => rw [hvec hv]; exact (h.lists _ (mem_of_alGet hv)).2
    · intro c id
      constructor
      · intro hid
        have hp := mem_of_getD_alGet_ne (l := g.byConsumer) (k := c) (d := [])
          (fun e => by rw [vec, e] at hid; cases hid)
        exact h.own₂ _ hp id hid
      · rintro ⟨e, he, rfl, rfl⟩
        obtain ⟨p, hp, hpo, hpid⟩ := h.own₁ e he
        rw [← hpo, vec, getD_alGet_of_mem h.bcKeys hp]; exact hpid
    · intro c
      cases hv : alGet c g.byConsumer with
      | none =>
        rw [vec, hv]
        cases hn : alGet c g.consumers with
        | none => rw [cnt, hn]; rfl
        | some n =>
          rw [cnt, hn]
          rcases h.cnt₂ _ (mem_of_alGet hn) with h0 | ⟨p, hp, hpo⟩
          · exact h0
          · have := alGet_of_mem h.bcKeys (show (p.1, p.2) ∈ g.byConsumer from hp)
            rw [hpo, hv] at this; cases this
      | some v =>
        obtain ⟨r, hr, hro, hrn⟩ := h.cnt₁ _ (mem_of_alGet hv)
        have := getD_alGet_of_mem h.csKeys hr 0
        rw [hro] at this
        rw [cnt, this, hrn, hvec hv]
  · rintro ⟨h, hmin, hmax⟩
    have hvec : ∀ p ∈ g.byConsumer, vec g.byConsumer p.1 = p.2 := fun p hp => getD_alGet_of_mem h.bcKeys hp []
    have hstored : ∀ p ∈ g.byConsumer, p.2 ≠ [] := fun p hp e =>
      h.stored p.1 (by rw [alGet_of_mem h.bcKeys (show (p.1, p.2) ∈ g.byConsumer from hp), e])
    refine { sorted := h.sorted, bcKeys := h.bcKeys, csKeys := h.csKeys, lists := ?_, own₁ := ?_, own₂ := ?_,
             cnt₁ := ?_, cnt₂ := ?_, bmin := hmin, bmax := hmax }
    · intro p hp; exact ⟨hstored p hp, hvec p hp ▸ h.nodup p.1⟩
    · intro e he
      have hid : e.id ∈ vec g.byConsumer e.owner := (h.mem _ _).mpr ⟨e, he, rfl, rfl⟩
      exact ⟨_, mem_of_getD_alGet_ne (d := []) (fun e0 => by rw [vec, e0] at hid; cases hid), rfl, hid⟩
    · intro p hp id hid
      exact (h.mem p.1 id).mp (by rw [hvec p hp]; exact hid)
    · intro p hp
      have hc : cnt g.consumers p.1 = p.2.length := by rw [h.count, hvec p hp]
      refine ⟨_, mem_of_getD_alGet_ne (d := 0) (fun e0 => hstored p hp ?_), rfl, hc⟩
      exact List.eq_nil_of_length_eq_zero (hc.symm.trans e0)
    · intro r hr
      have hc : r.2 = (vec g.byConsumer r.1).length := by
        rw [← h.count]; exact (getD_alGet_of_mem h.csKeys hr 0).symm
      cases hv : alGet r.1 g.byConsumer with
      | none => rw [vec, hv] at hc; exact Or.inl hc
      | some v => exact Or.inr ⟨_, mem_of_alGet hv, rfl⟩

namespace Rep
variable {l : List PEntry} {bc : List (Name × List Id)} {cs : List (Name × Nat)}

theorem mem_vec (h : Rep l bc cs) {e : PEntry} (he : e ∈ l) (c : Name) : e.id ∈ vec bc c ↔ e.owner = c :=
  (h.mem c e.id).trans ⟨fun ho => Owns.unique h.sorted ⟨e, he, rfl, rfl⟩ ho, fun ho => ⟨e, he, rfl, ho⟩⟩

/-- the row `e` leaves: XACK -/
theorem remove (h : Rep l bc cs) {e : PEntry} (he : e ∈ l) :
    Rep (pelRemove e.id l) (bcRemoveId e.owner e.id bc) (consAdjust e.owner (· - 1) cs) := by
  refine ⟨sorted_pelRemove h.sorted, nodup_keys_bcRemoveId h.bcKeys, nodup_keys_consAdjust h.csKeys, ?_, ?_, ?_, ?_⟩
  · intro c
    rw [alGet_bcRemoveId]
    split
    · split
      · exact nofun
      · rename_i hne; exact fun e0 => hne (Option.some.inj e0)
    · exact h.stored c
  · intro c
    rw [vec_bcRemoveId]
    split
    · exact (h.nodup _).filter _
    · exact h.nodup c
  · intro c id
    rw [vec_bcRemoveId, owns_pelRemove, ← h.mem]
    split
    · rename_i hc; rw [← hc, List.mem_filter, bne_iff_ne]
    · rename_i hc
      refine ⟨fun hid => ⟨hid, ?_⟩, fun hid => hid.1⟩
      rintro rfl
      exact hc ((h.mem_vec he c).mp hid)
  · intro c
    rw [cnt_consAdjust (fun _ => rfl), vec_bcRemoveId]
    split
    · rw [h.count]
      exact Nat.sub_eq_of_eq_add (length_filter_ne (h.nodup e.owner) ((h.mem_vec he _).mpr rfl)).symm
    · exact h.count c

/-- a row for the id `id`, pending for nobody, arrives for the consumer `c`: a delivery -/
theorem add (h : Rep l bc cs) {c : Name} {id : Id} (hc : (alGet c cs).isSome) (hfresh : ∀ o, ¬ Owns l id o)
    {l' : List PEntry} (hs : Sorted l') (hm : ∀ i o, Owns l' i o ↔ (i = id ∧ o = c) ∨ Owns l i o) :
    Rep l' (bcPush c id bc) (consAdjust c (· + 1) cs) := by
  refine ⟨hs, nodup_keys_bcPush h.bcKeys, nodup_keys_consAdjust h.csKeys, ?_, ?_, ?_, ?_⟩
  · intro j
    rw [alGet_bcPush]
    split
    · exact fun e0 => List.append_ne_nil_of_right_ne_nil _ (List.cons_ne_nil _ _) (Option.some.inj e0)
    · exact h.stored j
  · intro j
    rw [vec_bcPush]
    split
    · exact nodup_concat.mpr ⟨h.nodup c, fun hid => hfresh c ((h.mem c id).mp hid)⟩
    · exact h.nodup j
  · intro j i
    rw [vec_bcPush, hm, ← h.mem]
    split
    · rename_i hj; rw [← hj, List.mem_append, List.mem_singleton, or_comm, and_iff_left rfl]
    · rename_i hj
      exact ⟨Or.inr, fun hi => hi.resolve_left (fun e0 => hj e0.2.symm)⟩
  · intro j
    rw [cnt_consAdjust (fun hn => by rw [hn] at hc; cases hc), vec_bcPush]
    split
    · rw [h.count, List.length_append]; rfl
    · exact h.count j

theorem create (h : Rep l bc cs) (c : Name) : Rep l bc (consCreate c cs) :=
  { h with csKeys := nodup_keys_consCreate h.csKeys, count := fun j => by rw [cnt_consCreate]; exact h.count j }

/-- every row of `c` leaves, and `c` with them: DELCONSUMER -/
theorem erase (h : Rep l bc cs) (c : Name) :
    Rep (l.filter (fun e => e.owner != c)) (alErase c bc) (alErase c cs) := by
  have hm : ∀ i o, Owns (l.filter (fun e => e.owner != c)) i o ↔ Owns l i o ∧ o ≠ c := by
    intro i o
    simp only [Owns, List.mem_filter, bne_iff_ne]
    constructor
    · rintro ⟨e, ⟨he, hne⟩, rfl, rfl⟩; exact ⟨⟨e, he, rfl, rfl⟩, hne⟩
    · rintro ⟨⟨e, he, rfl, rfl⟩, hne⟩; exact ⟨e, ⟨he, hne⟩, rfl, rfl⟩
  refine ⟨h.sorted.filter _, nodup_keys_alErase h.bcKeys, nodup_keys_alErase h.csKeys, ?_, ?_, ?_, ?_⟩
  · intro j
    rw [alGet_alErase]
    split
    · exact nofun
    · exact h.stored j
  · intro j
    rw [vec_alErase]
    split
    · exact List.nodup_nil
    · exact h.nodup j
  · intro j i
    rw [vec_alErase, hm, ← h.mem]
    split
    · rename_i hj; exact ⟨nofun, fun hi => absurd hj.symm hi.2⟩
    · rename_i hj; exact ⟨fun hi => ⟨hi, fun e0 => hj e0.symm⟩, fun hi => hi.1⟩
  · intro j
    rw [cnt_alErase, vec_alErase]
    split
    · rfl
    · exact h.count j

/-- `remove_consumer_entries` finds `c`'s rows through `c`'s vector -/
theorem filter_vec (h : Rep l bc cs) (c : Name) :
    l.filter (fun e => !(vec bc c).contains e.id) = l.filter (fun e => e.owner != c) := by
  apply List.filter_congr
  intro e he
  simp only [List.contains_eq_mem, h.mem_vec he c]
  by_cases ho : e.owner = c <;> simp [ho]

theorem vec_length (h : Rep l bc cs) (c : Name) : (vec bc c).length = (l.filter (fun e => e.owner == c)).length := by
  have hids : (l.map (·.id)).Nodup := (sorted_iff_ids.mp h.sorted).imp (fun hlt => idLt_ne hlt)
  have hperm : ((l.filter (fun e => e.owner == c)).map (·.id)).Perm (vec bc c) := by
    apply (List.perm_ext_iff_of_nodup (hids.sublist (List.filter_sublist.map _)) (h.nodup c)).mpr
    intro i
    rw [h.mem]
    simp only [Owns, List.mem_map, List.mem_filter, beq_iff_eq, and_assoc]
    exact exists_congr fun e => and_congr_right fun _ => and_comm
  rw [← hperm.length_eq, List.length_map]

end Rep

theorem AgreeCore.rep {g : Group} (h : AgreeCore g) : Rep g.byId g.byConsumer g.consumers := (agreeCore_iff.mp h).1

theorem AgreeCore.congr {g g' : Group} (h : AgreeCore g) (h₁ : g'.byId = g.byId) (h₂ : g'.byConsumer = g.byConsumer)
    (h₃ : g'.consumers = g.consumers) (h₄ : g'.minPending = g.minPending) (h₅ : g'.maxPending = g.maxPending) :
    AgreeCore g' := by
  rw [agreeCore_iff, h₁, h₂, h₃, h₄, h₅]; exact agreeCore_iff.mp h

theorem agree_setLast {g : Group} (h : Agree g) (l : Id) : Agree { g with lastDelivered := l } :=
  { toAgreeCore := h.toAgreeCore.congr rfl rfl rfl rfl rfl, total := h.total }

theorem agreeCore_newGroup (q : Quirks) (start : Id) : AgreeCore (newGroup q start) :=
  agreeCore_iff.mpr ⟨⟨List.Pairwise.nil, List.nodup_nil, List.nodup_nil, fun _ => nofun,
    fun _ => List.nodup_nil, fun _ _ => ⟨nofun, fun ⟨_, h, _⟩ => (nomatch h)⟩, fun _ => rfl⟩, rfl, rfl⟩

theorem ackOne_none {g : Group} {id : Id} (hf : pelFind id g.byId = none) : ackOne g id = (g, false) := by
  simp only [ackOne, hf]

theorem ackOne_some {g : Group} {id : Id} {e : PEntry} (hf : pelFind id g.byId = some e) :
    ackOne g id =
      (updateBounds { g with byId := pelRemove id g.byId, byConsumer := bcRemoveId e.owner id g.byConsumer,
                             consumers := consAdjust e.owner (· - 1) g.consumers }, true) := by
  simp only [ackOne, hf]

theorem agreeCore_ackOne {g : Group} (h : AgreeCore g) (id : Id) : AgreeCore (ackOne g id).1 := by
  cases hf : pelFind id g.byId with
  | none => rw [ackOne_none hf]; exact h
  | some e =>
    obtain ⟨he, rfl⟩ := pelFind_some hf
    rw [ackOne_some hf]
    exact agreeCore_iff.mpr ⟨h.rep.remove he, rfl, rfl⟩

theorem ackOne_frame (g : Group) (id : Id) :
    (ackOne g id).1.byId = pelRemove id g.byId ∧ (ackOne g id).2 = (pelFind id g.byId).isSome ∧
    (ackOne g id).1.totalPending = g.totalPending ∧ (ackOne g id).1.lastDelivered = g.lastDelivered := by
  cases hf : pelFind id g.byId with
  | none => rw [ackOne_none hf]; exact ⟨(pelRemove_of_not_mem (pelFind_none.mp hf)).symm, rfl, rfl, rfl⟩
  | some e => rw [ackOne_some hf]; exact ⟨rfl, rfl, rfl, rfl⟩

theorem ackLoop_induct {P : Group → Prop} (hstep : ∀ g id, P g → P (ackOne g id).1) (ids : List Id) :
    ∀ {g : Group} {n : Nat}, P g → P (ackLoop g ids n).1 := by
  induction ids with
  | nil => exact fun h => h
  | cons id ids ih => exact fun h => ih (hstep _ id h)

theorem ackLoop_last (g : Group) (ids : List Id) (n : Nat) : (ackLoop g ids n).1.lastDelivered = g.lastDelivered :=
  ackLoop_induct (P := fun g' => g'.lastDelivered = g.lastDelivered)
    (fun g' id h => (ackOne_frame g' id).2.2.2.trans h) ids rfl

theorem ackLoop_rows (g : Group) (ids : List Id) (n : Nat) :
    (ackLoop g ids n).1.byId = g.byId.filter (fun e => !ids.contains e.id) := by
  induction ids generalizing g n with
  | nil => exact (List.filter_eq_self.mpr fun _ _ => rfl).symm
  | cons id ids ih =>
    simp only [ackLoop]
    rw [ih, (ackOne_frame g id).1, pelRemove, List.filter_filter]
    apply List.filter_congr
    intro e _
    rw [List.contains_cons, bne]
    cases e.id == id <;> cases ids.contains e.id <;> rfl

/-- the rows XACK removes are those whose id is listed; the counter grows by their number, each counted once
    because every successful step shortens `byId` by one -/
theorem ackLoop_byId (g : Group) (ids : List Id) (n : Nat) (hs : Sorted g.byId) :
    (ackLoop g ids n).1.byId = g.byId.filter (fun e => !ids.contains e.id) ∧
    (ackLoop g ids n).2 = n + (g.byId.filter (fun e => ids.contains e.id)).length := by
  have hlen : (ackLoop g ids n).1.byId.length + (ackLoop g ids n).2 = g.byId.length + n := by
    induction ids generalizing g n with
    | nil => rfl
    | cons id ids ih =>
      obtain ⟨hb, hr, _, _⟩ := ackOne_frame g id
      simp only [ackLoop]
      rw [ih _ _ (hb ▸ sorted_pelRemove hs), hb, hr]
      cases hf : pelFind id g.byId with
      | none => rw [pelRemove_of_not_mem (pelFind_none.mp hf)]; rfl
      | some e =>
        obtain ⟨he, rfl⟩ := pelFind_some hf
        rw [← length_pelRemove hs he]
        exact Nat.add_right_comm _ n 1
  have := length_filter_add_not (fun e : PEntry => ids.contains e.id) g.byId
  rw [ackLoop_rows] at hlen
  exact ⟨ackLoop_rows g ids n, by omega⟩

theorem agree_acknowledge {g : Group} (h : Agree g) (ids : List Id) : Agree (acknowledge g ids).1 := by
  obtain ⟨hb, hn⟩ := ackLoop_byId g ids 0 h.sorted
  have hc : AgreeCore (ackLoop g ids 0).1 := ackLoop_induct (P := AgreeCore) (fun _ id hg => agreeCore_ackOne hg id) ids h.toAgreeCore
  have ht : (ackLoop g ids 0).1.totalPending = g.totalPending :=
    ackLoop_induct (P := fun g' => g'.totalPending = g.totalPending)
      (fun g' id hg => (ackOne_frame g' id).2.2.1.trans hg) ids rfl
  refine ⟨hc.congr rfl rfl rfl rfl rfl, ?_⟩
  show (ackLoop g ids 0).1.totalPending - (ackLoop g ids 0).2 = (ackLoop g ids 0).1.byId.length
  have := length_filter_add_not (fun e : PEntry => ids.contains e.id) g.byId
  rw [ht, hn, hb, h.total, Nat.zero_add]
  exact Nat.sub_eq_of_eq_add ((Nat.add_comm _ _).trans this).symm

theorem agreeCore_createConsumer {g : Group} (h : AgreeCore g) (c : Name) : AgreeCore (createConsumer g c) :=
  agreeCore_iff.mpr ⟨h.rep.create c, h.bmin, h.bmax⟩

theorem agree_createConsumer {g : Group} (h : Agree g) (c : Name) : Agree (createConsumer g c) :=
  { toAgreeCore := agreeCore_createConsumer h.toAgreeCore c, total := h.total }

theorem claimOne_none {c : Name} {elig : Bool} {g : Group} {id : Id} (hf : pelFind id g.byId = none) :
    claimOne c elig g id = (g, false) := by
  simp only [claimOne, hf]

theorem claimOne_false (c : Name) (g : Group) (id : Id) : claimOne c false g id = (g, false) := by
  unfold claimOne; split <;> rfl

theorem claimOne_some {c : Name} {g : Group} {id : Id} {e : PEntry} (hf : pelFind id g.byId = some e) :
    claimOne c true g id =
      ({ g with consumers := consAdjust c (· + 1) (consAdjust e.owner (· - 1) g.consumers),
                byConsumer := bcPush c id (bcRemoveId e.owner id g.byConsumer),
                byId := pelSetOwner id c g.byId }, true) := by
  simp [claimOne, transfer, hf]

/-- moving one pending entry to `c`, which must already be a consumer, is a removal followed by an arrival -/
theorem agreeCore_claimOne {g : Group} (h : AgreeCore g) (c : Name) (elig : Bool) (id : Id)
    (hc : (alGet c g.consumers).isSome) : AgreeCore (claimOne c elig g id).1 := by
  cases hf : pelFind id g.byId with
  | none => rw [claimOne_none hf]; exact h
  | some e =>
    cases elig with
    | false => rw [claimOne_false]; exact h
    | true =>
      obtain ⟨he, rfl⟩ := pelFind_some hf
      rw [claimOne_some hf]
      refine agreeCore_iff.mpr ⟨(h.rep.remove he).add (isSome_consAdjust hc) ?_ (sorted_pelSetOwner h.sorted)
        (fun _ _ => owns_pelSetOwner he c), ?_, ?_⟩
      · exact fun o ho => (owns_pelRemove.mp ho).2 rfl
      · exact h.bmin.trans (head?_pelSetOwner e.id c g.byId).symm
      · exact h.bmax.trans (getLast?_pelSetOwner e.id c g.byId).symm

theorem claimOne_frame (c : Name) (elig : Bool) (g : Group) (id : Id) :
    (claimOne c elig g id).1.totalPending = g.totalPending ∧
    (claimOne c elig g id).1.lastDelivered = g.lastDelivered ∧
    (claimOne c elig g id).1.byId.map (·.id) = g.byId.map (·.id) ∧
    ((alGet c g.consumers).isSome → (alGet c (claimOne c elig g id).1.consumers).isSome) := by
  cases hf : pelFind id g.byId with
  | none => rw [claimOne_none hf]; exact ⟨rfl, rfl, rfl, fun h => h⟩
  | some e =>
    cases elig with
    | false => rw [claimOne_false]; exact ⟨rfl, rfl, rfl, fun h => h⟩
    | true =>
      rw [claimOne_some hf]
      exact ⟨rfl, rfl, pelIds_pelSetOwner id c g.byId, fun hc => isSome_consAdjust (isSome_consAdjust hc)⟩

theorem claimLoop_induct {P : Group → Prop} {c : Name} {elig : Bool}
    (hstep : ∀ g id, P g → P (claimOne c elig g id).1) (ids : List Id) :
    ∀ {g : Group}, P g → P (claimLoop c elig g ids).1 := by
  induction ids with
  | nil => exact fun h => h
  | cons id ids ih => exact fun h => ih (hstep _ id h)

theorem claim_frame (g : Group) (c : Name) (elig : Bool) (ids : List Id) :
    (claim g c elig ids).1.totalPending = g.totalPending ∧
    (claim g c elig ids).1.lastDelivered = g.lastDelivered ∧
    (claim g c elig ids).1.byId.map (·.id) = g.byId.map (·.id) :=
  claimLoop_induct
    (P := fun g' => g'.totalPending = g.totalPending ∧ g'.lastDelivered = g.lastDelivered ∧
      g'.byId.map (·.id) = g.byId.map (·.id))
    (fun g' id ⟨h1, h2, h3⟩ =>
      have ⟨f1, f2, f3, _⟩ := claimOne_frame c elig g' id
      ⟨f1.trans h1, f2.trans h2, f3.trans h3⟩) ids ⟨rfl, rfl, rfl⟩

theorem agree_claimOne {g : Group} (h : Agree g) (c : Name) (elig : Bool) (id : Id)
    (hc : (alGet c g.consumers).isSome) : Agree (claimOne c elig g id).1 := by
  obtain ⟨ht, _, hi, _⟩ := claimOne_frame c elig g id
  have hlen := congrArg List.length hi
  rw [List.length_map, List.length_map] at hlen
  exact ⟨agreeCore_claimOne h.toAgreeCore c elig id hc, by rw [ht, hlen]; exact h.total⟩

theorem agree_claim {g : Group} (h : Agree g) (c : Name) (elig : Bool) (ids : List Id) :
    Agree (claim g c elig ids).1 :=
  (claimLoop_induct (P := fun g => Agree g ∧ (alGet c g.consumers).isSome) (c := c) (elig := elig)
    (fun g id hg => ⟨agree_claimOne hg.1 c elig id hg.2, (claimOne_frame c elig g id).2.2.2 hg.2⟩) ids
    ⟨agree_createConsumer h c, alGet_consCreate_self c g.consumers⟩).1

theorem deleteConsumer_last (g : Group) (c : Name) : (deleteConsumer g c).1.lastDelivered = g.lastDelivered := by
  unfold deleteConsumer
  split
  · simp only [removeConsumerEntries]
    split <;> rfl
  · rfl

theorem deleteConsumer_consumer (g : Group) (c : Name) : alGet c (deleteConsumer g c).1.consumers = none := by
  unfold deleteConsumer
  cases hc : alGet c g.consumers with
  | none => exact hc
  | some n =>
    simp only [removeConsumerEntries]
    split <;> exact (alGet_alErase c c g.consumers).trans (if_pos rfl)

theorem deleteConsumer_spec {g : Group} (h : Agree g) (c : Name) :
    Agree (deleteConsumer g c).1 ∧ (deleteConsumer g c).1.byId = g.byId.filter (fun e => e.owner != c) ∧
    (deleteConsumer g c).2 = (g.byId.filter (fun e => e.owner == c)).length := by
  have hr := h.rep
  have hlen := hr.vec_length c
  have hfil := hr.filter_vec c
  have hnil : vec g.byConsumer c = [] → g.byId = g.byId.filter (fun e => e.owner != c) := by
    intro hv; rw [← hfil, hv]; exact (List.filter_eq_self.mpr fun _ _ => rfl).symm
  unfold deleteConsumer
  cases hc : alGet c g.consumers with
  | none =>
    have hv : vec g.byConsumer c = [] := List.eq_nil_of_length_eq_zero (by rw [← hr.count, cnt, hc]; rfl)
    exact ⟨h, hnil hv, by rw [← hlen, hv]; rfl⟩
  | some n =>
    dsimp only
    unfold removeConsumerEntries
    cases hl : alGet c g.byConsumer with
    | none =>
      have hv : vec g.byConsumer c = [] := by rw [vec, hl]; rfl
      refine ⟨⟨agreeCore_iff.mpr ⟨?_, h.bmin, h.bmax⟩, h.total⟩, hnil hv, by rw [← hlen, hv]; rfl⟩
      exact { hr with csKeys := nodup_keys_alErase hr.csKeys,
                      count := fun j => by
                        rw [cnt_alErase]; split
                        · rename_i hj; rw [← hj, hv]; rfl
                        · exact hr.count j }
    | some v =>
      have hv : vec g.byConsumer c = v := by rw [vec, hl]; rfl
      rw [hv] at hlen hfil
      refine ⟨⟨agreeCore_iff.mpr ⟨?_, rfl, rfl⟩, ?_⟩, hfil, hlen⟩
      · show Rep (g.byId.filter _) _ _
        rw [hfil]; exact hr.erase c
      · show g.totalPending - v.length = (g.byId.filter _).length
        have := length_filter_add_not (fun e : PEntry => e.owner == c) g.byId
        rw [hfil, hlen, h.total]
        exact Nat.sub_eq_of_eq_add ((Nat.add_comm _ _).trans this).symm

theorem deleteConsumer_mem (g : Group) (c : Name) : ∀ e ∈ (deleteConsumer g c).1.byId, e ∈ g.byId := by
  intro e he
  unfold deleteConsumer at he
  split at he
  · simp only [removeConsumerEntries] at he
    split at he
    · exact (List.mem_filter.mp he).1
    · exact he
  · exact he

theorem agree_deleteConsumer {g : Group} (h : Agree g) (c : Name) : Agree (deleteConsumer g c).1 :=
  (deleteConsumer_spec h c).1

theorem agreeCore_addOne {g : Group} (h : AgreeCore g) {c : Name} (hc : (alGet c g.consumers).isSome) {id : Id}
    (hfresh : ∀ e ∈ g.byId, e.id ≠ id) : AgreeCore (addOne c g id) :=
  agreeCore_iff.mpr ⟨h.rep.add hc (fun _ ⟨e, he, hi, _⟩ => hfresh e he hi) (sorted_pelInsert h.sorted)
    (fun _ _ => owns_pelInsert h.sorted hfresh), rfl, rfl⟩

theorem agree_addOne {g : Group} (h : Agree g) {c : Name} (hc : (alGet c g.consumers).isSome) {id : Id}
    (hfresh : ∀ e ∈ g.byId, e.id ≠ id) : Agree (addOne c g id) :=
  ⟨agreeCore_addOne h.toAgreeCore hc hfresh, by
    show g.totalPending + 1 = (pelInsert ⟨id, c, 1⟩ g.byId).length
    rw [length_pelInsert_fresh hfresh, h.total]⟩

theorem agree_foldl_addOne {c : Name} (ids : List Id) : ∀ {g : Group}, Agree g → (alGet c g.consumers).isSome →
    ids.Nodup → (∀ id ∈ ids, ∀ e ∈ g.byId, e.id ≠ id) → Agree (ids.foldl (addOne c) g) := by
  induction ids with
  | nil => exact fun h _ _ _ => h
  | cons id ids ih =>
    intro g h hc hnd hfresh
    rw [List.nodup_cons] at hnd
    refine ih (agree_addOne h hc (hfresh id List.mem_cons_self)) (isSome_consAdjust hc) hnd.2 ?_
    intro id' hid' e he
    rcases mem_pelInsert_sub he with rfl | he
    · exact fun (e0 : id = id') => hnd.1 (e0 ▸ hid')
    · exact hfresh id' (List.mem_cons_of_mem _ hid') e he

/-- where a delivery of `ids` leaves a cursor that stood at `a` -/
def cursorAfter (a : Id) (ids : List Id) : Id :=
  match ids.getLast? with
  | some l => if idLt a l then l else a
  | none => a

theorem setLast_cursorAfter (g : Group) (ids : List Id) :
    (match ids.getLast? with
     | some l => if idLt g.lastDelivered l then { g with lastDelivered := l } else g
     | none => g) = { g with lastDelivered := cursorAfter g.lastDelivered ids } := by
  unfold cursorAfter
  cases ids.getLast? with
  | none => rfl
  | some l => dsimp only; cases idLt g.lastDelivered l <;> rfl

def bump (c : Name) (g : Group) (n : Nat) : Group :=
  { g with consumers := consAdjust c (· + n) g.consumers, totalPending := g.totalPending + n }

theorem consAdjust_zero (c : Name) (cs : List (Name × Nat)) : consAdjust c (· + 0) cs = cs := by
  unfold consAdjust
  cases h : alGet c cs with
  | none => rfl
  | some n => exact alSet_same h

theorem consAdjust_add (c : Name) (a b : Nat) (cs : List (Name × Nat)) :
    consAdjust c (· + a) (consAdjust c (· + b) cs) = consAdjust c (· + (b + a)) cs := by
  unfold consAdjust
  cases h : alGet c cs with
  | none => simp [h]
  | some n => simp [alGet_alSet, alSet_alSet, Nat.add_assoc]

theorem addEntry_bump (c : Name) (g : Group) (n : Nat) (id : Id) :
    addEntry c (bump c g n) id = bump c (addEntry c g id) n := rfl

theorem foldl_addEntry_bump (c : Name) (ids : List Id) (g : Group) (n : Nat) :
    ids.foldl (addEntry c) (bump c g n) = bump c (ids.foldl (addEntry c) g) n := by
  induction ids generalizing g with
  | nil => rfl
  | cons id ids ih => simp only [List.foldl_cons, addEntry_bump, ih]

theorem bump_bump (c : Name) (g : Group) (a b : Nat) : bump c (bump c g b) a = bump c g (b + a) := by
  simp only [bump, consAdjust_add, Nat.add_assoc]

/-- counting the new rows one by one, or all at the end as `add_pending` does, is the same -/
theorem foldl_addOne (c : Name) (ids : List Id) (g : Group) :
    ids.foldl (addOne c) g = bump c (ids.foldl (addEntry c) g) ids.length := by
  induction ids generalizing g with
  | nil =>
    show g = { g with consumers := consAdjust c (· + 0) g.consumers, totalPending := g.totalPending + 0 }
    rw [consAdjust_zero]; rfl
  | cons id ids ih =>
    rw [List.foldl_cons, List.foldl_cons, List.length_cons, ih]
    show bump c (ids.foldl (addEntry c) (bump c (addEntry c g id) 1)) ids.length = _
    rw [foldl_addEntry_bump, bump_bump, Nat.add_comm]

theorem addPending_eq (g : Group) (c : Name) (ids : List Id) :
    addPending g c ids =
      { ids.foldl (addOne c) (createConsumer g c) with lastDelivered := cursorAfter g.lastDelivered ids } := by
  have hl : (ids.foldl (addEntry c) (createConsumer g c)).lastDelivered = g.lastDelivered :=
    List.foldlRecOn ids (addEntry c) (motive := fun g' : Group => g'.lastDelivered = g.lastDelivered) rfl (fun _ h _ _ => h)
  rw [foldl_addOne, ← hl]
  exact setLast_cursorAfter (bump c (ids.foldl (addEntry c) (createConsumer g c)) ids.length) ids

theorem agree_addPending {g : Group} (h : Agree g) (c : Name) {ids : List Id} (hnd : ids.Nodup)
    (hfresh : ∀ id ∈ ids, ∀ e ∈ g.byId, e.id ≠ id) : Agree (addPending g c ids) := by
  rw [addPending_eq]
  exact agree_setLast
    (agree_foldl_addOne ids (agree_createConsumer h c) (alGet_consCreate_self c g.consumers) hnd hfresh) _

theorem addPending_ids (g : Group) (c : Name) (ids : List Id) :
    ∀ e ∈ (addPending g c ids).byId, e.id ∈ g.byId.map (·.id) ∨ e.id ∈ ids := by
  rw [addPending_eq]
  exact List.foldlRecOn ids (addOne c) (b := createConsumer g c)
    (motive := fun g' : Group => ∀ e ∈ g'.byId, e.id ∈ g.byId.map (fun x : PEntry => x.id) ∨ e.id ∈ ids)
    (fun e he => Or.inl (List.mem_map_of_mem he))
    (fun g' hg id hid e he => (mem_pelInsert_sub he).elim (fun h => Or.inr (by rw [h]; exact hid)) (hg e))

theorem deliverOneFixed_frame (c : Name) (s : Group × Nat) (id : Id) :
    (deliverOneFixed c s id).1.lastDelivered = s.1.lastDelivered ∧
    ∀ e ∈ (deliverOneFixed c s id).1.byId, e.id ∈ s.1.byId.map (·.id) ∨ e.id = id := by
  unfold deliverOneFixed
  cases hf : pelFind id s.1.byId with
  | some _ =>
    obtain ⟨_, f2, f3, _⟩ := claimOne_frame c true s.1 id
    exact ⟨f2, fun e he => Or.inl (f3 ▸ List.mem_map_of_mem he)⟩
  | none =>
    exact ⟨rfl, fun e he =>
      (mem_pelInsert_sub he).elim (fun h => Or.inr (by rw [h])) (fun h => Or.inl (List.mem_map_of_mem h))⟩

/-- it keeps the representations in agreement up to the total, which the loop settles at its end: the total and
    the number of new rows so far add up to the number of rows -/
theorem deliverOneFixed_agree {c : Name} {s : Group × Nat} (h : AgreeCore s.1) (hc : (alGet c s.1.consumers).isSome)
    (ht : s.1.totalPending + s.2 = s.1.byId.length) (id : Id) :
    AgreeCore (deliverOneFixed c s id).1 ∧ (alGet c (deliverOneFixed c s id).1.consumers).isSome ∧
    (deliverOneFixed c s id).1.totalPending + (deliverOneFixed c s id).2 = (deliverOneFixed c s id).1.byId.length := by
  unfold deliverOneFixed
  cases hf : pelFind id s.1.byId with
  | some _ =>
    obtain ⟨f1, _, f3, f4⟩ := claimOne_frame c true s.1 id
    have hlen := congrArg List.length f3
    rw [List.length_map, List.length_map] at hlen
    exact ⟨agreeCore_claimOne h c true id hc, f4 hc, by rw [f1, hlen]; exact ht⟩
  | none =>
    refine ⟨(agreeCore_addOne h hc (pelFind_none.mp hf)).congr rfl rfl rfl rfl rfl, isSome_consAdjust hc, ?_⟩
    show s.1.totalPending + (s.2 + 1) = (pelInsert ⟨id, c, 1⟩ s.1.byId).length
    rw [length_pelInsert_fresh (pelFind_none.mp hf)]
    exact congrArg (· + 1) ht

theorem foldl_deliverOneFixed_frame (c : Name) (ids : List Id) (s : Group × Nat) :
    (ids.foldl (deliverOneFixed c) s).1.lastDelivered = s.1.lastDelivered ∧
    ∀ e ∈ (ids.foldl (deliverOneFixed c) s).1.byId, e.id ∈ s.1.byId.map (·.id) ∨ e.id ∈ ids := by
  refine List.foldlRecOn ids (deliverOneFixed c)
    (motive := fun r => r.1.lastDelivered = s.1.lastDelivered ∧
      ∀ e ∈ r.1.byId, e.id ∈ s.1.byId.map (fun x : PEntry => x.id) ∨ e.id ∈ ids)
    ⟨rfl, fun e he => Or.inl (List.mem_map_of_mem he)⟩ ?_
  intro r ⟨h1, h2⟩ id hid
  obtain ⟨f1, f2⟩ := deliverOneFixed_frame c r id
  refine ⟨f1.trans h1, fun e he => ?_⟩
  rcases f2 e he with h | h
  · obtain ⟨e', he', hid'⟩ := List.mem_map.mp h
    exact hid' ▸ h2 e' he'
  · exact Or.inr (h ▸ hid)

theorem addPendingFixed_eq (g : Group) (c : Name) (ids : List Id) :
    addPendingFixed g c ids =
      { (ids.foldl (deliverOneFixed c) (createConsumer g c, 0)).1 with
          totalPending := (ids.foldl (deliverOneFixed c) (createConsumer g c, 0)).1.totalPending +
            (ids.foldl (deliverOneFixed c) (createConsumer g c, 0)).2,
          lastDelivered := cursorAfter g.lastDelivered ids } := by
  rw [← show (ids.foldl (deliverOneFixed c) (createConsumer g c, 0)).1.lastDelivered = g.lastDelivered from
    (foldl_deliverOneFixed_frame c ids _).1]
  exact setLast_cursorAfter { (ids.foldl (deliverOneFixed c) (createConsumer g c, 0)).1 with
    totalPending := (ids.foldl (deliverOneFixed c) (createConsumer g c, 0)).1.totalPending +
      (ids.foldl (deliverOneFixed c) (createConsumer g c, 0)).2 } ids

/-- the repaired `add_pending` preserves agreement for every id list: fresh ids, ids pending for anyone, repeats -/
theorem agree_addPendingFixed {g : Group} (h : Agree g) (c : Name) (ids : List Id) :
    Agree (addPendingFixed g c ids) := by
  have ha := List.foldlRecOn ids (deliverOneFixed c) (b := (createConsumer g c, 0))
    (motive := fun r => AgreeCore r.1 ∧ (alGet c r.1.consumers).isSome ∧ r.1.totalPending + r.2 = r.1.byId.length)
    ⟨agreeCore_createConsumer h.toAgreeCore c, alGet_consCreate_self c g.consumers, h.total⟩
    (fun r hr id _ => deliverOneFixed_agree hr.1 hr.2.1 hr.2.2 id)
  rw [addPendingFixed_eq]
  exact ⟨ha.1.congr rfl rfl rfl rfl rfl, ha.2.2⟩

theorem addPendingQ_last (q : Quirks) (g : Group) (c : Name) (ids : List Id) :
    (addPendingQ q g c ids).lastDelivered = cursorAfter g.lastDelivered ids := by
  unfold addPendingQ
  split
  · rw [addPendingFixed_eq]
  · rw [addPending_eq]

theorem addPendingQ_ids (q : Quirks) (g : Group) (c : Name) (ids : List Id) :
    ∀ e ∈ (addPendingQ q g c ids).byId, e.id ∈ g.byId.map (·.id) ∨ e.id ∈ ids := by
  unfold addPendingQ
  split
  · rw [addPendingFixed_eq]; exact (foldl_deliverOneFixed_frame c ids _).2
  · exact addPending_ids g c ids

theorem agree_addPendingQ {q : Quirks} {g : Group} (h : Agree g) (c : Name) {ids : List Id}
    (hq : q.redeliverFix = true ∨ (ids.Nodup ∧ ∀ id ∈ ids, ∀ e ∈ g.byId, e.id ≠ id)) :
    Agree (addPendingQ q g c ids) := by
  unfold addPendingQ
  split
  · exact agree_addPendingFixed h c ids
  · rename_i hn
    exact agree_addPending h c (hq.resolve_left hn).1 (hq.resolve_left hn).2

/-- `g'` comes from `g` by a step that moves no cursor, makes no new id pending and keeps agreement -/
def Quiet (g g' : Group) : Prop :=
  g'.lastDelivered = g.lastDelivered ∧ (∀ e ∈ g'.byId, e.id ∈ g.byId.map (·.id)) ∧ (Agree g → Agree g')

theorem Quiet.refl (g : Group) : Quiet g g := ⟨rfl, fun _ he => List.mem_map_of_mem he, fun h => h⟩

theorem claim_quiet (g : Group) (c : Name) (elig : Bool) (ids : List Id) : Quiet g (claim g c elig ids).1 :=
  ⟨(claim_frame g c elig ids).2.1, fun _ he => (claim_frame g c elig ids).2.2 ▸ List.mem_map_of_mem he,
   fun h => agree_claim h c elig ids⟩

/-- the operations that neither position the group nor deliver: all but SETID and XREADGROUP -/
def GOp.quiet : GOp → Bool
  | .setid _ => false
  | .read _ _ _ _ => false
  | _ => true

theorem gstep_quiet (q : Quirks) (stream : List Id) (g : Group) :
    ∀ {op : GOp}, op.quiet = true → Quiet g (gstep q stream g op).1
  | .createc c, _ => ⟨rfl, fun _ he => List.mem_map_of_mem he, fun h => agree_createConsumer h c⟩
  | .delc c, _ =>
    ⟨deleteConsumer_last g c, fun e he => List.mem_map_of_mem (deleteConsumer_mem g c e he),
     fun h => agree_deleteConsumer h c⟩
  | .ack ids, _ =>
    ⟨ackLoop_last g ids 0,
     fun _ he => List.mem_map_of_mem (List.mem_filter.mp (ackLoop_rows g ids 0 ▸ he)).1,
     fun h => agree_acknowledge h ids⟩
  | .claim c elig ids, _ => claim_quiet g c elig ids
  | .autoclaim c elig _ _, _ => claim_quiet g c elig _
  | .pending, _ => Quiet.refl g
  | .prange _ _ _ _, _ => Quiet.refl g

end Ferrous.Grp
