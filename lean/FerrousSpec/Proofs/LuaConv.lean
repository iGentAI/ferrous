/-
  The two conversions of Model/Lua.lean (property C12): laws of the standard table, the fragment on which the
  code agrees with it, `from_utf8_lossy`.
-/
import FerrousSpec.Model.Lua
namespace Ferrous.Lua
open Ferrous

theorem f64Nat_small (a : Nat) (h : a < two53) : f64Nat a = a := if_pos h

theorem f64Int_small (n : Int) (h : n.natAbs < two53) : f64Int n = n := by
  have e : (if n < 0 then -(n.natAbs : Int) else (n.natAbs : Int)) = n := by split <;> omega
  unfold two53 at h
  rw [f64Int, f64Nat_small _ h, e, satI64, if_neg (by unfold i64Min; omega), if_neg (by unfold i64Max; omega)]

theorem lossyF_ascii (f : Nat) (b : Bytes) (hf : b.length < f) (h : ∀ x ∈ b, x < 128) : lossyF f b = b := by
  induction b generalizing f with
  | nil => cases f <;> simp [lossyF] at hf ⊢
  | cons x t ih =>
    cases f with
    | zero => simp at hf
    | succ f =>
      have hx : x < 128 := h x (by simp)
      simp only [lossyF, hx, if_true]
      rw [ih f (by simp at hf; omega) (fun y hy => h y (by simp [hy]))]

theorem lossy_ascii (b : Bytes) (h : ∀ x ∈ b, x < 128) : lossy b = b :=
  lossyF_ascii _ b (by omega) h

theorem validUtf8_ascii (b : Bytes) (h : ∀ x ∈ b, x < 128) : validUtf8 b = true := by
  simp [validUtf8, lossy_ascii b h]

theorem ls_eq (q : Quirks) (b : Bytes) (h : q.lossyStrings = false ∨ validUtf8 b = true) : q.ls b = b := by
  unfold Quirks.ls
  split
  · next hl => exact h.elim (fun h => by simp [hl] at h) (fun h => by simpa [validUtf8] using h)
  · rfl

theorem map_ls_eq (q : Quirks) (bs : List Bytes) (h : q.lossyStrings = false ∨ bs.all validUtf8 = true) :
    bs.map q.ls = bs := by
  induction bs with
  | nil => rfl
  | cons b t ih =>
    simp only [List.all_cons, Bool.and_eq_true] at h
    rw [List.map_cons, ls_eq q b (h.imp_right (·.1)), ih (h.imp_right (·.2))]

mutual
/-- a RESP2 reply without null arrays whose integers survive a double exactly -/
def specClean : Frame → Bool
  | .simple _ => true
  | .error _ => true
  | .int n => decide (n.natAbs < two53)
  | .bulk _ => true
  | .nullBulk => true
  | .array xs => specCleanList xs
  | _ => false
def specCleanList : List Frame → Bool
  | [] => true
  | f :: fs => specClean f && specCleanList fs
end

theorem spec_respToLua_not_nil (f : Frame) (h : specClean f = true) : (respToLua Quirks.spec f).isNil = false := by
  cases f <;> first | rfl | exact absurd h Bool.false_ne_true

mutual
theorem roundtrip_spec (f : Frame) (h : specClean f = true) :
    luaToResp Quirks.spec (respToLua Quirks.spec f) = f := by
  cases f with
  | int n => simp only [respToLua, luaToResp, f64Int_small n (of_decide_eq_true h)]
  | array xs =>
    have := roundtrip_spec_list xs h
    simp only [respToLua, luaToResp, this]
    rfl
  | simple b => rfl
  | error b => rfl
  | bulk b => rfl
  | nullBulk => rfl
  | _ => exact absurd h Bool.false_ne_true
theorem roundtrip_spec_list (fs : List Frame) (h : specCleanList fs = true) :
    luaToRespList Quirks.spec (respToLuaList Quirks.spec fs) = fs := by
  cases fs with
  | nil => rfl
  | cons f t =>
    simp only [specCleanList, Bool.and_eq_true] at h
    simp only [respToLuaList, luaToRespList, spec_respToLua_not_nil f h.1, roundtrip_spec f h.1,
      roundtrip_spec_list t h.2, Bool.false_eq_true, if_false]
end

/-! Each switch governs one row of a table.  A conversion is the standard one when the switches it reads are all off
(`r2lFixed`, `l2rFixed`), and also, whatever the switches, on an input that uses none of the governed rows
(`agreeR`, `agreeL`). -/

/-- the switches that `respToLua` reads -/
def Quirks.r2lFixed (q : Quirks) : Prop :=
  q.nilBulkIsNil = false ∧ q.statusIsString = false ∧ q.lossyStrings = false

/-- the switches that `luaToResp` reads -/
def Quirks.l2rFixed (q : Quirks) : Prop :=
  q.falseIsZero = false ∧ q.fracIsBulk = false ∧ q.emptyTableIsNil = false ∧ q.okErrTablesIgnored = false

mutual
/-- replies that reach Lua as the standard table prescribes: integers, valid-UTF-8 bulk strings,
    errors, arrays of such (no nil bulk, no status reply, no invalid UTF-8) -/
def agreeR : Frame → Bool
  | .int _ => true
  | .bulk b => validUtf8 b
  | .error _ => true
  | .array xs => agreeRList xs
  | _ => false
def agreeRList : List Frame → Bool
  | [] => true
  | f :: fs => agreeR f && agreeRList fs
end

mutual
theorem respToLua_eq_spec (q : Quirks) (f : Frame) (h : q.r2lFixed ∨ agreeR f = true) :
    respToLua q f = respToLua Quirks.spec f := by
  have off (hf : agreeR f = false) : q.r2lFixed := h.resolve_right (by simp [hf])
  cases f with
  | array xs => simp only [respToLua, respToLuaList_eq_spec q xs h]
  | bulk b => simp only [respToLua, ls_eq q b (h.imp (·.2.2) id)]; rfl
  | simple b => simp only [respToLua, (off rfl).2.1, (off rfl).2.2, Quirks.ls]; rfl
  | nullBulk => simp only [respToLua, (off rfl).1]; rfl
  | nullArray => simp only [respToLua, (off rfl).1]; rfl
  | _ => rfl
theorem respToLuaList_eq_spec (q : Quirks) (fs : List Frame) (h : q.r2lFixed ∨ agreeRList fs = true) :
    respToLuaList q fs = respToLuaList Quirks.spec fs := by
  cases fs with
  | nil => rfl
  | cons f t =>
    simp only [agreeRList, Bool.and_eq_true] at h
    simp only [respToLuaList, respToLua_eq_spec q f (h.imp_right (·.1)), respToLuaList_eq_spec q t (h.imp_right (·.2))]
end

theorem respToLua_fixed (q : Quirks) (h : q.r2lFixed) (f : Frame) : respToLua q f = respToLua Quirks.spec f :=
  respToLua_eq_spec q f (.inl h)

theorem respToLuaList_fixed (q : Quirks) (h : q.r2lFixed) (fs : List Frame) :
    respToLuaList q fs = respToLuaList Quirks.spec fs :=
  respToLuaList_eq_spec q fs (.inl h)

theorem respToLua_agree (q : Quirks) (f : Frame) (h : agreeR f = true) :
    respToLua q f = respToLua Quirks.spec f :=
  respToLua_eq_spec q f (.inr h)

theorem respToLuaList_agree (q : Quirks) (fs : List Frame) (h : agreeRList fs = true) :
    respToLuaList q fs = respToLuaList Quirks.spec fs :=
  respToLuaList_eq_spec q fs (.inr h)

mutual
/-- return values the code converts as the standard table prescribes: nil, `true`, integers,
    integral numbers, strings, and tables whose array part up to the first nil is non-empty and
    consists of such values (no `false`, no fractional number, no empty table, no `{ok=}`/`{err=}`) -/
def agreeL : LuaVal → Bool
  | .nil => true
  | .bool b => b
  | .int _ => true
  | .num n d => numIsInt n d
  | .str _ => true
  | .table xs => !(untilNil xs).isEmpty && agreeLList xs
  | _ => false
/-- only the elements before the first nil matter -/
def agreeLList : List LuaVal → Bool
  | [] => true
  | v :: t => v.isNil || (agreeL v && agreeLList t)
end

theorem luaToRespList_isEmpty (q : Quirks) (vs : List LuaVal) : (luaToRespList q vs).isEmpty = (untilNil vs).isEmpty := by
  cases vs with
  | nil => rfl
  | cons v t => by_cases hv : v.isNil = true <;> simp [luaToRespList, untilNil, hv]

mutual
theorem luaToResp_eq_spec (q : Quirks) (v : LuaVal) (h : q.l2rFixed ∨ agreeL v = true) :
    luaToResp q v = luaToResp Quirks.spec v := by
  have off (hv : agreeL v = false) : q.l2rFixed := h.resolve_right (by simp [hv])
  cases v with
  | table xs =>
    have hx : q.l2rFixed ∨ (untilNil xs).isEmpty = false ∧ agreeLList xs = true :=
      h.imp_right fun h => by simpa only [agreeL, Bool.and_eq_true, Bool.not_eq_true'] using h
    have he : (q.emptyTableIsNil && (luaToRespList Quirks.spec xs).isEmpty) = false := by
      rw [luaToRespList_isEmpty]
      exact hx.elim (fun h => by simp [h.2.2.1]) (fun h => by simp [h.1])
    simp only [luaToResp, luaToRespList_eq_spec q xs (hx.imp_right (·.2)), he]
    rfl
  | bool b =>
    cases b with
    | true => rfl
    | false => simp only [luaToResp, (off rfl).1]; rfl
  | num n d =>
    simp only [luaToResp]
    split
    · rfl
    · next hn => simp only [(off (by simpa [agreeL] using hn)).2.1]; rfl
  | errTable m => simp only [luaToResp, (off rfl).2.2.2]; rfl
  | statusTable m => simp only [luaToResp, (off rfl).2.2.2]; rfl
  | _ => rfl
theorem luaToRespList_eq_spec (q : Quirks) (vs : List LuaVal) (h : q.l2rFixed ∨ agreeLList vs = true) :
    luaToRespList q vs = luaToRespList Quirks.spec vs := by
  cases vs with
  | nil => rfl
  | cons v t =>
    by_cases hv : v.isNil = true
    · simp only [luaToRespList, hv, if_true]
    · simp only [agreeLList, hv, Bool.false_or, Bool.and_eq_true] at h
      simp only [luaToRespList, hv, luaToResp_eq_spec q v (h.imp_right (·.1)), luaToRespList_eq_spec q t (h.imp_right (·.2))]
end

theorem luaToResp_fixed (q : Quirks) (h : q.l2rFixed) (v : LuaVal) : luaToResp q v = luaToResp Quirks.spec v :=
  luaToResp_eq_spec q v (.inl h)

theorem luaToRespList_fixed (q : Quirks) (h : q.l2rFixed) (vs : List LuaVal) :
    luaToRespList q vs = luaToRespList Quirks.spec vs :=
  luaToRespList_eq_spec q vs (.inl h)

theorem luaToResp_agree (q : Quirks) (v : LuaVal) (h : agreeL v = true) :
    luaToResp q v = luaToResp Quirks.spec v :=
  luaToResp_eq_spec q v (.inr h)

theorem luaToRespList_agree (q : Quirks) (vs : List LuaVal) (h : agreeLList vs = true) :
    luaToRespList q vs = luaToRespList Quirks.spec vs :=
  luaToRespList_eq_spec q vs (.inr h)

/-- the reply of a script `return redis.call(cmd)` when the command replied `f` -/
def viaLua (q : Quirks) (f : Frame) : Frame :=
  match respToLua q f with
  | .errTable m => .error m
  | v => luaToResp q v

mutual
/-- replies every variant hands back unchanged from inside an array: integers below 2^53,
    valid-UTF-8 bulk strings, non-empty arrays of such -/
def transparentIn : Frame → Bool
  | .int n => decide (n.natAbs < two53)
  | .bulk b => validUtf8 b
  | .array xs => !xs.isEmpty && transparentList xs
  | _ => false
def transparentList : List Frame → Bool
  | [] => true
  | f :: fs => transparentIn f && transparentList fs
end

/-- … and at top level also any error reply -/
def transparent (f : Frame) : Bool :=
  match f with
  | .error _ => true
  | f => transparentIn f

theorem respToLua_errTable_iff (q : Quirks) (f : Frame) (m : Bytes) :
    respToLua q f = .errTable m ↔ f = .error m := by
  cases f <;> simp [respToLua] <;> split <;> simp

mutual
theorem transparentIn_any (q : Quirks) (f : Frame) (h : transparentIn f = true) :
    luaToResp q (respToLua q f) = f ∧ (respToLua q f).isNil = false := by
  cases f with
  | int n => exact ⟨by simp only [respToLua, luaToResp, f64Int_small n (of_decide_eq_true h)], rfl⟩
  | bulk b => exact ⟨by simp only [respToLua, luaToResp, ls_eq q b (.inr h)], rfl⟩
  | array xs =>
    simp only [transparentIn, Bool.and_eq_true, Bool.not_eq_true'] at h
    have he : xs.isEmpty = false := h.1
    simp only [respToLua, luaToResp, transparentList_any q xs h.2, he, Bool.and_false]
    exact ⟨rfl, rfl⟩
  | _ => exact absurd h Bool.false_ne_true
theorem transparentList_any (q : Quirks) (fs : List Frame) (h : transparentList fs = true) :
    luaToRespList q (respToLuaList q fs) = fs := by
  cases fs with
  | nil => rfl
  | cons f t =>
    simp only [transparentList, Bool.and_eq_true] at h
    have h1 := transparentIn_any q f h.1
    simp only [respToLuaList, luaToRespList, h1.1, h1.2, transparentList_any q t h.2, Bool.false_eq_true, if_false]
end

theorem viaLua_of_ne_error (q : Quirks) (f : Frame) (h : ∀ m, f ≠ .error m) :
    viaLua q f = luaToResp q (respToLua q f) := by
  unfold viaLua
  split
  · next m hm => exact absurd ((respToLua_errTable_iff q f m).1 hm) (h m)
  · rfl

theorem viaLua_transparent (q : Quirks) (f : Frame) (h : transparent f = true) : viaLua q f = f := by
  cases f with
  | error b => rfl
  | _ => exact (viaLua_of_ne_error q _ fun _ => Frame.noConfusion).trans (transparentIn_any q _ h).1

theorem viaLua_spec_clean (f : Frame) (h : specClean f = true) : viaLua Quirks.spec f = f := by
  cases f with
  | error b => rfl
  | _ => exact (viaLua_of_ne_error _ _ fun _ => Frame.noConfusion).trans (roundtrip_spec _ h)

end Ferrous.Lua
