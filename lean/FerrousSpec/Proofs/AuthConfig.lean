/-
  The configuration-file grammar for C17: the sdssplitargs round trip, a well-formed requirepass line under any grammar,
  a requirepass line is never skipped under the prescribed grammar, a password once set stays set.
-/
import FerrousSpec.Model.Auth
namespace Ferrous.Auth
open Ferrous

theorem hexv_hexd : ∀ n, n < 16 → hexv (hexd n) = some n := by decide

/-- the escaped form of one byte inside double quotes -/
def encByte (b : Nat) : Bytes :=
  if 32 ≤ b ∧ b < 127 ∧ b ≠ 34 ∧ b ≠ 92 then [b] else [92, 120, hexd (b / 16), hexd (b % 16)]

theorem dqF_encByte (f : Nat) (acc : Bytes) (b : Nat) (hb : b < 256) (t : Bytes) :
    dqF (f + 1) acc (encByte b ++ t) = dqF f (acc ++ [b]) t := by
  unfold encByte
  split
  · rename_i h
    simp [dqF, h.2.2.1, h.2.2.2]
  · have : b / 16 * 16 + b % 16 = b := by omega
    simp [dqF, hexv_hexd (b / 16) (by omega), hexv_hexd (b % 16) (by omega), this]

theorem dqF_enc (p : Bytes) (hp : ∀ b ∈ p, b < 256) :
    ∀ (acc : Bytes) (f : Nat), (p.flatMap encByte).length + 1 ≤ f →
      dqF f acc (p.flatMap encByte ++ [34]) = some (acc ++ p, []) := by
  induction p with
  | nil =>
    intro acc f hf
    obtain ⟨f, rfl⟩ : ∃ g, f = g + 1 := ⟨f - 1, by omega⟩
    simp [dqF]
  | cons b t ih =>
    intro acc f hf
    have : 0 < (encByte b).length := by unfold encByte; split <;> simp
    rw [List.flatMap_cons, List.length_append] at hf
    obtain ⟨f, rfl⟩ : ∃ g, f = g + 1 := ⟨f - 1, by omega⟩
    rw [List.flatMap_cons, List.append_assoc, dqF_encByte f acc b (hp b (by simp)),
      ih (fun x hx => hp x (by simp [hx])) _ f (by omega)]
    simp

theorem splitArgs_quoteArg (p : Bytes) (hp : ∀ b ∈ p, b < 256) : splitArgs (quoteArg p) = some [p] := by
  have hd : dq [] (p.flatMap encByte ++ [34]) = some (p, []) := by
    simpa [dq] using dqF_enc p hp [] _ (Nat.le_succ _)
  show splitArgsF (((p.flatMap encByte ++ [34]).length + 1) + 1) (34 :: (p.flatMap encByte ++ [34])) = some [p]
  simp [splitArgsF, skipSp, tokU, isSp, hd]

theorem wsLen_plain (b : Nat) (t : Bytes) (h : 32 < b ∧ b < 128) : wsLen (b :: t) = 0 := by
  unfold wsLen
  -- the first six arms start with a byte ≥ 194; the seventh is the single byte, the eighth the empty string
  split
  case h_7 heq => injection heq with hb _; subst hb; exact if_neg (by omega)
  case h_8 => rfl
  all_goals (rename_i heq; injection heq with hb _; omega)

theorem splitFirstWs_word (w : Bytes) (hw : ∀ b ∈ w, 32 < b ∧ b < 128) (sep : Nat) (hsep : sep = 32 ∨ sep = 9)
    (v : Bytes) : splitFirstWs (w ++ sep :: v) = some (w, v) := by
  induction w with
  | nil => rcases hsep with rfl | rfl <;> rfl
  | cons b t ih =>
    have hb := wsLen_plain b (t ++ sep :: v) (hw b (by simp))
    rw [List.cons_append, splitFirstWs, hb, if_neg (Nat.lt_irrefl 0), ih (fun x hx => hw x (by simp [hx]))]
    rfl

theorem splitFirstBlank_word (w : Bytes) (hw : 32 ∉ w) (v : Bytes) : splitFirstBlank (w ++ 32 :: v) = some (w, v) := by
  induction w with
  | nil => rfl
  | cons b t ih =>
    have hb : b ≠ 32 := fun h => hw (by simp [h])
    rw [List.cons_append, splitFirstBlank, if_neg hb, ih (fun h => hw (by simp [h]))]
    rfl

theorem parseLine_requirepass (g : Grammar) (first : Bool) (sep : Nat) (hsep : sep = 32 ∨ g.anyWs = true ∧ sep = 9)
    (v a : Bytes) (h1 : trim (REQUIREPASS ++ sep :: v) = REQUIREPASS ++ sep :: v) (h2 : trim v = v)
    (hq : g.unquote = true → splitArgs v = some [a] ∧ utf8Valid a = true) (hv : g.unquote = false → a = v) :
    Code.parseLine g first (REQUIREPASS ++ sep :: v) = .requirepass a := by
  have hb : (List.take 3 (REQUIREPASS ++ sep :: v) == BOM) = false := by simp [REQUIREPASS, BOM]
  have hcut : (if g.anyWs then splitFirstWs (REQUIREPASS ++ sep :: v) else splitFirstBlank (REQUIREPASS ++ sep :: v))
      = some (REQUIREPASS, v) := by
    cases ha : g.anyWs with
    | true => exact splitFirstWs_word REQUIREPASS (by decide) sep (hsep.imp_right And.right) v
    | false =>
      obtain rfl : sep = 32 := hsep.elim id (fun h => by rw [ha] at h; exact nomatch h.1)
      exact splitFirstBlank_word REQUIREPASS (by decide) v
  have hname : lowerAscii (if g.anyWs then REQUIREPASS else trim REQUIREPASS) = REQUIREPASS := by
    cases g.anyWs <;> decide
  unfold Code.parseLine Code.prepLine
  simp only [hb, Bool.and_false, Bool.false_eq_true, if_false, h1]
  rw [if_neg (by simp [REQUIREPASS]), hcut]
  simp only [hname, if_true, h2]
  cases hu : g.unquote with
  | false => rw [hv hu]; rfl
  | true => simp only [(hq hu).1, (hq hu).2, if_true]

theorem loadFrom_some (g : Grammar) (ls : List Bytes) :
    ∀ (first : Bool) (v : Bytes), Code.loadFrom g first (some v) ls ≠ .running none := by
  induction ls with
  | nil => intro first v; simp [Code.loadFrom]
  | cons l ls ih =>
    intro first v
    unfold Code.loadFrom
    split
    · simp
    · exact ih false _
    · exact ih false v

theorem splitFirstWs_cons_plain (b : Nat) (t p r : Bytes) (hb : 32 < b ∧ b < 128)
    (h : splitFirstWs (b :: t) = some (p, r)) : ∃ p', p = b :: p' := by
  rw [splitFirstWs, wsLen_plain b t hb, if_neg (Nat.lt_irrefl 0)] at h
  cases hs : splitFirstWs t with
  | none => simp [hs] at h
  | some q => simp [hs] at h; exact ⟨_, h.1.symm⟩

theorem spec_line_never_skipped (g : Grammar) (ha : g.anyWs = true) (hbom : g.bom = true)
    (first : Bool) (l : Bytes) (h : looksLikeRequirepass first l = true) :
    Code.parseLine g first l = .error ∨ ∃ v, Code.parseLine g first l = .requirepass v := by
  unfold looksLikeRequirepass at h
  unfold Code.parseLine Code.prepLine
  simp only [ha, hbom, Bool.true_and, if_true] at h ⊢
  generalize trim (if (first && List.take 3 l == BOM) = true then List.drop 3 l else l) = l' at h ⊢
  cases hl : l' with
  | nil => simp [hl, splitFirstWs, lowerAscii, REQUIREPASS] at h
  | cons b t =>
    rw [hl] at h
    by_cases hb : b = 35
    · -- a comment line does not read as a directive: its first word starts with `#`
      subst hb
      cases hs : splitFirstWs (35 :: t) with
      | none => simp [hs, lowerAscii, REQUIREPASS] at h
      | some q =>
        obtain ⟨p', hp⟩ := splitFirstWs_cons_plain 35 t q.1 q.2 (by omega) hs
        simp [hs, hp, lowerAscii, REQUIREPASS] at h
    · rw [if_neg (by simp [hb])]
      cases hs : splitFirstWs (b :: t) with
      | none => exact .inl rfl
      | some q =>
        simp only [hs, beq_iff_eq] at h
        simp only [h, if_true]
        split
        · split
          · split
            · exact .inr ⟨_, rfl⟩
            · exact .inl rfl
          · exact .inl rfl
        · exact .inr ⟨_, rfl⟩

theorem loadFrom_never_open (g : Grammar) (ha : g.anyWs = true) (hbom : g.bom = true) (post : List Bytes) (l : Bytes) (pre : List Bytes) :
    ∀ (first : Bool) (pw : Option Bytes), looksLikeRequirepass (first && pre.isEmpty) l = true →
      Code.loadFrom g first pw (pre ++ l :: post) ≠ .running none := by
  induction pre with
  | nil =>
    intro first pw h
    simp only [List.isEmpty_nil, Bool.and_true] at h
    simp only [List.nil_append, Code.loadFrom]
    rcases spec_line_never_skipped g ha hbom first l h with he | ⟨v, hv⟩
    · rw [he]; simp
    · rw [hv]; exact loadFrom_some _ post false v
  | cons x xs ih =>
    intro first pw h
    simp only [List.isEmpty_cons, Bool.and_false] at h
    simp only [List.cons_append]
    unfold Code.loadFrom
    split
    · simp
    · exact loadFrom_some _ _ false _
    · exact ih false pw (by simpa using h)

end Ferrous.Auth
